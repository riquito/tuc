import Tuc.Model.Stream
import Tuc.Lemmas.Bounds
/-!
# Tuc.Lemmas.StreamOpt — `StreamOpt::try_from` / `ForwardBounds::try_from` of the model in normal form

`streamOptOf` and `forwardBoundsOf` (`Tuc.Model.Stream`) are cascades of tests in the order of the Rust
text.  Here each is one equation — all tests, then the construction — from which the facts about them
(what an accepted `Opt` looks like, when one is accepted) are read off without walking the cascade again
(`streamOptOf_facts`, `forwardBoundsOf_facts` in `Lemmas/Total`).  The normal forms are `Tuc.OptLit.*`
(`Props/OptLit` and `Model/OptLit` are other files); the three facts after them (`lastBoundRight_isSome`,
`forwardBoundsOf_last`, `streamOptOf_isSome`) are plain `Tuc.*`.
-/
namespace Tuc
namespace OptLit

/-- `replace_delimiter` is absent or one byte wide (the negation of stream.rs:131) -/
def replOneByte : Option Bytes → Bool
  | Option.none => true
  | Option.some r => r.length == 1

/-- the tests of stream.rs:122-137 pass -/
def streamFlagsOk (o : Opt) : Bool :=
  o.delimiter.length == 1 &&
  !(o.complement || o.greedyDelimiter || o.compressDelimiter || o.json || o.boundsType != .fields) &&
  replOneByte o.replaceDelimiter &&
  !(o.trim.isSome || o.regexBag.isSome || o.onlyDelimited)

/-- the model's record for a list of bounds and the `r` of its last bound -/
def streamModel (o : Opt) (bounds : List BoF) (last : Side) : StreamOpt :=
  { delimiter := o.delimiter.headD 0, replaceDelimiter := o.replaceDelimiter.map (·.headD 0),
    join := o.join, eol := o.eol, fallbackOob := o.fallbackOob, bounds := bounds,
    lastInterestingField := last }

theorem forwardBoundsOf_nf (l : UserBoundsList) :
    forwardBoundsOf l =
      if l.list.isEmpty = false ∧ isForwardOnly l.list = true ∧ noSharedField 0 (boundsOnly l.list) = true then
        (fromVec l.list).toOption.map (·.list)
      else Option.none := by
  unfold forwardBoundsOf
  cases l.list.isEmpty <;> cases isForwardOnly l.list <;> cases noSharedField 0 (boundsOnly l.list) <;> try rfl
  cases fromVec l.list <;> rfl

theorem streamOptOf_nf (o : Opt) :
    streamOptOf o =
      if streamFlagsOk o then
        (forwardBoundsOf o.bounds).bind fun bs =>
          (lastBoundRight (boundsOnly bs)).map fun last => streamModel o bs last
      else Option.none := by
  unfold streamOptOf streamFlagsOk streamModel
  generalize (o.complement || o.greedyDelimiter || o.compressDelimiter || o.json
    || o.boundsType != .fields) = A
  simp only [Bool.or_assoc]
  generalize (o.trim.isSome || (o.regexBag.isSome || o.onlyDelimited)) = T
  rcases o.delimiter with _ | ⟨d, _ | ⟨d', t⟩⟩
  · rfl
  · -- a test that fails makes both sides `none`
    rcases o.replaceDelimiter with _ | ⟨_ | ⟨r, _ | ⟨r', rt⟩⟩⟩ <;> cases A <;> cases T <;> try rfl
    all_goals
      cases forwardBoundsOf o.bounds with
      | none => rfl
      | some bs =>
        simp only [Option.bind_some]
        cases lastBoundRight (boundsOnly bs) <;> rfl
  · rfl

theorem streamOptOf_eq_some_iff (o : Opt) (so : StreamOpt) :
    streamOptOf o = some so ↔ streamFlagsOk o = true ∧ ∃ bs last, forwardBoundsOf o.bounds = some bs ∧
      lastBoundRight (boundsOnly bs) = some last ∧ streamModel o bs last = so := by
  rw [streamOptOf_nf]
  cases streamFlagsOk o with
  | false => simp
  | true => simp [Option.bind_eq_some_iff]

end OptLit
open OptLit

theorem lastBoundRight_isSome (l : List UserBounds) (h : l.isEmpty = false) : (lastBoundRight l).isSome = true := by
  induction l with
  | nil => cases h
  | cons b t ih =>
    cases t with
    | nil => rfl
    | cons c t' => simpa [lastBoundRight] using ih rfl

theorem forwardBoundsOf_last (l : UserBoundsList) (bs : List BoF) (h : forwardBoundsOf l = some bs) :
    (lastBoundRight (boundsOnly bs)).isSome = true := by
  rw [forwardBoundsOf_nf] at h
  split at h
  · unfold fromVec at h
    cases hm : markLast l.list with
    | none => rw [hm] at h; cases h
    | some l' =>
      rw [hm] at h
      cases h
      obtain ⟨a, b, f, -, -, rfl⟩ := markLast_eq_some hm
      exact lastBoundRight_isSome _ (by simp [boundsOnly_append, boundsOnly])
  · cases h

theorem streamOptOf_isSome (o : Opt) :
    (streamOptOf o).isSome = (streamFlagsOk o && (forwardBoundsOf o.bounds).isSome) := by
  rw [streamOptOf_nf]
  cases streamFlagsOk o with
  | false => rfl
  | true =>
    cases h : forwardBoundsOf o.bounds with
    | none => rfl
    | some bs =>
      obtain ⟨last, hl⟩ := Option.isSome_iff_exists.mp (forwardBoundsOf_last _ _ h)
      simp [hl]

end Tuc
