import Tuc.Lemmas.RegexSpec
/-!
# Tuc.Lemmas.MainLevel — the regex bag that `parse_args` compiles

`Re.bag_ok` for `Tuc.Props.MainLevel`, under the namespace `Tuc.MainLevel`: the same statement as
`Tuc.Re.bag_ok` of `Tuc.Lemmas.RegexSpec`.  `StrictMatches`, `StrictMatches.sorted` and `Re.bag_strict`
repeat RegexSpec's for a copy of the predicate in this namespace (`strictMatches_iff`).
-/

namespace Tuc.MainLevel
open Tuc

/-- the contract of `find_iter` for an expression that does not match the empty string: the
    matches are reported in order, do not overlap, lie within the haystack and are never empty -/
def StrictMatches (n : Nat) : Nat → List (Nat × Nat) → Prop
  | _, [] => True
  | lo, (s, e) :: t => lo ≤ s ∧ s < e ∧ e ≤ n ∧ StrictMatches n e t

theorem strictMatches_iff {n : Nat} : ∀ {ms : List (Nat × Nat)} {lo : Nat},
    StrictMatches n lo ms ↔ Tuc.StrictMatches n lo ms
  | [], _ => Iff.rfl
  | (_, _) :: _, _ => and_congr_right' (and_congr_right' (and_congr_right' strictMatches_iff))

theorem StrictMatches.sorted {n : Nat} : ∀ {ms : List (Nat × Nat)} {lo : Nat},
    StrictMatches n lo ms → SortedMatches n lo ms :=
  fun h => (strictMatches_iff.mp h).sorted

theorem Re.bag_strict (r : Re) (line : Bytes) :
    StrictMatches line.length 0 ((Re.bag r).normal line) ∧
      StrictMatches line.length 0 ((Re.bag r).greedy line) :=
  ⟨strictMatches_iff.mpr (Tuc.Re.findIter_ok r line),
    strictMatches_iff.mpr (Tuc.Re.findIter_ok (.plus r) line)⟩

/-- the bag `parse_args` builds (`RE`, `(RE)+`) satisfies the hypothesis of every theorem about the
    regex branches of `cut_str` -/
theorem Re.bag_ok (r : Re) : (Re.bag r).OK := Tuc.Re.bag_ok r
end Tuc.MainLevel
