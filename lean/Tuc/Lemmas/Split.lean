import Tuc.Model.Text
import Tuc.Spec.Record
/-!
# Tuc.Lemmas.Split — the splitter refinement (property C01)

The code computes byte *offsets* (`findIter`, `rangesBetween`, `fillWithFieldsLocations`), the
specification computes field *contents* (`Spec.splitFields`).  The two meet in ONE description of a
line cut at the occurrences of a non-empty delimiter `d` (self-overlapping ones included): a list
`fs` of fields that can be split again (`FieldsOK`) with `line = joinWith d fs` — `splitFields` and
`joinWith` are inverse to each other between lines and such lists (`splitFields_spec`,
`splitFields_joinWith`).  What the offset scanner does on such a text is read off `fs`
(`findIterAux_field`, `findIterAux_noOcc`), and so are, by induction on `fs`, the ranges of the plain
and the greedy splitter (`GSep`: ranges and tokens; `Tiling`, `Consecutive` are readings of it), the
loop of `-p` and the text of `-r`.  The statements to build on are those about `GSep` (`plain_fields_gsep`,
`greedy_fields_tiling`); `fields_are_contents`, `fields_wellformed`, `slice_eq_interleave`, `fields_separated`
and their greedy counterparts say the same in the words of property C01, by index.
-/

namespace Tuc
open Tuc.Spec

theorem drop_eq_cons {α : Type} {l : List α} {i : Nat} {a : α} {t : List α} (h : l.drop i = a :: t) :
    l[i]? = some a ∧ l.drop (i + 1) = t := by
  constructor
  · have := congrArg List.head? h
    simpa [List.head?_drop] using this
  · have := congrArg List.tail h
    simpa [List.tail_drop] using this

theorem slice_self {α : Type} (l : List α) (s : Nat) : slice l s s = [] := by
  simp [slice]

theorem slice_map {α β : Type} (f : α → β) (l : List α) (s e : Nat) :
    slice (l.map f) s e = (slice l s e).map f := by
  unfold slice
  rw [List.map_take, List.map_drop]

theorem slice_append_slice {α : Type} (l : List α) {s m e : Nat} (h1 : s ≤ m) (h2 : m ≤ e) :
    slice l s m ++ slice l m e = slice l s e := by
  unfold slice
  rw [← Nat.sub_add_sub_cancel h2 h1, Nat.add_comm (e - m), List.take_add, List.drop_drop,
    Nat.add_sub_of_le h1]

theorem slice_length {α : Type} (l : List α) (s e : Nat) :
    (slice l s e).length = min (e - s) (l.length - s) := by
  simp [slice]

theorem slice_to_end {α : Type} (l : List α) (s : Nat) : slice l s l.length = l.drop s := by
  unfold slice
  exact List.take_of_length_le (by simp)

theorem slice_cons_of_drop {α : Type} {ls : List α} {i hi : Nat} {x : α} {t : List α}
    (hd : ls.drop i = x :: t) (h : i < hi) : slice ls i hi = x :: slice ls (i + 1) hi := by
  unfold slice
  rw [hd, (drop_eq_cons hd).2, ← Nat.sub_add_cancel (Nat.sub_pos_of_lt h), ← Nat.sub_add_eq,
    List.take_succ_cons]

theorem slice_eq_nil_of_le {α : Type} (ls : List α) {i hi : Nat} (h : hi ≤ i) :
    slice ls i hi = [] := by
  unfold slice
  rw [Nat.sub_eq_zero_of_le h, List.take_zero]

theorem slice_eq_nil_of_length_le {α : Type} (ls : List α) {i : Nat} (hi : Nat)
    (h : ls.length ≤ i) : slice ls i hi = [] := by
  unfold slice
  rw [List.drop_eq_nil_of_le h, List.take_nil]

theorem take_drop_eq_slice {α : Type} (l : List α) (x y : Nat) :
    (l.take y).drop x = slice l x y := by
  unfold slice
  rw [List.drop_take]

theorem slice_take {α : Type} (l : List α) (x y B : Nat) (h : y ≤ B) :
    slice (l.take B) x y = slice l x y := by
  unfold slice
  rw [List.drop_take, List.take_take]
  congr 1
  omega

theorem slice_max {α : Type} (line : List α) (l s : Nat) :
    slice line l (max s l) = (line.take s).drop l := by
  unfold slice
  rw [List.drop_take]
  rcases Nat.le_total s l with h | h
  · rw [Nat.max_eq_right h, Nat.sub_self, Nat.sub_eq_zero_of_le h]
  · rw [Nat.max_eq_left h]

theorem slice_to_length {α : Type} (line : List α) (l : Nat) :
    slice line l line.length = (line.take line.length).drop l :=
  (take_drop_eq_slice line l line.length).symm

theorem slice_take_sub {α : Type} (l : List α) (s k : Nat) {e : Nat} (he : e ≤ l.length) :
    (slice l s e).take ((slice l s e).length - k) = slice l s (e - k) := by
  rw [slice_length, Nat.min_eq_left (Nat.sub_le_sub_right he s)]
  unfold slice
  rw [List.take_take, Nat.min_eq_left (Nat.sub_le _ _), Nat.sub_right_comm]

theorem take_split {α : Type} (l : List α) {s e : Nat} (h : s ≤ e) :
    l.take e = l.take s ++ (l.drop s).take (e - s) := by
  rw [← List.take_add, Nat.add_sub_of_le h]

theorem slice_append_mid {α : Type} (a b c : List α) :
    slice (a ++ b ++ c) a.length (a.length + b.length) = b := by
  simp [slice]

theorem slice_pre_field {α : Type} (pre f rest : List α) :
    slice (pre ++ (f ++ rest)) pre.length (pre.length + f.length) = f := by
  rw [← List.append_assoc]
  exact slice_append_mid pre f rest

/-- `f₀ ++ d ++ f₁ ++ d ++ … ++ fₙ` (`Spec.joinWith` in `Tuc.Spec.Json` is this body again) -/
def joinWith (d : Bytes) : List Bytes → Bytes
  | [] => []
  | [f] => f
  | f :: g :: t => f ++ d ++ joinWith d (g :: t)

theorem joinWith_cons_cons (d f g : Bytes) (t : List Bytes) :
    joinWith d (f :: g :: t) = f ++ d ++ joinWith d (g :: t) := rfl

theorem joinWith_cons_of_ne_nil (d f : Bytes) (t : List Bytes) (h : t ≠ []) :
    joinWith d (f :: t) = f ++ d ++ joinWith d t := by
  cases t with
  | nil => exact absurd rfl h
  | cons g t => rfl

theorem joinWith_eq_intercalate (d : Bytes) (fs : List Bytes) :
    joinWith d fs = List.intercalate d fs := by
  induction fs with
  | nil => simp [joinWith, List.intercalate]
  | cons f t ih =>
    cases t with
    | nil => simp [joinWith, List.intercalate]
    | cons g t =>
      rw [joinWith_cons_cons, ih]
      simp [List.intercalate, List.intersperse, List.append_assoc]

theorem joinWith_cons (d f : Bytes) (t : List Bytes) :
    joinWith d (f :: t) = f ++ t.flatMap (fun g => d ++ g) := by
  induction t generalizing f with
  | nil => simp [joinWith]
  | cons g t ih => rw [joinWith_cons_cons, ih g]; simp [List.append_assoc]

theorem isEmpty_eq_false_of_ne_nil {d : Bytes} (hd : d ≠ []) : d.isEmpty = false := by
  cases d with
  | nil => exact absurd rfl hd
  | cons _ _ => rfl

theorem length_pos_of_ne_nil {d : Bytes} (hd : d ≠ []) : 0 < d.length := by
  cases d with
  | nil => exact absurd rfl hd
  | cons _ _ => simp

abbrev contents (line : Bytes) (rs : List Range) : List Bytes :=
  rs.map fun r => slice line r.start r.stop

theorem splitAux_ne_nil (d : Bytes) : ∀ (l : Bytes) (skip : Nat) (cur : Bytes), splitAux d skip cur l ≠ []
  | [], _, _ => by simp [splitAux]
  | _ :: t, skip + 1, cur => by simp only [splitAux]; exact splitAux_ne_nil d t skip cur
  | c :: t, 0, cur => by
    simp only [splitAux]
    split
    · simp
    · exact splitAux_ne_nil d t 0 _

theorem splitFields_ne_nil (d line : Bytes) : splitFields d line ≠ [] := splitAux_ne_nil d line 0 []

theorem splitAux_cur (d : Bytes) :
    ∀ (l cur : Bytes), splitAux d 0 cur l = (splitAux d 0 [] l).modifyHead (cur ++ ·) := by
  intro l
  induction l with
  | nil => intro cur; simp [splitAux]
  | cons c t ih =>
    intro cur
    simp only [splitAux]
    by_cases hp : d.isPrefixOf (c :: t) = true
    · rw [if_pos hp, if_pos hp]; simp
    · rw [if_neg hp, if_neg hp, ih (cur ++ [c]), ih ([] ++ [c]), List.modifyHead_modifyHead]
      congr 1
      funext x
      simp

theorem splitAux_skip (d : Bytes) :
    ∀ (l : Bytes) (k : Nat), k ≤ l.length → splitAux d k [] l = splitAux d 0 [] (l.drop k) := by
  intro l
  induction l with
  | nil => intro k hk; simp at hk; subst hk; rfl
  | cons c t ih =>
    intro k hk
    cases k with
    | zero => rfl
    | succ k' =>
      simp only [splitAux, List.drop_succ_cons]
      exact ih k' (by simp at hk; omega)

theorem splitFields_of_prefix (d l : Bytes) (hd : d ≠ []) (h : d <+: l) :
    splitFields d l = [] :: splitFields d (l.drop d.length) := by
  have hdpos := length_pos_of_ne_nil hd
  have hlen := h.length_le
  cases l with
  | nil =>
    have : d.length ≤ 0 := hlen
    omega
  | cons c t =>
    have hp : d.isPrefixOf (c :: t) = true := List.isPrefixOf_iff_prefix.mpr h
    unfold splitFields
    simp only [splitAux]
    rw [if_pos hp, splitAux_skip d t (d.length - 1) (by simp at hlen; omega)]
    congr 2
    have : d.length = (d.length - 1) + 1 := by omega
    rw [this, List.drop_succ_cons]
    simp

theorem splitFields_cons_of_not_prefix (d : Bytes) (c : UInt8) (t : Bytes) (h : ¬ d <+: c :: t) :
    splitFields d (c :: t) = (splitFields d t).modifyHead (c :: ·) := by
  have hp : ¬ d.isPrefixOf (c :: t) = true := fun hp => h (List.isPrefixOf_iff_prefix.mp hp)
  unfold splitFields
  simp only [splitAux]
  rw [if_neg hp, splitAux_cur d t ([] ++ [c])]
  congr 1

/-- `f` can be a field that is followed by a delimiter: no occurrence starts inside `f`, even
    one that would run into the delimiter that follows -/
def Field (d : Bytes) : Bytes → Prop
  | [] => True
  | c :: f => ¬ d <+: (c :: f ++ d) ∧ Field d f

/-- `f` can be the last field: it contains no occurrence -/
def NoOcc (d : Bytes) : Bytes → Prop
  | [] => True
  | c :: f => ¬ d <+: (c :: f) ∧ NoOcc d f

theorem Field.noOcc {d : Bytes} : ∀ {f : Bytes}, Field d f → NoOcc d f
  | [], _ => trivial
  | c :: f, h => ⟨fun hp => h.1 (hp.trans (List.prefix_append (c :: f) d)), Field.noOcc h.2⟩

theorem field_of_ne (e : UInt8) : ∀ f : Bytes, (∀ c ∈ f, c ≠ e) → Field [e] f
  | [], _ => trivial
  | c :: f, h =>
    ⟨fun hp => (List.forall_mem_cons.1 h).1 (by
        obtain ⟨t, ht⟩ := hp
        exact (List.cons.inj ht).1.symm),
      field_of_ne e f (List.forall_mem_cons.1 h).2⟩

theorem Field.not_prefix {d : Bytes} {c : UInt8} {f : Bytes} (h : Field d (c :: f)) (rest : Bytes) :
    ¬ d <+: c :: (f ++ d ++ rest) := fun hp =>
  h.1 (List.prefix_of_prefix_length_le hp ⟨rest, by simp⟩ (by simp; omega))

theorem splitFields_field_append (d : Bytes) (hd : d ≠ []) :
    ∀ (f rest : Bytes), Field d f → splitFields d (f ++ d ++ rest) = f :: splitFields d rest
  | [], rest, _ => by
    rw [List.nil_append, splitFields_of_prefix d _ hd (List.prefix_append d rest),
      List.drop_left' rfl]
  | c :: f, rest, h => by
    show splitFields d (c :: (f ++ d ++ rest)) = _
    rw [splitFields_cons_of_not_prefix d c _ (h.not_prefix rest),
      splitFields_field_append d hd f rest h.2]
    rfl

theorem splitFields_noOcc (d : Bytes) : ∀ (f : Bytes), NoOcc d f → splitFields d f = [f]
  | [], _ => rfl
  | c :: f, h => by
    rw [splitFields_cons_of_not_prefix d c f h.1, splitFields_noOcc d f h.2]
    rfl

/-- a list of fields: every one but the last can be followed by a delimiter, the last has no
    occurrence -/
def FieldsOK (d : Bytes) : List Bytes → Prop
  | [] => True
  | [f] => NoOcc d f
  | f :: g :: t => Field d f ∧ FieldsOK d (g :: t)

theorem FieldsOK.tail {d f : Bytes} {t : List Bytes} (h : FieldsOK d (f :: t)) : FieldsOK d t := by
  cases t with
  | nil => trivial
  | cons g t' => exact h.2

theorem FieldsOK.cons {d f : Bytes} {t : List Bytes} (hf : Field d f) (ht : FieldsOK d t) :
    FieldsOK d (f :: t) := by
  cases t with
  | nil => exact hf.noOcc
  | cons g t' => exact ⟨hf, ht⟩

theorem FieldsOK.head {d f : Bytes} {t : List Bytes} (h : FieldsOK d (f :: t)) (ht : t ≠ []) :
    Field d f := by
  cases t with
  | nil => exact absurd rfl ht
  | cons g t' => exact h.1

/-- **every line is the join of fields that can be split again** (C01, reconstruction, and what makes
    `-p` and `-r` agree with the specification) -/
theorem splitFields_spec (d line : Bytes) (hd : d ≠ []) :
    FieldsOK d (splitFields d line) ∧ joinWith d (splitFields d line) = line := by
  match line with
  | [] => exact ⟨trivial, rfl⟩
  | c :: t =>
    by_cases hp : d <+: c :: t
    · obtain ⟨ih1, ih2⟩ := splitFields_spec d ((c :: t).drop d.length) hd
      rw [splitFields_of_prefix d _ hd hp]
      refine ⟨FieldsOK.cons trivial ih1, ?_⟩
      rw [joinWith_cons_of_ne_nil _ _ _ (splitFields_ne_nil _ _), ih2, List.nil_append]
      exact (List.prefix_iff_eq_append.1 hp).symm ▸ rfl
    · obtain ⟨ih1, ih2⟩ := splitFields_spec d t hd
      rw [splitFields_cons_of_not_prefix d c t hp]
      cases hs : splitFields d t with
      | nil => exact absurd hs (splitFields_ne_nil d t)
      | cons h0 more =>
        rw [hs] at ih1 ih2
        have hj : joinWith d ((c :: h0) :: more) = c :: t := by
          rw [← ih2]; cases more <;> rfl
        refine ⟨?_, hj⟩
        cases more with
        | nil => exact ⟨by rw [show h0 = t from ih2]; exact hp, ih1⟩
        | cons g t' =>
          refine ⟨⟨fun hp' => hp ?_, ih1.1⟩, ih1.2⟩
          rw [← ih2, joinWith_cons_cons]
          exact hp'.trans ⟨joinWith d (g :: t'), by simp⟩
termination_by line.length
decreasing_by all_goals (have := length_pos_of_ne_nil hd; simp <;> omega)

theorem splitFields_ok (d line : Bytes) (hd : d ≠ []) : FieldsOK d (splitFields d line) :=
  (splitFields_spec d line hd).1

/-- **C01, reconstruction.** Joining the fields with the delimiter gives the line back. -/
theorem fields_reconstruct (d line : Bytes) (hd : d ≠ []) :
    joinWith d (splitFields d line) = line :=
  (splitFields_spec d line hd).2

theorem splitFields_joinWith (d : Bytes) (hd : d ≠ []) :
    ∀ (fs : List Bytes), fs ≠ [] → FieldsOK d fs → splitFields d (joinWith d fs) = fs
  | [], h, _ => absurd rfl h
  | [f], _, h => splitFields_noOcc d f h
  | f :: g :: t, _, h => by
    rw [joinWith_cons_cons, splitFields_field_append d hd f _ h.1,
      splitFields_joinWith d hd (g :: t) (by simp) h.2]

theorem TextLoops.findIterAux_skip (d : Bytes) :
    ∀ (l : Bytes) (skip pos : Nat), skip ≤ l.length →
      findIterAux d skip pos l = findIterAux d 0 (pos + skip) (l.drop skip) := by
  intro l
  induction l with
  | nil =>
    intro skip pos h
    have : skip = 0 := by simpa using h
    subst this; rfl
  | cons c t ih =>
    intro skip pos h
    cases skip with
    | zero => rfl
    | succ k =>
      simp only [findIterAux, List.drop_succ_cons]
      rw [ih k (pos + 1) (by simpa using h)]
      have : pos + 1 + k = pos + (k + 1) := by omega
      rw [this]

theorem findIterAux_of_prefix (d l : Bytes) (hd : d ≠ []) (h : d <+: l) (pos : Nat) :
    findIterAux d 0 pos l = pos :: findIterAux d 0 (pos + d.length) (l.drop d.length) := by
  have hdpos := length_pos_of_ne_nil hd
  have hlen := h.length_le
  cases l with
  | nil => exact absurd hlen (by simp; omega)
  | cons c t =>
    rw [findIterAux, if_pos (List.isPrefixOf_iff_prefix.mpr h),
      TextLoops.findIterAux_skip d t _ _ (by simp at hlen; omega)]
    obtain ⟨n, hn⟩ := Nat.exists_eq_succ_of_ne_zero (Nat.ne_of_gt hdpos)
    rw [hn, Nat.succ_sub_one, List.drop_succ_cons, Nat.add_assoc, Nat.add_comm 1]

theorem findIterAux_field (d : Bytes) (hd : d ≠ []) (rest : Bytes) : ∀ (f : Bytes) (pos : Nat), Field d f →
    findIterAux d 0 pos (f ++ d ++ rest) =
      (pos + f.length) :: findIterAux d 0 (pos + f.length + d.length) rest
  | [], pos, _ => by
    rw [List.nil_append, findIterAux_of_prefix d _ hd (List.prefix_append d rest), List.drop_left' rfl]
    rfl
  | c :: f, pos, h => by
    have hnp : ¬ d.isPrefixOf (c :: (f ++ d ++ rest)) = true :=
      fun hp => Field.not_prefix h rest (List.isPrefixOf_iff_prefix.mp hp)
    show findIterAux d 0 pos (c :: (f ++ d ++ rest)) = _
    rw [findIterAux, if_neg hnp, findIterAux_field d hd rest f (pos + 1) h.2, List.length_cons]
    simp only [Nat.add_assoc, Nat.add_comm 1]

theorem findIterAux_noOcc (d : Bytes) (hd : d ≠ []) : ∀ (f : Bytes) (pos : Nat), NoOcc d f →
    findIterAux d 0 pos f = []
  | [], _, _ => by rw [findIterAux, isEmpty_eq_false_of_ne_nil hd]; rfl
  | c :: f, pos, h => by
    rw [findIterAux, if_neg fun hp => h.1 (List.isPrefixOf_iff_prefix.mp hp),
      findIterAux_noOcc d hd f (pos + 1) h.2]

/-- The ranges tile `line` from `s` on: the first starts at `s`, each is a valid range, between
    two neighbours there is exactly one occurrence of `d`, the last stops at the end. -/
def Tiling (d line : Bytes) : Nat → List Range → Prop
  | _, [] => False
  | s, [r] => r.start = s ∧ s ≤ r.stop ∧ r.stop = line.length
  | s, r :: r' :: t =>
    r.start = s ∧ s ≤ r.stop ∧ d <+: line.drop r.stop ∧ Tiling d line (r.stop + d.length) (r' :: t)

/-- The arithmetic part of `Tiling`, as the Rust slicing needs it:
    `start = r₀.start ≤ r₀.stop`, `rᵢ.stop + dlen = rᵢ₊₁.start ≤ rᵢ₊₁.stop`, last `stop = lineLen`. -/
def Consecutive (dlen lineLen : Nat) : Nat → List Range → Prop
  | _, [] => False
  | s, [r] => r.start = s ∧ s ≤ r.stop ∧ r.stop = lineLen
  | s, r :: r' :: t => r.start = s ∧ s ≤ r.stop ∧ Consecutive dlen lineLen (r.stop + dlen) (r' :: t)

theorem Tiling.consecutive {d line : Bytes} :
    ∀ {s : Nat} {rs : List Range}, Tiling d line s rs → Consecutive d.length line.length s rs
  | _, [], h => h
  | _, [_], h => h
  | _, _ :: r' :: t, h => ⟨h.1, h.2.1, Tiling.consecutive (rs := r' :: t) h.2.2.2⟩

theorem rangesBetween_ne_nil (dlen lineLen prev : Nat) (ms : List Nat) :
    rangesBetween dlen lineLen prev ms ≠ [] := by
  cases ms <;> simp [rangesBetween]

theorem Consecutive.succ_start {dlen n : Nat} :
    ∀ {rs : List Range} {s : Nat}, Consecutive dlen n s rs → ∀ (i : Nat) (hi : i + 1 < rs.length),
      rs[i].stop + dlen = rs[i + 1].start
  | [], _, h, _, _ => h.elim
  | [_], _, _, _, hi => by simp at hi
  | r :: r' :: t, _, h, i, hi => by
    obtain ⟨_, _, h3⟩ := h
    cases i with
    | zero =>
      show r.stop + dlen = r'.start
      match t, h3 with
      | [], h3 => exact h3.1.symm
      | _ :: _, h3 => exact h3.1.symm
    | succ j =>
      have := Consecutive.succ_start h3 j (by simpa using hi)
      simpa using this

theorem repeatBytes_succ' (d : Bytes) (k : Nat) : repeatBytes d k ++ d = repeatBytes d (k + 1) := by
  induction k with
  | zero => simp [repeatBytes]
  | succ k ih =>
    show d ++ repeatBytes d k ++ d = d ++ repeatBytes d (k + 1)
    rw [List.append_assoc, ih]

theorem repeatBytes_one (d : Bytes) : repeatBytes d 1 = d := by simp [repeatBytes]

/-! What the output loop needs — ranges in order and inside the line, the text between two of them — is
proved of `GSep` once; the plain ranges (every run is one occurrence), the greedy ones and the
characters of `-c` (empty runs: `rangesOfChars_gsep` in `Tuc.Props.C07Spec`) are its instances. -/

/-- After a range that stopped at `e`, the line consists, for each `(k, f)` of `ms`, of `k`
    copies of the delimiter followed by `f`, and `gs` are the positions of those `f`s.  The
    last one stops at the end of the line. -/
def GSep (d line : Bytes) : Nat → List Range → List (Nat × Bytes) → Prop
  | e, [], [] => e = line.length
  | e, r :: t, (k, f) :: ms =>
    r.start = e + k * d.length ∧ slice line e r.start = repeatBytes d k ∧ r.start ≤ r.stop ∧
      slice line r.start r.stop = f ∧ GSep d line r.stop t ms
  | _, _ :: _, [] => False
  | _, [], _ :: _ => False

theorem GSep.le_length {d line : Bytes} :
    ∀ {gs : List Range} {ms : List (Nat × Bytes)} {e : Nat}, GSep d line e gs ms → e ≤ line.length
  | [], [], _, h => Nat.le_of_eq h
  | _ :: _, [], _, h => h.elim
  | [], _ :: _, _, h => h.elim
  | _ :: _, _ :: _, e, ⟨h1, _, h3, _, h5⟩ =>
    Nat.le_trans (h1 ▸ Nat.le_add_right e _) (Nat.le_trans h3 (GSep.le_length h5))

theorem GSep.contents_eq {d line : Bytes} :
    ∀ {gs : List Range} {ms : List (Nat × Bytes)} {e : Nat}, GSep d line e gs ms →
      contents line gs = ms.map (·.2)
  | [], [], _, _ => rfl
  | _ :: _, [], _, h => h.elim
  | [], _ :: _, _, h => h.elim
  | r :: t, (k, f) :: ms, _, ⟨_, _, _, h4, h5⟩ => by
    simp only [contents, List.map_cons, h4]
    exact congrArg _ (GSep.contents_eq h5)

theorem GSep.length_eq {d line : Bytes} {gs : List Range} {ms : List (Nat × Bytes)} {e : Nat}
    (h : GSep d line e gs ms) : gs.length = ms.length := by
  simpa using congrArg List.length h.contents_eq

abbrev sepField (d : Bytes) : Nat × Bytes → Bytes := fun (k, g) => repeatBytes d k ++ g

theorem GSep.prefix {d line : Bytes} :
    ∀ {gs : List Range} {ms : List (Nat × Bytes)} {e : Nat}, GSep d line e gs ms →
      ∀ (j : Nat) (hj : j < gs.length), e ≤ gs[j].stop ∧ gs[j].stop ≤ line.length ∧
        slice line e gs[j].stop = (ms.take (j + 1)).flatMap (sepField d)
  | [], _, _, _, _, hj => absurd hj (Nat.not_lt_zero _)
  | _ :: _, [], _, h, _, _ => h.elim
  | r :: t, (k, f) :: ms, e, ⟨h1, h2, h3, h4, h5⟩, j, hj => by
    have he : e ≤ r.start := h1 ▸ Nat.le_add_right e _
    have hfirst : slice line e r.stop = repeatBytes d k ++ f := by
      rw [← slice_append_slice line he h3, h2, h4]
    cases j with
    | zero => exact ⟨Nat.le_trans he h3, h5.le_length, by simpa [sepField] using hfirst⟩
    | succ j' =>
      obtain ⟨ih1, ih2, ih3⟩ := GSep.prefix h5 j' (Nat.lt_of_succ_lt_succ hj)
      simp only [List.getElem_cons_succ, List.take_succ_cons, List.flatMap_cons]
      exact ⟨Nat.le_trans (Nat.le_trans he h3) ih1, ih2,
        by rw [← ih3, ← slice_append_slice line (Nat.le_trans he h3) ih1, hfirst]⟩

/-- the first two parts are what the Rust slicing `line[fields[a].start..fields[b].end]` needs -/
theorem GSep.range {d line : Bytes} :
    ∀ {gs : List Range} {ms : List (Nat × Bytes)} {e : Nat}, GSep d line e gs ms →
      ∀ (a b : Nat) (hab : a ≤ b) (hb : b < gs.length),
        (gs[a]'(by omega)).start ≤ gs[b].stop ∧ gs[b].stop ≤ line.length ∧
          slice line (gs[a]'(by omega)).start gs[b].stop =
            match (ms.drop a).take (b - a + 1) with
            | [] => []
            | (_, f) :: more => f ++ more.flatMap (sepField d)
  | [], _, _, _, _, _, _, hb => absurd hb (Nat.not_lt_zero _)
  | _ :: _, [], _, h, _, _, _, _ => h.elim
  | r :: t, (k, f) :: ms, e, ⟨h1, h2, h3, h4, h5⟩, a, b, hab, hb => by
    cases a with
    | zero =>
      cases b with
      | zero => exact ⟨h3, h5.le_length, by simpa using h4⟩
      | succ b' =>
        obtain ⟨p1, p2, p3⟩ := h5.prefix b' (Nat.lt_of_succ_lt_succ hb)
        simp only [List.getElem_cons_zero, List.getElem_cons_succ, List.drop_zero, Nat.sub_zero,
          List.take_succ_cons]
        exact ⟨Nat.le_trans h3 p1, p2, by rw [← slice_append_slice line h3 p1, h4, p3]⟩
    | succ a' =>
      cases b with
      | zero => exact absurd hab (Nat.not_succ_le_zero _)
      | succ b' =>
        simp only [List.getElem_cons_succ, List.drop_succ_cons, Nat.add_sub_add_right]
        exact GSep.range h5 a' b' (Nat.le_of_succ_le_succ hab) (Nat.lt_of_succ_lt_succ hb)

theorem GSep.slice_pieceText {d line : Bytes} {gs : List Range} {tok : Tok}
    (ht : GSep d line 0 gs ((0, tok.first) :: tok.rest)) (a b : Nat)
    (hab : a ≤ b) (hb : b < gs.length) :
    slice line (gs[a]'(by omega)).start gs[b].stop =
      pieceText (repeatBytes d) tok (a + 1) (b + 1) := by
  rw [(ht.range a b hab hb).2.2]
  unfold pieceText
  simp only [Nat.add_sub_cancel, Nat.add_sub_add_right]
  rfl

theorem GSep.sep_eq {d line : Bytes} :
    ∀ {gs : List Range} {ms : List (Nat × Bytes)} {e : Nat}, GSep d line e gs ms →
      ∀ (i : Nat) (hi : i + 1 < gs.length) (hi' : i + 1 < ms.length),
        slice line gs[i].stop gs[i + 1].start = repeatBytes d ms[i + 1].1
  | [], _, _, _, _, hi, _ => absurd hi (Nat.not_lt_zero _)
  | _ :: _, [], _, h, _, _, _ => h.elim
  | [_], _ :: _, _, _, _, hi, _ => by simp at hi
  | r :: r' :: t, (k, f) :: ms, e, ⟨_, _, _, _, h5⟩, i, hi, hi' => by
    cases i with
    | zero =>
      match ms, h5 with
      | (k', f') :: ms', h5 => simpa using h5.2.1
    | succ i' =>
      have := GSep.sep_eq h5 i' (by simpa using hi) (by simpa using hi')
      simpa using this

/-- where a loop over the offsets stands: the line is `pre ++ txt`, the loop is about to scan `txt`, and
    the last `k` occurrences it has seen lie between `e` and the end of `pre` -/
structure Sep (d line : Bytes) (e k : Nat) (pre txt : Bytes) : Prop where
  line_eq : line = pre ++ txt
  start : e + k * d.length = pre.length
  run : slice line e pre.length = repeatBytes d k

theorem Sep.zero (d line : Bytes) : Sep d line 0 0 [] line :=
  ⟨rfl, by simp, slice_self line 0⟩

theorem Sep.field {d line pre f rest : Bytes} {e k : Nat} (h : Sep d line e k pre (f ++ rest)) :
    slice line pre.length (pre.length + f.length) = f := by
  rw [h.line_eq]
  exact slice_pre_field pre f rest

theorem Sep.next {d line pre f rest : Bytes} {e k : Nat} (h : Sep d line e k pre (f ++ d ++ rest)) :
    Sep d line (pre.length + f.length) 1 (pre ++ f ++ d) rest := by
  refine ⟨by rw [h.line_eq]; simp, by simp [Nat.add_assoc], ?_⟩
  have := slice_pre_field (pre ++ f) d rest
  rw [repeatBytes_one, h.line_eq]
  simpa [Nat.add_assoc] using this

theorem Sep.more {d line pre rest : Bytes} {e k : Nat} (h : Sep d line e k pre ([] ++ d ++ rest)) :
    Sep d line e (k + 1) (pre ++ d) rest := by
  have hn := h.next
  refine ⟨by rw [h.line_eq]; simp, ?_, ?_⟩
  · rw [List.length_append, ← h.start, Nat.add_mul, Nat.one_mul, Nat.add_assoc]
  · have hd := hn.run
    simp only [List.length_nil, Nat.add_zero, List.append_nil, repeatBytes_one] at hd
    have he : e ≤ pre.length := h.start ▸ Nat.le_add_right ..
    rw [← slice_append_slice line he (by simp : pre.length ≤ (pre ++ d).length), h.run, hd,
      repeatBytes_succ']

theorem Sep.last {d line pre f : Bytes} {e k : Nat} (h : Sep d line e k pre f) :
    GSep d line e [⟨pre.length, line.length⟩] [(k, f)] := by
  refine ⟨h.start.symm, h.run, ?_, ?_, rfl⟩ <;> rw [h.line_eq] <;> simp [slice]

theorem Sep.cons {d line pre f rest : Bytes} {e k : Nat} (h : Sep d line e k pre (f ++ rest))
    {gs : List Range} {ms : List (Nat × Bytes)} (ih : GSep d line (pre.length + f.length) gs ms) :
    GSep d line e (⟨pre.length, pre.length + f.length⟩ :: gs) ((k, f) :: ms) :=
  ⟨h.start.symm, h.run, Nat.le_add_right .., h.field, ih⟩

theorem gsep_joinWith (d : Bytes) (hd : d ≠ []) (line : Bytes) :
    ∀ (fs : List Bytes) (f : Bytes) (pre : Bytes) (k e : Nat), FieldsOK d (f :: fs) →
      Sep d line e k pre (joinWith d (f :: fs)) →
      GSep d line e
        (rangesBetween d.length line.length pre.length (findIterAux d 0 pre.length (joinWith d (f :: fs))))
        ((k, f) :: fs.map fun g => (1, g))
  | [], f, pre, k, e, hok, h => by
    rw [show joinWith d [f] = f from rfl] at h ⊢
    rw [findIterAux_noOcc d hd f _ hok]
    exact h.last
  | g :: t, f, pre, k, e, hok, h => by
    rw [joinWith_cons_cons] at h ⊢
    rw [findIterAux_field d hd _ f _ hok.1]
    have ih := gsep_joinWith d hd line t g _ 1 _ hok.2 h.next
    simp only [List.length_append] at ih
    rw [List.append_assoc] at h
    exact h.cons ih

theorem findIter_gsep (d line : Bytes) (hd : d ≠ []) :
    GSep d line 0 (rangesBetween d.length line.length 0 (findIter d line))
      ((0, (splitFields d line).headD []) :: (splitFields d line).tail.map fun f => (1, f)) := by
  obtain ⟨hok, hj⟩ := splitFields_spec d line hd
  cases hs : splitFields d line with
  | nil => exact absurd hs (splitFields_ne_nil d line)
  | cons f fs =>
    rw [hs] at hok hj
    have := gsep_joinWith d hd line fs f [] 0 0 hok (hj ▸ Sep.zero d line)
    rwa [hj] at this

theorem contents_rangesBetween (d line : Bytes) (hd : d ≠ []) :
    contents line (rangesBetween d.length line.length 0 (findIter d line)) = splitFields d line := by
  rw [(findIter_gsep d line hd).contents_eq]
  cases h : splitFields d line with
  | nil => exact absurd h (splitFields_ne_nil d line)
  | cons f fs => simp [Function.comp_def]

theorem pieceText_uniform (sep : Nat → Bytes) (k : Nat) (p : Bytes) (ps : List Bytes) (lo hi : Nat)
    (h1 : 1 ≤ lo) (h2 : lo ≤ hi) :
    pieceText sep ⟨p, ps.map fun x => (k, x)⟩ lo hi
      = joinWith (sep k) (slice (p :: ps) (lo - 1) hi) := by
  obtain ⟨j, rfl⟩ := Nat.exists_eq_add_of_le' h1
  obtain ⟨m, rfl⟩ := Nat.exists_eq_add_of_le h2
  have e : j + 1 + m - j = m + 1 := by rw [Nat.add_assoc, Nat.add_sub_cancel_left, Nat.add_comm]
  unfold pieceText slice
  dsimp only
  rw [Nat.add_sub_cancel_left, Nat.add_sub_cancel, e]
  -- the count in front of the first selected part is dropped: it is `0` if that part is `p`
  cases j with
  | zero =>
    rw [List.drop_zero, List.drop_zero, List.take_succ_cons, List.take_succ_cons, ← List.map_take]
    rw [joinWith_cons]
    exact congrArg (p ++ ·) (List.flatMap_map ..)
  | succ j =>
    rw [List.drop_succ_cons, List.drop_succ_cons, ← List.map_drop, ← List.map_take]
    cases (ps.drop j).take (m + 1) with
    | nil => rfl
    | cons f more =>
      rw [joinWith_cons]
      exact congrArg (f ++ ·) (List.flatMap_map ..)

theorem pieceText_plain (d f0 : Bytes) (rest : List Bytes) (lo hi : Nat) (h1 : 1 ≤ lo)
    (h2 : lo ≤ hi) :
    pieceText (repeatBytes d) ⟨f0, rest.map fun f => (1, f)⟩ lo hi =
      joinWith d ((f0 :: rest).extract (lo - 1) hi) := by
  rw [pieceText_uniform _ 1 f0 rest lo hi h1 h2, repeatBytes_one, List.extract_eq_take_drop]
  rfl

theorem tokenize_plain (d line : Bytes) :
    tokenize d false false line =
      ⟨(splitFields d line).headD [], (splitFields d line).tail.map fun f => (1, f)⟩ := by
  unfold tokenize
  cases splitFields d line <;> simp

/-- **C01, plain.**  For a non-empty line the ranges are the fields of the plain tokenisation,
    one occurrence of the delimiter between neighbours. -/
theorem plain_fields_gsep (d line : Bytes) (hd : d ≠ []) (hline : line ≠ []) :
    GSep d line 0 (fillWithFieldsLocations [] line d)
      ((0, (tokenize d false false line).first) :: (tokenize d false false line).rest) := by
  unfold fillWithFieldsLocations
  rw [isEmpty_eq_false_of_ne_nil hline, if_neg Bool.false_ne_true, tokenize_plain]
  exact findIter_gsep d line hd

/-- **C01, contents.** Slicing a non-empty line at the ranges the code computes gives exactly the
    fields of the specification. -/
theorem fields_are_contents (d line : Bytes) (hd : d ≠ []) (hline : line ≠ []) :
    (fillWithFieldsLocations [] line d).map (fun r => slice line r.start r.stop) =
      splitFields d line := by
  unfold fillWithFieldsLocations
  rw [isEmpty_eq_false_of_ne_nil hline, if_neg Bool.false_ne_true]
  exact contents_rangesBetween d line hd

theorem prefix_drop_of_slice {α : Type} {l d : List α} {s e : Nat} (h : slice l s e = d) :
    d <+: l.drop s :=
  h ▸ List.take_prefix _ _

theorem GSep.tiling {d line : Bytes} :
    ∀ {ps : List Range} {r : Range} {fs : List Bytes} {k e : Nat} {f : Bytes},
      GSep d line e (r :: ps) ((k, f) :: fs.map fun g => (1, g)) → Tiling d line r.start (r :: ps)
  | [], r, [], _, _, _, ⟨_, _, h3, _, h5⟩ => ⟨rfl, h3, h5⟩
  | [], _, _ :: _, _, _, _, ⟨_, _, _, _, h5⟩ => h5.elim
  | _ :: _, _, [], _, _, _, ⟨_, _, _, _, h5⟩ => h5.elim
  | r' :: t, r, g :: fs, _, _, _, ⟨_, _, h3, _, h5⟩ => by
    have ih := GSep.tiling (fs := fs) h5
    obtain ⟨h1', h2', _⟩ := h5
    rw [Nat.one_mul] at h1'
    rw [repeatBytes_one] at h2'
    exact ⟨rfl, h3, prefix_drop_of_slice h2', h1' ▸ ih⟩

theorem fields_tiling (d line : Bytes) (hd : d ≠ []) (hline : line ≠ []) :
    Tiling d line 0 (fillWithFieldsLocations [] line d) := by
  have h := plain_fields_gsep d line hd hline
  rw [tokenize_plain] at h
  match fillWithFieldsLocations [] line d, h with
  | r :: ps, h =>
    have h0 : r.start = 0 := by simpa using h.1
    exact h0 ▸ h.tiling

/-- **C01, well-formedness.** The ranges of a non-empty line: the first starts at 0, every range
    has `start ≤ stop`, the next one starts `d.length` after the previous stop, the last stops at
    `line.length`. -/
theorem fields_wellformed (d line : Bytes) (hd : d ≠ []) (hline : line ≠ []) :
    Consecutive d.length line.length 0 (fillWithFieldsLocations [] line d) :=
  (fields_tiling d line hd hline).consecutive

theorem pieceText_tokenize_plain (d line : Bytes) (lo hi : Nat) (h1 : 1 ≤ lo) (h2 : lo ≤ hi) :
    pieceText (repeatBytes d) (tokenize d false false line) lo hi =
      joinWith d ((splitFields d line).extract (lo - 1) hi) := by
  rw [tokenize_plain, pieceText_plain d _ _ lo hi h1 h2]
  cases h : splitFields d line with
  | nil => exact absurd h (splitFields_ne_nil d line)
  | cons f0 rest => rfl

/-- **C01, interleaving.** For fields `a ≤ b` of a non-empty line, the bytes from the start of
    field `a` to the end of field `b` are the fields `a … b` of the specification with exactly
    one `d` between neighbours. -/
theorem slice_eq_interleave (d line : Bytes) (hd : d ≠ []) (hline : line ≠ []) (a b : Nat)
    (hab : a ≤ b) (hb : b < (fillWithFieldsLocations [] line d).length) :
    slice line ((fillWithFieldsLocations [] line d)[a]'(by omega)).start
        ((fillWithFieldsLocations [] line d)[b]).stop =
      joinWith d ((splitFields d line).extract a (b + 1)) := by
  rw [(plain_fields_gsep d line hd hline).slice_pieceText a b hab hb,
    pieceText_tokenize_plain d line (a + 1) (b + 1) (by omega) (by omega), Nat.add_sub_cancel]

theorem fields_separated (d line : Bytes) (hd : d ≠ []) (hline : line ≠ []) (i : Nat)
    (hi : i + 1 < (fillWithFieldsLocations [] line d).length) :
    slice line (fillWithFieldsLocations [] line d)[i].stop
      (fillWithFieldsLocations [] line d)[i + 1].start = d := by
  have ht := plain_fields_gsep d line hd hline
  rw [tokenize_plain] at ht
  have := ht.sep_eq i hi (ht.length_eq ▸ hi)
  simpa [repeatBytes_one] using this

/-- before the first occurrence (`am = false`) the field stands even if it is empty -/
theorem gsep_greedy (d : Bytes) (hd : d ≠ []) (line : Bytes) :
    ∀ (fs : List Bytes) (f : Bytes) (pre : Bytes) (k e : Nat) (am : Bool), FieldsOK d (f :: fs) →
      Sep d line e k pre (joinWith d (f :: fs)) →
      GSep d line e
        (rangesBetweenGreedy d.length line.length am pre.length
          (findIterAux d 0 pre.length (joinWith d (f :: fs))))
        (if am then greedyMerge k (f :: fs) else (k, f) :: greedyMerge 1 fs)
  | [], f, pre, k, e, am, hok, h => by
    rw [show joinWith d [f] = f from rfl] at h ⊢
    rw [findIterAux_noOcc d hd f _ hok]
    cases am <;> exact h.last
  | g :: t, f, pre, k, e, am, hok, h => by
    rw [joinWith_cons_cons] at h ⊢
    rw [findIterAux_field d hd _ f _ hok.1]
    by_cases hm : am = true ∧ f = []
    · -- the occurrence starts where the previous one ended: one more in the run
      obtain ⟨rfl, rfl⟩ := hm
      have ih := gsep_greedy d hd line t g _ (k + 1) e true hok.2 h.more
      simp only [List.length_append] at ih
      simpa [rangesBetweenGreedy, greedyMerge] using ih
    · have ih := gsep_greedy d hd line t g _ 1 _ true hok.2 h.next
      simp only [List.length_append, if_true] at ih
      have hne : ¬ (am = true ∧ pre.length + f.length = pre.length) :=
        fun ⟨h1, h2⟩ => hm ⟨h1, List.eq_nil_of_length_eq_zero (by omega)⟩
      have ht : (if am = true then greedyMerge k (f :: g :: t) else (k, f) :: greedyMerge 1 (g :: t)) =
          (k, f) :: greedyMerge 1 (g :: t) := by
        cases am
        · rfl
        · cases f with
          | nil => exact absurd ⟨rfl, rfl⟩ hm
          | cons _ _ => rfl
      rw [rangesBetweenGreedy, if_neg hne, ht]
      rw [List.append_assoc] at h
      exact h.cons ih

/-- the greedy ranges against the greedy tokenisation: the first field counts as preceded by no
    occurrence -/
def GreedyTiling (d line : Bytes) (gs : List Range) (tok : Tok) : Prop :=
  GSep d line 0 gs ((0, tok.first) :: tok.rest)

/-- **C01, greedy.**  For a non-empty line the ranges of `-g` are the fields of the greedy
    tokenisation, and the text between two neighbours is the delimiter repeated as many times as
    the tokenisation merged. -/
theorem greedy_fields_tiling (d line : Bytes) (hd : d ≠ []) (hline : line ≠ []) :
    GreedyTiling d line (fillWithFieldsLocationsGreedy [] line d) (tokenize d true false line) := by
  obtain ⟨hok, hj⟩ := splitFields_spec d line hd
  unfold GreedyTiling fillWithFieldsLocationsGreedy tokenize findIter
  rw [isEmpty_eq_false_of_ne_nil hd, isEmpty_eq_false_of_ne_nil hline]
  simp only [Bool.false_eq_true, if_false, if_true]
  cases hs : splitFields d line with
  | nil => exact absurd hs (splitFields_ne_nil d line)
  | cons f0 rest =>
    rw [hs] at hok hj
    have := gsep_greedy d hd line rest f0 [] 0 0 false hok (hj ▸ Sep.zero d line)
    rwa [hj] at this

/-- **C01, greedy contents.**  Slicing a non-empty line at the ranges of `-g` gives the fields of
    the greedy tokenisation. -/
theorem greedy_fields_are_contents (d line : Bytes) (hd : d ≠ []) (hline : line ≠ []) :
    (fillWithFieldsLocationsGreedy [] line d).map (fun r => slice line r.start r.stop) =
      (tokenize d true false line).first :: (tokenize d true false line).rest.map (·.2) := by
  have := (greedy_fields_tiling d line hd hline).contents_eq
  simpa [contents] using this

/-- **C01, greedy separators.**  Between the greedy fields `i` and `i+1` the line holds the
    delimiter repeated as many times as the tokenisation counted. -/
theorem greedy_separated (d line : Bytes) (hd : d ≠ []) (hline : line ≠ []) (i : Nat)
    (hi : i + 1 < (fillWithFieldsLocationsGreedy [] line d).length) :
    ∃ h : i < (tokenize d true false line).rest.length,
      slice line (fillWithFieldsLocationsGreedy [] line d)[i].stop
        (fillWithFieldsLocationsGreedy [] line d)[i + 1].start =
          repeatBytes d ((tokenize d true false line).rest[i]).1 := by
  have ht := greedy_fields_tiling d line hd hline
  have hl := ht.length_eq
  have h' : i < (tokenize d true false line).rest.length := by simp at hl; omega
  refine ⟨h', ?_⟩
  have := ht.sep_eq i hi (by simpa using h')
  simpa using this

theorem compressFields_ne_nil : ∀ (fs : List Bytes), fs ≠ [] → compressFields fs ≠ []
  | [], h => absurd rfl h
  | [f], _ => by simp [compressFields]
  | f :: g :: t, _ => by
    simp only [compressFields]
    split
    · exact compressFields_ne_nil (g :: t) (by simp)
    · simp

theorem joinWith_compressFields_cons (d f : Bytes) {rest : List Bytes} (h : rest ≠ []) :
    joinWith d (compressFields (f :: rest)) =
      (if f.isEmpty then [] else f ++ d) ++ joinWith d (compressFields rest) := by
  cases rest with
  | nil => exact absurd rfl h
  | cons g t =>
    simp only [compressFields]
    split
    · rfl
    · exact joinWith_cons_of_ne_nil _ _ _ (compressFields_ne_nil _ (List.cons_ne_nil _ _))

/-- the first field of the line (`pre = []`) stands even if it is empty -/
theorem compressAux_joinWith (d : Bytes) (hd : d ≠ []) (line : Bytes) :
    ∀ (fs : List Bytes) (f : Bytes) (pre : Bytes) (k e : Nat), FieldsOK d (f :: fs) →
      Sep d line e k pre (joinWith d (f :: fs)) →
      compressAux line d pre.length (findIterAux d 0 pre.length (joinWith d (f :: fs))) =
        joinWith d (if pre = [] then f :: compressFields fs else compressFields (f :: fs))
  | [], f, pre, _, _, hok, h => by
    rw [show joinWith d [f] = f from rfl] at h ⊢
    rw [findIterAux_noOcc d hd f _ hok, h.line_eq]
    simp only [compressAux, compressFields, joinWith, List.length_append, List.drop_left, ite_self]
    cases f <;> simp
  | g :: t, f, pre, _, _, hok, h => by
    rw [joinWith_cons_cons] at h ⊢
    rw [findIterAux_field d hd _ f _ hok.1]
    have ih := compressAux_joinWith d hd line t g _ 1 _ hok.2 h.next
    rw [if_neg (by simp [hd])] at ih
    simp only [List.length_append] at ih
    rw [List.append_assoc] at h
    rw [compressAux, h.field, ih]
    by_cases hp : pre = []
    · subst hp
      rw [if_pos rfl, joinWith_cons_of_ne_nil _ _ _ (compressFields_ne_nil _ (List.cons_ne_nil g t))]
      cases f <;> simp
    · rw [if_neg hp, if_neg (by have := length_pos_of_ne_nil hp; omega),
        joinWith_compressFields_cons d f (List.cons_ne_nil g t)]
      cases f <;> rfl

/-- **C01, `-p`.**  `compress_delimiter` rewrites the line to: the first field, then the
    non-empty inner fields and the last field, one delimiter between neighbours. -/
theorem compress_is_spec (d line : Bytes) (hd : d ≠ []) (f0 : Bytes) (rest : List Bytes)
    (hs : splitFields d line = f0 :: rest) :
    compressDelimiter line d [] = joinWith d (f0 :: compressFields rest) := by
  obtain ⟨hok, hj⟩ := splitFields_spec d line hd
  rw [hs] at hok hj
  have := compressAux_joinWith d hd line rest f0 [] 0 0 hok (hj ▸ Sep.zero d line)
  rwa [hj] at this

/-! The scanner is context-free at field boundaries.
Re-scanning text made of fields and delimiters finds exactly those delimiters: this is what makes
`-r` (the printed slice is scanned again by `replace`) and `-p` (the compressed record is split
again) agree with the specification. -/

theorem FieldsOK.compress {d : Bytes} : ∀ {fs : List Bytes}, FieldsOK d fs → FieldsOK d (compressFields fs)
  | [], _ => trivial
  | [_], h => h
  | f :: g :: t, h => by
    simp only [compressFields]
    split
    · exact FieldsOK.compress h.2
    · exact FieldsOK.cons h.1 (FieldsOK.compress h.2)

theorem FieldsOK.cons_compress {d f0 : Bytes} {rest : List Bytes} (h : FieldsOK d (f0 :: rest)) :
    FieldsOK d (f0 :: compressFields rest) := by
  cases rest with
  | nil => exact h
  | cons g t => exact FieldsOK.cons h.1 (FieldsOK.compress h.2)

/-- **C01, `-p`, second half.**  Splitting the compressed record gives the compressed fields. -/
theorem compress_resplit (d line : Bytes) (hd : d ≠ []) (f0 : Bytes) (rest : List Bytes)
    (hs : splitFields d line = f0 :: rest) :
    splitFields d (compressDelimiter line d []) = f0 :: compressFields rest := by
  rw [compress_is_spec d line hd f0 rest hs]
  apply splitFields_joinWith d hd _ (by simp)
  have := splitFields_ok d line hd
  rw [hs] at this
  exact this.cons_compress

/-- the engine tokenises the compressed record; the specification compresses the tokens -/
theorem tokenize_compress (d line : Bytes) (hd : d ≠ []) (g : Bool) :
    tokenize d g true line = tokenize d g false (compressDelimiter line d []) := by
  cases hs : splitFields d line with
  | nil => exact absurd hs (splitFields_ne_nil d line)
  | cons f0 rest =>
    unfold tokenize
    rw [compress_resplit d line hd f0 rest hs, hs]
    simp

theorem compress_ne_nil (d line : Bytes) (hd : d ≠ []) (hline : line ≠ []) :
    compressDelimiter line d [] ≠ [] := by
  cases hs : splitFields d line with
  | nil => exact absurd hs (splitFields_ne_nil d line)
  | cons f0 rest =>
    rw [compress_is_spec d line hd f0 rest hs]
    cases rest with
    | nil =>
      have := fields_reconstruct d line hd
      rw [hs] at this
      simp only [compressFields, joinWith] at this ⊢
      rw [this]; exact hline
    | cons g t =>
      rw [joinWith_cons_of_ne_nil _ _ _ (compressFields_ne_nil (g :: t) (List.cons_ne_nil _ _))]
      exact List.append_ne_nil_of_left_ne_nil (List.append_ne_nil_of_right_ne_nil _ hd) _

theorem replaceMatches_eq (text r : Bytes) (dlen : Nat) :
    ∀ (ms : List Nat) (prev : Nat),
      replaceMatches text r prev (ms.map fun i => (i, i + dlen)) =
        joinWith r (contents text (rangesBetween dlen text.length prev ms)) := by
  intro ms
  induction ms with
  | nil => intro prev; simp [replaceMatches, rangesBetween, contents, joinWith, slice_to_end]
  | cons idx t ih =>
    intro prev
    simp only [List.map_cons, replaceMatches, rangesBetween, contents]
    rw [ih, joinWith_cons_of_ne_nil]
    simpa [contents] using rangesBetween_ne_nil _ _ _ t

theorem replaceAll_eq (text d r : Bytes) (hd : d ≠ []) :
    replaceAll text d r = joinWith r (splitFields d text) := by
  unfold replaceAll
  rw [replaceMatches_eq, contents_rangesBetween d text hd]

/-- a (part of a) token list: every field but the last can be followed by a delimiter, every
    separator after the first entry is made of at least one occurrence -/
def TokOK (d : Bytes) : List (Nat × Bytes) → Prop
  | [] => True
  | [(_, f)] => NoOcc d f
  | (_, f) :: (k, g) :: t => Field d f ∧ 1 ≤ k ∧ TokOK d ((k, g) :: t)

theorem TokOK.tail {d : Bytes} {x : Nat × Bytes} {t : List (Nat × Bytes)} (h : TokOK d (x :: t)) :
    TokOK d t := by
  cases t with
  | nil => trivial
  | cons y t' => exact h.2.2

theorem TokOK.drop {d : Bytes} : ∀ {l : List (Nat × Bytes)} (n : Nat), TokOK d l → TokOK d (l.drop n)
  | _, 0, h => h
  | [], _ + 1, _ => trivial
  | _ :: t, n + 1, h => TokOK.drop (l := t) n h.tail

theorem TokOK.take {d : Bytes} : ∀ {l : List (Nat × Bytes)} (n : Nat), TokOK d l → TokOK d (l.take n)
  | _, 0, _ => trivial
  | [], _ + 1, _ => trivial
  | [_], _ + 1, h => by simpa using h
  | (k0, f) :: (k, g) :: t, n + 1, h => by
    have ih := TokOK.take (l := (k, g) :: t) n h.2.2
    cases n with
    | zero => exact h.1.noOcc
    | succ n' =>
      simp only [List.take_succ_cons] at ih ⊢
      exact ⟨h.1, h.2.1, ih⟩

theorem tokOK_plain {d : Bytes} (k0 : Nat) :
    ∀ (f : Bytes) (rest : List Bytes), FieldsOK d (f :: rest) →
      TokOK d ((k0, f) :: rest.map fun g => (1, g))
  | _, [], h => h
  | _, g :: t, h => ⟨h.1, Nat.le_refl 1, tokOK_plain 1 g t h.2⟩

theorem tokOK_greedy {d : Bytes} :
    ∀ (rest : List Bytes) (k0 k : Nat) (f : Bytes), 1 ≤ k → FieldsOK d (f :: rest) →
      TokOK d ((k0, f) :: greedyMerge k rest)
  | [], _, _, _, _, h => h
  | [g], _, _, _, hk, h => ⟨h.1, hk, h.2⟩
  | g :: g' :: t, k0, k, f, hk, h => by
    simp only [greedyMerge]
    split
    · exact tokOK_greedy (g' :: t) k0 (k + 1) f (by omega) ⟨h.1, h.2.2⟩
    · exact ⟨h.1, hk, tokOK_greedy (g' :: t) k 1 g (Nat.le_refl 1) h.2⟩

theorem tokenize_ok (d line : Bytes) (hd : d ≠ []) (g : Bool) :
    TokOK d ((0, (tokenize d g false line).first) :: (tokenize d g false line).rest) := by
  have hok := splitFields_ok d line hd
  unfold tokenize
  cases hs : splitFields d line with
  | nil => exact absurd hs (splitFields_ne_nil d line)
  | cons f0 rest =>
    rw [hs] at hok
    cases g with
    | true => simpa using tokOK_greedy rest 0 1 f0 (Nat.le_refl 1) hok
    | false => simpa using tokOK_plain 0 f0 rest hok

theorem replaceAll_field_append (d r : Bytes) (hd : d ≠ []) (f rest : Bytes) (hf : Field d f) :
    replaceAll (f ++ d ++ rest) d r = f ++ r ++ replaceAll rest d r := by
  rw [replaceAll_eq _ d r hd, replaceAll_eq _ d r hd, splitFields_field_append d hd f rest hf,
    joinWith_cons_of_ne_nil _ _ _ (splitFields_ne_nil d rest)]

theorem replaceAll_repeat (d r : Bytes) (hd : d ≠ []) (x : Bytes) :
    ∀ (j : Nat), replaceAll (repeatBytes d j ++ x) d r = repeatBytes r j ++ replaceAll x d r
  | 0 => rfl
  | j + 1 => by
    have := replaceAll_field_append d r hd [] (repeatBytes d j ++ x) trivial
    simp only [List.nil_append] at this
    show replaceAll (d ++ repeatBytes d j ++ x) d r = r ++ repeatBytes r j ++ _
    rw [List.append_assoc, this, replaceAll_repeat d r hd x j, List.append_assoc]

/-- **C01, `-r`.**  Replacing the delimiter in text made of well-formed tokens replaces exactly
    the separators, occurrence by occurrence. -/
theorem replaceAll_toks (d r : Bytes) (hd : d ≠ []) :
    ∀ (more : List (Nat × Bytes)) (k0 : Nat) (f : Bytes), TokOK d ((k0, f) :: more) →
      replaceAll (f ++ more.flatMap (sepField d)) d r = f ++ more.flatMap (sepField r)
  | [], _, f, h => by
    simp only [List.flatMap_nil, List.append_nil]
    rw [replaceAll_eq f d r hd, splitFields_noOcc d f h]
    rfl
  | (k, g) :: more, _, f, ⟨hf, hk, hrest⟩ => by
    obtain ⟨j, rfl⟩ : ∃ j, k = j + 1 := ⟨k - 1, by omega⟩
    have e : f ++ ((j + 1, g) :: more).flatMap (sepField d) =
        f ++ d ++ (repeatBytes d j ++ (g ++ more.flatMap (sepField d))) := by
      simp [sepField, repeatBytes, List.append_assoc]
    rw [e, replaceAll_field_append d r hd f _ hf, replaceAll_repeat d r hd _ j,
      replaceAll_toks d r hd more (j + 1) g hrest]
    simp [sepField, repeatBytes, List.append_assoc]

theorem pieceText_replace (d r : Bytes) (hd : d ≠ []) (tok : Tok)
    (h : TokOK d ((0, tok.first) :: tok.rest)) (lo hi : Nat) :
    replaceAll (pieceText (repeatBytes d) tok lo hi) d r = pieceText (repeatBytes r) tok lo hi := by
  unfold pieceText
  have hsel := (h.drop (lo - 1)).take (hi - lo + 1)
  simp only []
  generalize List.take (hi - lo + 1) (List.drop (lo - 1) ((0, tok.first) :: tok.rest)) = sel at hsel
  cases sel with
  | nil =>
    simp [replaceAll_eq _ d r hd, splitFields, splitAux, joinWith]
  | cons x more =>
    obtain ⟨k0, f⟩ := x
    exact replaceAll_toks d r hd more k0 f hsel

end Tuc
