import Tuc.Lemmas.Split
import Tuc.Lemmas.Records
/-!
# Tuc.Lemmas.Natural — naturality of the text primitives under a bytewise injective renaming

For an injective `σ : UInt8 → UInt8` every primitive of `Tuc.Model.Text` commutes with
`List.map σ` applied to *all* its byte-string arguments: the offsets found (`findIter`, the field
ranges) are unchanged, and the byte strings produced are the `σ`-images.
-/

namespace Tuc

variable {σ : UInt8 → UInt8}

theorem beq_map_inj (hσ : Function.Injective σ) (a b : UInt8) : (σ a == σ b) = (a == b) := by
  rw [Bool.eq_iff_iff, beq_iff_eq, beq_iff_eq]
  exact ⟨fun e => hσ e, fun e => e ▸ rfl⟩

theorem isPrefixOf_map (hσ : Function.Injective σ) :
    ∀ (d l : Bytes), (d.map σ).isPrefixOf (l.map σ) = d.isPrefixOf l
  | [], _ => by simp
  | _ :: _, [] => by simp
  | a :: d, b :: l => by
    simp only [List.map_cons, List.isPrefixOf_cons_cons, beq_map_inj hσ, isPrefixOf_map hσ d l]

theorem findIterAux_map (hσ : Function.Injective σ) (d : Bytes) :
    ∀ (l : Bytes) (skip pos : Nat),
      findIterAux (d.map σ) skip pos (l.map σ) = findIterAux d skip pos l
  | [], skip, pos => by simp [findIterAux]
  | c :: t, skip + 1, pos => by
    simp only [List.map_cons, findIterAux]
    exact findIterAux_map hσ d t skip (pos + 1)
  | c :: t, 0, pos => by
    have h := isPrefixOf_map hσ d (c :: t)
    simp only [List.map_cons] at h
    simp only [List.map_cons, findIterAux, h, List.length_map,
      findIterAux_map hσ d t]

theorem findIter_map (hσ : Function.Injective σ) (d l : Bytes) :
    findIter (d.map σ) (l.map σ) = findIter d l :=
  findIterAux_map hσ d l 0 0

/-- `rangesBetween` and `rangesBetweenGreedy` take offsets and lengths only; with `findIter_map`
    and `List.length_map` this is the whole naturality statement of the two splitters. -/
theorem fillWithFieldsLocations_map (hσ : Function.Injective σ) (buf : List Range) (l d : Bytes) :
    fillWithFieldsLocations buf (l.map σ) (d.map σ) = fillWithFieldsLocations buf l d := by
  simp [fillWithFieldsLocations, findIter_map hσ]

theorem fillWithFieldsLocationsGreedy_map (hσ : Function.Injective σ) (buf : List Range)
    (l d : Bytes) :
    fillWithFieldsLocationsGreedy buf (l.map σ) (d.map σ) = fillWithFieldsLocationsGreedy buf l d := by
  simp [fillWithFieldsLocationsGreedy, findIter_map hσ, fillWithFieldsLocations_map hσ]

theorem compressAux_map (f : UInt8 → UInt8) (l d : Bytes) :
    ∀ (ms : List Nat) (prev : Nat),
      compressAux (l.map f) (d.map f) prev ms = (compressAux l d prev ms).map f
  | [], prev => by
    simp only [compressAux, List.length_map]
    split <;> simp [List.map_drop]
  | idx :: t, prev => by
    simp only [compressAux, List.length_map, slice_map, List.isEmpty_map, compressAux_map f l d t,
      List.map_append]
    congr 1
    split
    · rfl
    · split <;> simp

theorem compressDelimiter_map (hσ : Function.Injective σ) (l d o o' : Bytes) :
    compressDelimiter (l.map σ) (d.map σ) o' = (compressDelimiter l d o).map σ := by
  simp [compressDelimiter, findIter_map hσ, compressAux_map]

theorem replaceMatches_map (f : UInt8 → UInt8) (t r : Bytes) :
    ∀ (ms : List (Nat × Nat)) (prev : Nat),
      replaceMatches (t.map f) (r.map f) prev ms = (replaceMatches t r prev ms).map f
  | [], prev => by simp [replaceMatches, List.map_drop]
  | (s, e) :: ms, prev => by
    simp [replaceMatches, slice_map, replaceMatches_map f t r ms]

theorem replaceAll_map (hσ : Function.Injective σ) (t d r : Bytes) :
    replaceAll (t.map σ) (d.map σ) (r.map σ) = (replaceAll t d r).map σ := by
  simp [replaceAll, findIter_map hσ, replaceMatches_map]

theorem trimStartFuel_map (hσ : Function.Injective σ) (d : Bytes) :
    ∀ (fuel : Nat) (l : Bytes),
      trimStartFuel (d.map σ) fuel (l.map σ) = (trimStartFuel d fuel l).map σ
  | 0, l => by simp [trimStartFuel]
  | fuel + 1, l => by
    simp only [trimStartFuel, isPrefixOf_map hσ, List.length_map]
    split
    · rw [← List.map_drop, trimStartFuel_map hσ d fuel]
    · rfl

theorem trimStart_map (hσ : Function.Injective σ) (d l : Bytes) :
    trimStart (d.map σ) (l.map σ) = (trimStart d l).map σ := by
  simp [trimStart, trimStartFuel_map hσ]

theorem trimEnd_map (hσ : Function.Injective σ) (d l : Bytes) :
    trimEnd (d.map σ) (l.map σ) = (trimEnd d l).map σ := by
  simp only [trimEnd, ← List.map_reverse, trimStart_map hσ]

theorem trimLiteral_map (hσ : Function.Injective σ) (l : Bytes) (k : TrimKind) (d : Bytes) :
    trimLiteral (l.map σ) k (d.map σ) = (trimLiteral l k d).map σ := by
  simp only [trimLiteral, List.isEmpty_map]
  split
  · rfl
  · cases k <;> simp only [trimStart_map hσ, trimEnd_map hσ]

theorem trimRegex_map (f : UInt8 → UInt8) (line : Bytes) (k : TrimKind) (ms : List (Nat × Nat)) :
    trimRegex (line.map f) k ms = (trimRegex line k ms).map f := by
  simp only [trimRegex, List.length_map, slice_map]

theorem fillWithFieldsLocationsUsingRegex_map (f : UInt8 → UInt8) (buf : List Range) (line : Bytes)
    (ms : List (Nat × Nat)) :
    fillWithFieldsLocationsUsingRegex buf (line.map f) ms =
      fillWithFieldsLocationsUsingRegex buf line ms := by
  simp [fillWithFieldsLocationsUsingRegex]

theorem records_map (hσ : Function.Injective σ) (eol : UInt8) (input : Bytes) :
    records (σ eol) (input.map σ) = (records eol input).map (List.map σ) :=
  records_ind (P := fun x rs => records (σ eol) (x.map σ) = rs.map (List.map σ))
    (fun l h => by
      rw [records_of_noeol _ _ (by simpa using fun c hc e => h c hc (hσ e))]
      cases l <;> simp)
    (fun l rest h ih => by
      rw [List.map_append, List.map_cons, records_of_eol _ _ _ (by simpa using fun c hc e => h c hc (hσ e)), ih]
      rfl) input

end Tuc
