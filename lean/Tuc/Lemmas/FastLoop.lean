import Tuc.Model.FastLoop
import Tuc.Lemmas.Run
import Tuc.Lemmas.Bounds
import Tuc.Lemmas.FastScan
import Tuc.Lemmas.Total
import Tuc.Lemmas.Checked
/-!
# Lemmas for `Tuc.Props.FastLoop`: the literal loops of `fast_lane.rs` against `Tuc.Model.FastLane`

The loops of `Tuc.Model.FastLoop` (`scanFor`, `tryForEach`, `forByteRecord`) compute the closed forms
of `Tuc.Model.FastLane` (`fastScan`, `fastOutputLoop`, `fastRecords`) as long as the `i32` field
counter fits (`CounterFits`).  The `for` loop of l.51-60 is analysed once, in `scanFor_closed` (how
many delimiters it visits is `scanCount` of `Tuc.Lemmas.FastScan`, the same number as in the model's
`fastScan_closed`).
One call is cut the way the model is (`cutStrFastLaneCore_eq`): `fastTrimmed`, then a function of the trimmed
buffer alone that gives the run and, if the call touched it, the vector — `afterTrim` here (`loop_of_trimmed`),
`fastAfterTrim` for the model, equal when the counter fits (`afterTrim_eq`).
The `afterTrim` of this namespace is not `Tuc.afterTrim` of `Lemmas/Total.lean` (a stage of `cut_str`).

The normal-form `cut_str_fast_lane` is `Safe` (`fastAfterTrim_safe`) for EVERY `FastOpt`, every
`last_interesting_field` and every previous `fields`, under `LNZ` alone — the generality of
`cutStrFastLaneLoop_refines` —, because the vector the scan leaves is `GoodFields`; `readAndCutFast_safe` is
the same for the whole input.  These stand here and not with
the other engines' walks in `Lemmas/Total`, which does not import `Lemmas/FastScan`: they need the closed
form of the scan, and their first user is the refinement theorem of the literal loop.
-/

namespace Tuc
namespace FastLoop
open TextLoops

/-- `TextLoops.bind_ok` (`Lemmas/Checked`) restated in this namespace, where it is a `simp` rule -/
@[simp] theorem obind_ok {α β : Type} (a : α) (f : α → Outcome β) : (Outcome.ok a).bind f = f a := bind_ok a f

/-- `TextLoops.bind_panic`, restated the same way -/
@[simp] theorem obind_panic {α β : Type} (f : α → Outcome β) : (Outcome.panic).bind f = .panic := bind_panic f

theorem trimStartWith_eq (d : UInt8) : ∀ l : Bytes, trimStartWith d l = dropWhileEq d l := by
  intro l
  induction l with
  | nil => rfl
  | cons c t ih =>
    simp only [trimStartWith, dropWhileEq, ih]

theorem trim_eq (buffer : Bytes) (k : Trim) (d : UInt8) : trim buffer k d = fastTrim buffer k d := by
  cases k <;> simp only [trim, fastTrim, trimEndWith, trimStartWith_eq]

theorem fastTrim_sublist (buffer : Bytes) (k : Trim) (d : UInt8) : (fastTrim buffer k d).Sublist buffer :=
  fastTrim_eq_trimLiteral buffer k d ▸ (trimLiteral_infix buffer k [d]).sublist

theorem memchrIterFrom_length_eq_count (d : UInt8) :
    ∀ (line : Bytes) (pos : Nat), (memchrIterFrom d pos line).length = line.count d
  | [], _ => rfl
  | c :: t, pos => by
    by_cases hc : c = d
    · rw [memchrIterFrom, if_pos hc, List.length_cons, memchrIterFrom_length_eq_count d t, hc,
        List.count_cons_self]
    · rw [memchrIterFrom, if_neg hc, memchrIterFrom_length_eq_count d t, List.count_cons_of_ne hc]

theorem memchrIterFrom_length_le (d : UInt8) (line : Bytes) (pos : Nat) :
    (memchrIterFrom d pos line).length ≤ line.length :=
  memchrIterFrom_length_eq_count d line pos ▸ List.count_le_length

theorem memchrIter_length (d : UInt8) (l : Bytes) : (memchrIter d l).length = l.count d :=
  memchrIterFrom_length_eq_count d l 0

theorem memchrIterFrom_eq_findIterAux (d : UInt8) :
    ∀ (line : Bytes) (pos : Nat), memchrIterFrom d pos line = findIterAux [d] 0 pos line
  | [], pos => (findIterAux_single_nil d pos).symm
  | c :: t, pos => by
    rw [memchrIterFrom, findIterAux_single_cons, memchrIterFrom_eq_findIterAux d t]

theorem scanFor_cons (lif : Side) (i : Nat) (iter : List Nat) (c : Int) (f : List Nat) :
    scanFor lif (i :: iter) c f =
      if i32Min ≤ c + 1 ∧ c + 1 ≤ i32Max then
        if Side.some (c + 1) = lif then .ok (c + 1, f ++ [i + 1])
        else scanFor lif iter (c + 1) (f ++ [i + 1])
      else .panic := by
  rw [scanFor, scanBody, checkedAddI32]
  by_cases h : i32Min ≤ c + 1 ∧ c + 1 ≤ i32Max
  · simp only [if_pos h, Outcome.bind, push]
    by_cases hs : Side.some (c + 1) = lif
    · simp only [if_pos hs, if_true]
    · simp only [if_neg hs, Bool.false_eq_true, if_false]
  · simp only [if_neg h, Outcome.bind]

/-- **the `for` loop over `memchr_iter` (fast_lane.rs:51-60) in closed form**: it visits `scanCount`
    items, pushes `i + 1` for each and counts them — unless the `i32` counter would pass `i32::MAX`
    on the way, which is a panic (l.52) -/
theorem scanFor_closed (lif : Side) : ∀ (iter : List Nat) (c : Int) (f : List Nat), 0 ≤ c → c ≤ i32Max →
    scanFor lif iter c f =
      if c + scanCount lif c iter.length ≤ i32Max then
        .ok (c + scanCount lif c iter.length,
          f ++ (iter.take (scanCount lif c iter.length)).map (· + 1))
      else .panic := by
  intro iter
  induction iter with
  | nil =>
    intro c f _ h1
    have : scanCount lif c 0 = 0 := Nat.le_zero.1 (scanCount_le lif c 0)
    simp [scanFor, this, h1]
  | cons i iter ih =>
    intro c f h0 _
    have hmin : i32Min ≤ c + 1 := by simp only [i32Min]; omega
    rw [scanFor_cons, List.length_cons, scanCount_succ]
    by_cases hfit : c + 1 ≤ i32Max
    · rw [if_pos ⟨hmin, hfit⟩]
      by_cases hs : Side.some (c + 1) = lif
      · rw [if_pos hs, if_pos hs, if_pos (by omega : c + ((1 : Nat) : Int) ≤ i32Max)]
        rfl
      · rw [if_neg hs, if_neg hs, ih (c + 1) _ (by omega) hfit]
        by_cases hn : c + 1 + scanCount lif (c + 1) iter.length ≤ i32Max
        · rw [if_pos hn, if_pos (by omega), List.take_succ_cons, List.map_cons, List.append_assoc,
            List.singleton_append]
          exact congrArg Outcome.ok (Prod.ext (by simp only; omega) rfl)
        · rw [if_neg hn, if_neg (by omega)]
    · rw [if_neg (fun h => hfit h.2), if_neg]
      split <;> omega

theorem scanFor_ok {lif : Side} {iter : List Nat} {c : Int} {f : List Nat} {st : Int × List Nat}
    (h0 : 0 ≤ c) (h1 : c ≤ i32Max) (h : scanFor lif iter c f = .ok st) :
    st.1 = c + scanCount lif c iter.length ∧ st.2.length = f.length + scanCount lif c iter.length ∧
      c + scanCount lif c iter.length ≤ i32Max := by
  rw [scanFor_closed lif iter c f h0 h1] at h
  split at h
  · cases h
    have := scanCount_le lif c iter.length
    exact ⟨rfl, by simp only [List.length_append, List.length_map, List.length_take]; omega, ‹_›⟩
  · cases h

/-- **the `i32` counter `curr_field` (l.44, l.52) cannot overflow on a record of `len` bytes**:
    the record is shorter than 2³¹ bytes, or the scan stops early at a positive field number that
    is an `i32` (the parser reads `last_interesting_field` with `str::parse::<i32>`, so it is an
    `i32` whenever it is not `Continue`; it need not be positive: `-f -1` gives `Some(-1)`, the
    scan is then never stopped and only the first clause applies) -/
def CounterFits (lif : Side) (len : Nat) : Prop :=
  (len : Int) ≤ i32Max ∨ ∃ k, lif = .some k ∧ 0 < k ∧ k ≤ i32Max

theorem CounterFits.mono {lif : Side} {m n : Nat} (h : CounterFits lif n) (hmn : m ≤ n) :
    CounterFits lif m := by
  rcases h with h | h
  · left; omega
  · right; exact h

theorem scanFor_eq (d : UInt8) (lif : Side) (line : Bytes) (fields : List Nat)
    (hfit : CounterFits lif line.length) :
    scanFor lif (memchrIter d line) 0 fields =
      .ok ((fastScan d lif 0 0 line).2, fields ++ (fastScan d lif 0 0 line).1) := by
  have hlen := memchrIterFrom_length_le d line 0
  unfold memchrIter
  rw [memchrIterFrom_eq_findIterAux] at hlen ⊢
  rw [scanFor_closed lif _ 0 fields (Int.le_refl 0) (by decide), fastScan_closed, if_pos]
  have hn := scanCount_le lif 0 (findIterAux [d] 0 0 line).length
  rcases hfit with h | ⟨k, hk, h0, h1⟩
  · omega
  · exact Int.le_trans (scanCount_stop hk h0 _) h1

/-- the vector that reaches `try_for_each` (l.76): the `0`, one start per visited delimiter and,
    unless the scan stopped at `lif`, the fake end of l.67-74 — at most `m + 2` entries for `m`
    delimiters, at most `k + 1` when `lif` is a positive `k` -/
theorem handed_length_le {lif : Side} {iter : List Nat} {st : Int × List Nat}
    (h : scanFor lif iter 0 [0] = .ok st) :
    (if Side.some st.1 ≠ lif then st.2.length + 1 else st.2.length) ≤ iter.length + 2 ∧
    ∀ k, lif = .some k → 1 ≤ k →
      (if Side.some st.1 ≠ lif then st.2.length + 1 else st.2.length) ≤ k.toNat + 1 := by
  obtain ⟨e1, e2, -⟩ := scanFor_ok (Int.le_refl 0) (by decide) h
  have hn := scanCount_le lif 0 iter.length
  rw [List.length_singleton] at e2
  refine ⟨by split <;> omega, fun k hk h1 => ?_⟩
  have hs := scanCount_stop hk (show (0 : Int) < k by omega) iter.length
  split
  · rename_i hne
    have : st.1 ≠ k := fun e => hne (by rw [e, hk])
    omega
  · omega

theorem outputPartsLit_eq (line : Bytes) (b : UserBounds) (fields : List Nat) (opt : FastOpt) :
    outputPartsLit line b fields opt = outputParts line b fields opt := by
  unfold outputPartsLit outputParts
  generalize (if (opt.join && !b.isLast) = true then Run.ok [opt.delimiter] else Run.empty) = joiner
  cases fields with
  | nil => rfl
  | cons x xs =>
    simp only [List.length_cons, checkedSub_ok (Nat.le_add_left 1 _), orPanic, List.isEmpty_cons, Bool.false_eq_true,
      if_false, Nat.add_sub_cancel]
    cases hr : b.tryIntoRange xs.length with
    | none =>
      simp only [outputOf]
      cases b.fallback with
      | some f => rfl
      | none =>
        cases opt.fallbackOob with
        | some g => rfl
        | none => rfl
    | some se =>
      obtain ⟨s, e⟩ := se
      simp only [outputOf, index]
      cases hs : (x :: xs)[s]? with
      | none => rfl
      | some idxStart =>
        cases he : (x :: xs)[e]? with
        | none => rfl
        | some ep1 =>
          simp only [bind_ok, checkedSub, sliceRange]
          by_cases h1 : 1 ≤ ep1
          · by_cases h2 : idxStart ≤ ep1 - 1 ∧ ep1 - 1 ≤ line.length
            · simp only [if_pos h1, bind_ok, if_pos h2, if_pos (And.intro h1 h2)]
            · have h3 : ¬ (1 ≤ ep1 ∧ idxStart ≤ ep1 - 1 ∧ ep1 - 1 ≤ line.length) := fun h => h2 h.2
              simp only [if_pos h1, bind_ok, if_neg h2, if_neg h3, bind_panic]
          · have h3 : ¬ (1 ≤ ep1 ∧ idxStart ≤ ep1 - 1 ∧ ep1 - 1 ≤ line.length) := fun h => h1 h.1
            simp only [if_neg h1, if_neg h3, bind_panic]

theorem tryForEach_eq (buffer : Bytes) (fields : List Nat) (opt : FastOpt) :
    ∀ l : List BoF, tryForEach buffer fields opt l = fastOutputLoop buffer fields opt l := by
  intro l
  induction l with
  | nil => rfl
  | cons bof t ih =>
    cases bof with
    | filler f => simp only [tryForEach, tryForEachBody, fastOutputLoop, ih]
    | bound b => simp only [tryForEach, tryForEachBody, fastOutputLoop, ih, outputPartsLit_eq]

/-- `cut_str_fast_lane` (fast_lane.rs:35-90) on a buffer that is already trimmed, in the shape of the
    model's `fastAfterTrim`: the run, and the vector `fields` if the call touched it (l.46 clears it,
    so what it held does not matter).  `K` is what follows the scan (l.62-90): `afterScan`, or the
    copy of it with another `try_into_range` (`Props/WholeLit2`) -/
def afterTrimWith (K : Bytes → FastOpt → Side → Int × List Nat → Run × List Nat)
    (buffer : Bytes) (opt : FastOpt) (lif : Side) : Run × Option (List Nat) :=
  if buffer.isEmpty then
    ((if !opt.onlyDelimited then Run.ok [opt.eol.byte] else Run.empty), none)
  else
    match scanFor lif (memchrIter opt.delimiter buffer) 0 [0] with
    | .ok st => ((K buffer opt lif st).1, some (K buffer opt lif st).2)
    | .panic => (Run.panic, some [0])
    | .hang => (Run.hang, some [0])

/-- `cutStrFastLaneLoop` on a buffer that is already trimmed -/
def afterTrim (buffer : Bytes) (opt : FastOpt) (lif : Side) : Run × Option (List Nat) :=
  afterTrimWith afterScan buffer opt lif

theorem afterTrimWith_congr {K K' : Bytes → FastOpt → Side → Int × List Nat → Run × List Nat}
    {buffer : Bytes} {opt : FastOpt} {lif : Side}
    (h : ∀ st, scanFor lif (memchrIter opt.delimiter buffer) 0 [0] = .ok st →
      K buffer opt lif st = K' buffer opt lif st) :
    afterTrimWith K buffer opt lif = afterTrimWith K' buffer opt lif := by
  unfold afterTrimWith
  split
  · rfl
  · cases hsc : scanFor lif (memchrIter opt.delimiter buffer) 0 [0] with
    | ok st => simp only [h st hsc]
    | panic | hang => rfl

/-- cut as the model is (`cutStrFastLaneCore_eq`); the vector that came in is returned when the call did
    not touch it -/
theorem loop_of_trimmed (buf : Bytes) (opt : FastOpt) (fields : List Nat) (lif : Side) :
    cutStrFastLaneLoop buf opt fields lif =
      ((afterTrim (fastTrimmed buf opt) opt lif).1, (afterTrim (fastTrimmed buf opt) opt lif).2.getD fields) := by
  unfold cutStrFastLaneLoop afterTrim afterTrimWith fastTrimmed
  -- per value of `-t`: the text's `trim` is the model's (`trim_eq`); then the two sides are the same `if` on the
  -- empty buffer and the same `match` on what the scan returns, closed arm by arm
  cases opt.trim <;> simp only [trim_eq, push, clear, List.nil_append] <;> split <;>
    first | rfl | (generalize scanFor lif _ 0 [0] = x; cases x <;> rfl)

theorem fastTrimmed_sublist (buf : Bytes) (opt : FastOpt) : (fastTrimmed buf opt).Sublist buf := by
  unfold fastTrimmed
  cases opt.trim with
  | none => exact List.Sublist.refl _
  | some k => exact fastTrim_sublist buf k opt.delimiter

theorem afterTrim_eq (buffer : Bytes) (opt : FastOpt) (lif : Side)
    (hfit : CounterFits lif buffer.length) :
    afterTrim buffer opt lif = fastAfterTrim buffer opt lif := by
  unfold afterTrim afterTrimWith fastAfterTrim
  by_cases he : buffer.isEmpty = true
  · simp only [he, if_true]
  · simp only [he, Bool.false_eq_true, if_false]
    rw [scanFor_eq opt.delimiter lif buffer _ hfit]
    simp only [afterScan, push, tryForEach_eq, List.cons_append, List.nil_append]
    split <;> rfl

theorem fastScan_sublist (d : UInt8) (lif : Side) :
    ∀ (line : Bytes) (pos : Nat) (curr : Int),
      (fastScan d lif pos curr line).1.Sublist (List.range' (pos + 1) line.length) := by
  intro line
  induction line with
  | nil => intro pos curr; exact List.Sublist.slnil
  | cons c t ih =>
    intro pos curr
    rw [List.length_cons, List.range'_succ]
    by_cases hc : c = d
    · by_cases hs : Side.some (curr + 1) = lif
      · rw [fastScan_cons_stop d lif pos curr t hc hs]
        exact (List.nil_sublist _).cons_cons _
      · rw [fastScan_cons_go d lif pos curr t hc hs]
        exact (ih (pos + 1) (curr + 1)).cons_cons _
    · rw [fastScan_cons_ne d lif pos curr t hc]
      exact (ih (pos + 1) curr).cons _

/-- a vector of field starts the output loop can index safely: not empty, strictly increasing,
    nothing beyond the fake start `len + 1` -/
def GoodFields (fields : List Nat) (len : Nat) : Prop :=
  fields ≠ [] ∧ fields.Pairwise (· < ·) ∧ ∀ x ∈ fields, x ≤ len + 1

/-- `fake`: with the fake last start `buffer.len() + 1` (fast_lane.rs:67-74) -/
theorem goodFields_scan (d : UInt8) (lif : Side) (buffer : Bytes) (fake : Bool) :
    GoodFields (if fake then (0 :: (fastScan d lif 0 0 buffer).1) ++ [buffer.length + 1]
                else 0 :: (fastScan d lif 0 0 buffer).1) buffer.length := by
  have hsub : (if fake then (0 :: (fastScan d lif 0 0 buffer).1) ++ [buffer.length + 1]
      else 0 :: (fastScan d lif 0 0 buffer).1).Sublist (List.range' 0 (buffer.length + 2)) := by
    have h := (fastScan_sublist d lif buffer 0 0).cons_cons 0
    rw [← List.range'_succ] at h
    cases fake with
    | false => exact h.trans (List.range'_sublist_right.2 (Nat.le_succ _))
    | true =>
      rw [List.range'_concat]
      exact h.append (by rw [Nat.zero_add, Nat.one_mul]; exact List.Sublist.refl _)
  refine ⟨?_, List.Pairwise.sublist hsub List.pairwise_lt_range', ?_⟩
  · cases fake <;> exact List.cons_ne_nil _ _
  · intro x hx
    obtain ⟨i, hi, rfl⟩ := List.mem_range'.1 (hsub.subset hx)
    omega

/-- `output_parts` on good fields, for a bound whose left side is not the index 0, ends well or with
    an `Err`: every index exists, `fields[r.end] - 1` does not underflow and the slice is inside the
    line -/
theorem outputParts_safe (line : Bytes) (b : UserBounds) (fields : List Nat) (opt : FastOpt)
    (hg : GoodFields fields line.length) (hz : b.l ≠ .some 0) :
    (outputParts line b fields opt).Safe := by
  obtain ⟨hne, hpw, hle⟩ := hg
  unfold outputParts
  have hj : ∀ w : Bytes, ((Run.ok w).seq
      (if (opt.join && !b.isLast) = true then Run.ok [opt.delimiter] else Run.empty)).Safe :=
    fun w => (Run.safe_ok w).seq (Run.safe_ite (Run.safe_ok _) Run.safe_empty)
  have hemp : fields.isEmpty = false := by
    cases fields with
    | nil => exact absurd rfl hne
    | cons _ _ => rfl
  simp only [hemp, Bool.false_eq_true, if_false]
  cases hr : b.tryIntoRange (fields.length - 1) with
  | none =>
    exact Run.fallbackRule hj Run.safe_fail
  | some se =>
    obtain ⟨st, e⟩ := se
    obtain ⟨hse, hen⟩ := tryIntoRange_bounds b _ st e hz hr
    have hlen : 0 < fields.length := List.length_pos_iff.2 hne
    have hs : st < fields.length := by omega
    have he : e < fields.length := by omega
    have hlt : fields[st] < fields[e] := (List.pairwise_iff_getElem.1 hpw) st e hs he hse
    have hele := hle fields[e] (List.getElem_mem he)
    simp only [List.getElem?_eq_getElem hs, List.getElem?_eq_getElem he]
    rw [if_pos ⟨by omega, by omega, by omega⟩]
    exact hj _

theorem fastOutputLoop_safe (line : Bytes) (fields : List Nat) (opt : FastOpt)
    (hg : GoodFields fields line.length) :
    ∀ l : List BoF, LNZ l →
      (fastOutputLoop line fields opt l).Safe := by
  intro l hz
  rw [fastOutputLoop_eq_seqMap]
  refine Run.seqMap_safe fun bof hb => ?_
  cases bof with
  | filler f => exact Run.safe_ok f
  | bound b => exact outputParts_safe line b fields opt hg (hz b hb)

theorem fastAfterTrim_safe (buffer : Bytes) (opt : FastOpt) (lif : Side)
    (hz : LNZ opt.bounds.list) :
    (fastAfterTrim buffer opt lif).1.Safe := by
  unfold fastAfterTrim
  by_cases he : buffer.isEmpty = true
  · rw [if_pos he]
    exact Run.safe_ite (Run.safe_ok _) Run.safe_empty
  · rw [if_neg he]
    dsimp only
    by_cases hs : ((fastScan opt.delimiter lif 0 0 buffer).2 == 0 && opt.onlyDelimited) = true
    · rw [if_pos hs]; exact Run.safe_empty
    · rw [if_neg hs]
      have hg := goodFields_scan opt.delimiter lif buffer
        (decide (Side.some (fastScan opt.delimiter lif 0 0 buffer).2 ≠ lif))
      simp only [decide_eq_true_eq] at hg
      exact (fastOutputLoop_safe buffer _ opt hg opt.bounds.list hz).seq (Run.safe_ok _)

theorem forByteRecord_eq (opt : FastOpt) (lif : Side) :
    ∀ (recs : List Bytes) (fields : List Nat),
      (∀ r ∈ recs, ∀ f, cutStrFastLaneLoop r opt f lif = cutStrFastLane r opt f lif) →
      forByteRecord opt lif recs fields = fastRecords opt lif recs fields := by
  intro recs
  induction recs with
  | nil => intro _ _; rfl
  | cons r t ih =>
    intro fields h
    simp only [forByteRecord, fastRecords]
    rw [h r (by simp) fields, ih _ (fun r' hr' => h r' (List.mem_cons_of_mem _ hr'))]

theorem scanFor_overflow (lif : Side) (iter : List Nat) (curr : Int) (fields : List Nat)
    (h0 : 0 ≤ curr) (h1 : curr ≤ i32Max) (hk : ∀ k, lif = .some k → k ≤ curr ∨ i32Max < k)
    (h2 : i32Max < curr + iter.length) : scanFor lif iter curr fields = .panic := by
  rw [scanFor_closed lif iter curr fields h0 h1, if_neg]
  cases lif with
  | cont => simp only [scanCount]; omega
  | some k =>
    have := hk k rfl
    simp only [scanCount]
    split <;> omega

end FastLoop

theorem cutStrFastLane_safe (initialBuffer : Bytes) (opt : FastOpt) (fields : List Nat)
    (lastInterestingField : Side)
    (hz : LNZ opt.bounds.list) :
    (cutStrFastLane initialBuffer opt fields lastInterestingField).1.Safe :=
  FastLoop.fastAfterTrim_safe _ _ _ hz

theorem fastRecords_safe (opt : FastOpt) (lif : Side)
    (hz : LNZ opt.bounds.list) (recs : List Bytes) (fields : List Nat) :
    (fastRecords opt lif recs fields).Safe := by
  rw [fastRecords_eq_seqMap]
  exact Run.seqMap_safe fun r _ => cutStrFastLane_safe r opt [] lif hz

theorem readAndCutFast_safe (fo : FastOpt) (hz : LNZ fo.bounds.list) (input : Bytes) :
    (readAndCutFast fo input).Safe :=
  fastRecords_safe fo _ hz _ _

end Tuc
