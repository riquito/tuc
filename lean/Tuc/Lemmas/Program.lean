import Tuc.Model.Main
/-!
# `main` around a dispatch

`tucMain` and the literal transcriptions of `main` are one program text — `parse_args`, the regex
bag, the UTF-8 test of `-c`, the dispatch — around different dispatches.  `programWith d` is that
text; two instances are compared by comparing their dispatches where an engine runs, also across two
segmentations of the input.
-/
namespace Tuc

/-- `main` with the dispatch `d`, which is handed the `Opt` (regex bag filled in) and the flag
    `opt.fixed_memory.is_some()` that `parse_args` returns beside it -/
def programWith (d : Opt → Bool → List Bytes → Option Run) (regexOk : Arg → Bool) (argv : List Arg)
    (segs : List Bytes) : MainResult :=
  match parseArgv regexOk argv with
  | .help => .help
  | .version => .version
  | .reject => .reject
  | .panic => .panic
  | .run o fm regexText =>
    match compileBag o regexText with
    | Option.none => .unmodelled
    | Option.some bag =>
      if o.boundsType = .characters && !validUtf8 segs.flatten then .unmodelled
      else MainResult.ofDispatch (d { o with regexBag := bag } fm segs)

theorem tucMain_eq_programWith (regexOk : Arg → Bool) (argv : List Arg) (segs : List Bytes) :
    tucMain regexOk argv segs = programWith dispatch regexOk argv segs := by
  unfold tucMain programWith tucRun
  cases parseArgv regexOk argv <;> rfl

theorem compileBag_cases {o : Opt} {rt : Option Arg} {bag : Option RegexBag}
    (h : compileBag o rt = Option.some bag) :
    bag = none ∨ bag = Option.some charsBag ∨ ∃ r : Re, bag = Option.some (Re.bag r) := by
  unfold compileBag at h
  split at h
  · cases h; exact .inr (.inl rfl)
  · split at h
    · cases h; exact .inl rfl
    · split at h
      · split at h
        · cases h
        · cases h; exact .inr (.inr ⟨_, rfl⟩)
      · cases h

section
variable {regexOk : Arg → Bool} {argv : List Arg}

theorem programWith_of_run (d : Opt → Bool → List Bytes → Option Run) {segs : List Bytes} {o : Opt}
    {fm : Bool} {rt : Option Arg} {bag : Option RegexBag} (hp : parseArgv regexOk argv = .run o fm rt)
    (hc : compileBag o rt = Option.some bag)
    (hu : (o.boundsType = .characters && !validUtf8 segs.flatten) = false) :
    programWith d regexOk argv segs = MainResult.ofDispatch (d { o with regexBag := bag } fm segs) := by
  unfold programWith
  rw [hp]
  simp only [hc]
  exact if_neg (by rw [hu]; exact Bool.false_ne_true)

theorem programWith_congr {segs₁ segs₂ : List Bytes} {d₁ d₂ : Opt → Bool → List Bytes → Option Run}
    (hv : validUtf8 segs₁.flatten = validUtf8 segs₂.flatten)
    (h : ∀ o fm rt bag, parseArgv regexOk argv = .run o fm rt → compileBag o rt = Option.some bag →
      (o.boundsType = .characters && !validUtf8 segs₁.flatten) = false →
      d₁ { o with regexBag := bag } fm segs₁ = d₂ { o with regexBag := bag } fm segs₂) :
    programWith d₁ regexOk argv segs₁ = programWith d₂ regexOk argv segs₂ := by
  unfold programWith
  cases hp : parseArgv regexOk argv with
  | run o fm rt =>
    dsimp only
    cases hc : compileBag o rt with
    | none => rfl
    | some bag =>
      dsimp only
      rw [← hv]
      by_cases hu : (o.boundsType = .characters && !validUtf8 segs₁.flatten) = true
      · rw [if_pos hu, if_pos hu]
      · rw [if_neg hu, if_neg hu, h o fm rt bag hp hc (by simpa using hu)]
  | _ => rfl

end
end Tuc
