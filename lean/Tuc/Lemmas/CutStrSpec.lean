import Tuc.Model.CutStr
import Tuc.Lemmas.Split
import Tuc.Lemmas.UnpackSpec
import Tuc.Lemmas.Grammar
/-!
# Tuc.Lemmas.CutStrSpec — the general field engine refines the per-record specification

The literal splitters deliver ranges that are the fields of the specification's tokens (`GSep` of
`Tuc.Lemmas.Split`: `engine_gsep`), hence print its pieces (`GSep.text`).  The output stage is
compared with the specification once, for any field vector and any rendering `piece` of its ranges
that is what the engine prints (`RefinesText`: with or without `--json`, whatever the engine that
made the ranges): the loop is `emitWith` (`outputLoop_eq_emitWith`) and everything after the ranges
are known is `bodyWith` (`emitRecord_eq_bodyWith`) — `specBody` for tokens (`emitRecord_eq_specBody`).

Results: `fields_record_eq_spec` (one record) and `fields_run_eq_spec` (the run) — C01 and C08: field
mode, literal non-empty delimiter, with or without `--json`.  These two ARE the refinement theorems.
Their other names are end results that add a hypothesis no proof uses (`boundsType = .fields` for
`.fields ∨ .lines`; `json = false` in C01, `= true` in C08) and nothing else: `cutStr_eq_spec`,
`cutRecords_eq_spec`, `readAndCutStr_eq_specRun` (below), `general_record_eq_spec(_gen)`,
`general_engine_eq_spec(_gen)`, `plain_record_eq_spec` (`Props/C01`), `cutStr_eq_spec_any_json`,
`json_run_eq_spec` (`Props/C08Spec`).  `AllNonzero` and `LastMarked` hold of every list `from_str`
returns (`boundsListOfString_good`; the `_of_parsed` forms).

`Spec.specSep` is written with its prefix because `Tuc.specSep` (`Props/C08Spec`, the same body) exists;
`specLine`, `lineTok` have no such twin.
-/

namespace Tuc
open Tuc.Spec

/-- the record after `-t` -/
def trimmed (opt : Opt) (line : Bytes) : Bytes :=
  match opt.trim with
  | some k => trimLiteral line k opt.delimiter
  | none => line

theorem trimOf_literal {opt : Opt} (hre : opt.regexBag = none) (line : Bytes) :
    trimOf opt line = trimmed opt line := by
  unfold trimOf trimmed
  rw [hre]
  cases opt.trim <;> rfl

theorem cutStrCore_fields (line : Bytes) (opt : Opt) (eol : Bytes) (hre : opt.regexBag = none)
    (hty : opt.boundsType = .fields ∨ opt.boundsType = .lines) :
    (cutStrCore line opt eol).1 =
      if (trimmed opt line).isEmpty then (if !opt.onlyDelimited then Run.ok eol else Run.empty)
      else emitRecord (compressed opt (trimmed opt line))
        (engineFields opt (compressed opt (trimmed opt line)) opt.delimiter false) opt false eol := by
  -- without a regex the two guards are off, `-t` is `trimLiteral` and the `-p` step the literal squeeze
  rw [cutStrCore_eq, trimOf_literal hre]
  simp only [hre, Option.isSome_none, Bool.false_and, Bool.false_eq_true, if_false]
  unfold afterTrim
  rw [compressOf_literal hre hty]
  split <;> rfl

theorem specLine_of_fields (opt : Opt) (hty : opt.boundsType = .fields ∨ opt.boundsType = .lines)
    (line : Bytes) : specLine (cfgOf opt) line = trimmed opt line := by
  simp only [specLine, trimmed, cfgOf, (decide_fieldsMode hty).2, Bool.false_eq_true, if_false]
  rfl

theorem lineTok_of_fields (opt : Opt) (hty : opt.boundsType = .fields ∨ opt.boundsType = .lines)
    (l : Bytes) :
    lineTok (cfgOf opt) l =
      some (tokenize opt.delimiter opt.greedyDelimiter opt.compressDelimiter l) := by
  obtain ⟨h1, h2⟩ := decide_fieldsMode hty
  simp only [lineTok, cfgOf, h1, h2, Bool.and_true, Bool.false_eq_true, if_false]

theorem specSep_of_fields (opt : Opt) (hty : opt.boundsType = .fields ∨ opt.boundsType = .lines) :
    Spec.specSep (cfgOf opt) = repeatBytes (opt.replaceDelimiter.getD opt.delimiter) := by
  funext k
  simp only [Spec.specSep, cfgOf, (decide_fieldsMode hty).2, Bool.false_eq_true, if_false]
  cases opt.replaceDelimiter <;> rfl

theorem engine_gsep (opt : Opt) (line' : Bytes) (hd : opt.delimiter ≠ []) (hline : line' ≠ [])
    (hnc : opt.boundsType ≠ .characters) :
    let tok := tokenize opt.delimiter opt.greedyDelimiter opt.compressDelimiter line'
    GSep opt.delimiter (compressed opt line') 0
        (engineFields opt (compressed opt line') opt.delimiter false) ((0, tok.first) :: tok.rest) ∧
      TokOK opt.delimiter ((0, tok.first) :: tok.rest) := by
  rw [engineFields_literal hnc]
  unfold compressed
  cases hp : opt.compressDelimiter with
  | false =>
    cases hg : opt.greedyDelimiter with
    | false => exact ⟨plain_fields_gsep _ line' hd hline, tokenize_ok _ line' hd false⟩
    | true => exact ⟨greedy_fields_tiling _ line' hd hline, tokenize_ok _ line' hd true⟩
  | true =>
    have hne := compress_ne_nil opt.delimiter line' hd hline
    rw [tokenize_compress opt.delimiter line' hd]
    cases hg : opt.greedyDelimiter with
    | false => exact ⟨plain_fields_gsep _ _ hd hne, tokenize_ok _ _ hd false⟩
    | true => exact ⟨greedy_fields_tiling _ _ hd hne, tokenize_ok _ _ hd true⟩

/-- all the output stage needs to know about the ranges, whichever splitter made them (the
    literal-delimiter ones here, the character splitter in `Props/C07Spec.lean`, the regex one in
    `Lemmas/RegexSpec.lean`): they lie in the line in order, and the text actually printed for the
    fields `a + 1 … b + 1` — the slice after `maybeReplaceDelimiter` (`-r`) — is `piece (a + 1) (b + 1)` -/
structure RefinesText (opt : Opt) (line : Bytes) (fields : List Range) (piece : Nat → Nat → Bytes) :
    Prop where
  inb : ∀ (a b : Nat) (_ : a ≤ b) (hb : b < fields.length),
    (fields[a]'(by omega)).start ≤ fields[b].stop ∧ fields[b].stop ≤ line.length
  text : ∀ (a b : Nat) (_ : a ≤ b) (hb : b < fields.length),
    maybeReplaceDelimiter (slice line (fields[a]'(by omega)).start fields[b].stop) opt false =
      piece (a + 1) (b + 1)

/-- `-r` on a printed slice replaces exactly the separators the specification counted: no delimiter
    occurs inside a field (`hok`) -/
theorem GSep.text {opt : Opt} {line : Bytes} {fields : List Range} {tok : Tok}
    (h : GSep opt.delimiter line 0 fields ((0, tok.first) :: tok.rest))
    (hok : TokOK opt.delimiter ((0, tok.first) :: tok.rest)) (hd : opt.delimiter ≠ [])
    (hre : opt.regexBag = none) (hty : opt.boundsType = .fields ∨ opt.boundsType = .lines) :
    RefinesText opt line fields (pieceText (Spec.specSep (cfgOf opt)) tok) := by
  refine ⟨fun a b hab hb => ⟨(h.range a b hab hb).1, (h.range a b hab hb).2.1⟩, fun a b hab hb => ?_⟩
  rw [specSep_of_fields opt hty]
  unfold maybeReplaceDelimiter
  rw [h.slice_pieceText a b hab hb, if_neg (BoundsType.ne_characters hty)]
  simp only [hre]
  cases opt.replaceDelimiter with
  | none => rfl
  | some r => exact pieceText_replace opt.delimiter r hd tok hok (a + 1) (b + 1)

/-- one step of the engine's loop (write the text, then the joiner unless `is_last`, then the
    rest) is one step of `emitWith` (the joiner if a bound follows) -/
theorem joiner_algebra (x J : Bytes) (join isLast : Bool) (c : Nat) (R : Run)
    (h : isLast = true ↔ c = 0) :
    ((Run.ok x).seq (if join && !isLast then Run.ok J else Run.empty)).seq R =
      Run.pre (x ++ (if join && decide (c > 0) then J else [])) R := by
  cases join <;> cases isLast <;> simp at h <;>
    simp [Run.seq, Run.ok, Run.pre, Run.empty, h, List.append_assoc]

theorem outputBof_of_range (line : Bytes) (fields : List Range) (opt : Opt) (c : Bool)
    (b : UserBounds) (s e : Nat) (hb : b.tryIntoRange fields.length = some (s, e))
    (hs : s < fields.length) (he : e - 1 < fields.length)
    (hin : fields[s].start ≤ fields[e - 1].stop ∧ fields[e - 1].stop ≤ line.length) :
    outputBof line fields fields.length opt c (.bound b) =
      (writeMaybeAsJson (maybeReplaceDelimiter (slice line fields[s].start fields[e - 1].stop) opt c)
        opt.json).seq
        (if opt.join && !b.isLast then Run.ok (opt.replaceDelimiter.getD opt.delimiter)
         else Run.empty) := by
  unfold outputBof
  simp only [hb, List.getElem?_eq_getElem hs, List.getElem?_eq_getElem he]
  rw [if_pos hin]

theorem write_unreplaced (opt : Opt) (b : UserBounds) (x : Bytes) (hjson : opt.json = false)
    (hrep : opt.replaceDelimiter = none) (hty : opt.boundsType = .fields) :
    (writeMaybeAsJson (maybeReplaceDelimiter x opt false) opt.json).seq
        (if opt.join && !b.isLast then Run.ok (opt.replaceDelimiter.getD opt.delimiter)
         else Run.empty) =
      (Run.ok x).seq
        (if opt.join = true ∧ b.isLast = false then Run.ok opt.delimiter else Run.empty) := by
  simp only [maybeReplaceDelimiter, hty, hrep, writeMaybeAsJson, hjson, Option.getD_none]
  cases opt.join <;> cases b.isLast <;> rfl

theorem GSep.bound_output {d line : Bytes} {gs : List Range} {tok : Tok}
    (h : GSep d line 0 gs ((0, tok.first) :: tok.rest)) (opt : Opt) (b : UserBounds) (s e : Nat)
    (hjson : opt.json = false) (hrep : opt.replaceDelimiter = none)
    (hty : opt.boundsType = .fields) (hz : b.l ≠ .some 0)
    (hb : b.tryIntoRange gs.length = some (s, e)) :
    outputBof line gs gs.length opt false (.bound b) =
      (Run.ok (pieceText (repeatBytes d) tok (s + 1) e)).seq
        (if opt.join = true ∧ b.isLast = false then Run.ok opt.delimiter else Run.empty) := by
  obtain ⟨hse, hen⟩ := tryIntoRange_bounds b _ s e hz hb
  obtain ⟨l, rfl⟩ : ∃ l, e = l + 1 := ⟨e - 1, by omega⟩
  have hsl : s ≤ l := Nat.le_of_lt_succ hse
  obtain ⟨h1, h2, _⟩ := h.range s l hsl hen
  rw [outputBof_of_range line _ opt false b s (l + 1) hb (Nat.lt_of_le_of_lt hsl hen) hen ⟨h1, h2⟩]
  exact h.slice_pieceText s l hsl hen ▸ write_unreplaced opt b _ hjson hrep hty

theorem writeMaybeAsJson_eq (opt : Opt) (x : Bytes) :
    writeMaybeAsJson x opt.json =
      match rendered (cfgOf opt) x with
      | none => Run.fail
      | some x' => Run.ok x' := by
  unfold writeMaybeAsJson rendered
  show _ = match (if opt.json = true then _ else _ : Option Bytes) with | none => _ | some x' => _
  cases opt.json <;> cases validUtf8 x <;> rfl

theorem write_joiner_algebra (opt : Opt) (x J : Bytes) (isLast : Bool) (c : Nat) (R : Run)
    (h : isLast = true ↔ c = 0) :
    ((writeMaybeAsJson x opt.json).seq (if opt.join && !isLast then Run.ok J else Run.empty)).seq R =
      match rendered (cfgOf opt) x with
      | none => Run.fail
      | some x' => Run.pre (x' ++ (if opt.join && decide (c > 0) then J else [])) R := by
  rw [writeMaybeAsJson_eq]
  cases rendered (cfgOf opt) x with
  | none => rfl
  | some x' => exact joiner_algebra _ _ _ _ _ _ h

theorem outputLoop_eq_emitWith {opt : Opt} {line : Bytes} {fields : List Range}
    {piece : Nat → Nat → Bytes} (hR : RefinesText opt line fields piece) :
    ∀ (bofs : List BoF), AllNonzero bofs → LastMarked bofs →
      outputLoop line fields fields.length opt false bofs =
        emitWith (cfgOf opt) fields.length piece (opt.replaceDelimiter.getD opt.delimiter) bofs
  | [], _, _ => rfl
  | .filler f :: t, hz, hL => by
    have ih := outputLoop_eq_emitWith hR t
      (fun b hb => hz b (List.mem_cons_of_mem _ hb)) hL
    simp only [outputLoop, outputBof, emitWith, Run.seq_ok, ih]
  | .bound b :: t, hz, hL => by
    have ih := outputLoop_eq_emitWith hR t
      (fun b hb => hz b (List.mem_cons_of_mem _ hb)) hL.2
    have htr := tryIntoRange_eq_resolve b fields.length (hz b (List.mem_cons_self ..))
    rw [outputLoop, ih, emitWith]
    cases hres : resolve b fields.length with
    | none =>
      rw [hres] at htr
      unfold outputBof
      simp only [htr]
      cases b.fallback with
      | some f => exact write_joiner_algebra _ _ _ _ _ _ hL.1
      | none =>
        rw [show (cfgOf opt).fallback = opt.fallbackOob from rfl]
        cases opt.fallbackOob with
        | some f => exact write_joiner_algebra _ _ _ _ _ _ hL.1
        | none => rfl
    | some p =>
      obtain ⟨lo, hi⟩ := p
      rw [hres] at htr
      obtain ⟨h1, h2, h3⟩ := resolve_range hres
      obtain ⟨a, rfl⟩ : ∃ a, lo = a + 1 := ⟨lo - 1, by omega⟩
      obtain ⟨l, rfl⟩ : ∃ l, hi = l + 1 := ⟨hi - 1, by omega⟩
      have hal : a ≤ l := Nat.le_of_succ_le_succ h2
      rw [outputBof_of_range line fields opt false b a (l + 1) htr (Nat.lt_of_le_of_lt hal h3) h3
        (hR.inb a l hal h3)]
      exact hR.text a l hal h3 ▸ write_joiner_algebra _ _ _ _ _ _ hL.1

theorem bodyWith_cfgOf (opt : Opt) (n : Nat) (piece : Nat → Nat → Bytes) (j : Bytes) (x : Bool) :
    bodyWith (cfgOf opt) n piece j x =
      if opt.onlyDelimited && n == 1 then Run.empty
      else if opt.complement && countBounds (specBofs opt n) == 0 then
        ⟨if opt.json then [0x5B] else [], .fail⟩
      else
        Run.pre (if opt.json then [0x5B] else [])
          ((emitWith (cfgOf opt) n piece j
              (if x then mapBounds (expandBound · n) (specBofs opt n) else specBofs opt n)).seq
            (Run.ok ((if opt.json then [0x5D] else []) ++ [opt.eol.byte]))) := rfl

/-- the last argument: the engine expands ranges under `--json`, and in character mode when there
    is a replacement -/
theorem emitRecord_eq_bodyWith (opt : Opt) (line : Bytes) (fields : List Range)
    (piece : Nat → Nat → Bytes) (hR : RefinesText opt line fields piece)
    (hz : AllNonzero opt.bounds.list) (hL : LastMarked opt.bounds.list) :
    emitRecord line fields opt false [opt.eol.byte] =
      bodyWith (cfgOf opt) fields.length piece (opt.replaceDelimiter.getD opt.delimiter)
        (opt.json || (opt.boundsType = .characters && opt.replaceDelimiter.isSome)) := by
  rw [bodyWith_cfgOf, emitRecord_eq]
  by_cases hs : (opt.onlyDelimited && fields.length == 1) = true
  · rw [if_pos hs, if_pos hs]
  · rw [if_neg hs, if_neg hs]
    rcases loopBounds_spec opt fields.length hz hL with ⟨h0, hfail⟩ | ⟨h0, ubl, hok, hz1, hL1, hemit⟩
    · rw [if_pos h0, hfail]
      cases opt.json <;> rfl
    · rw [h0, if_neg Bool.false_ne_true, hok]
      simp only []
      rw [outputLoop_eq_emitWith hR _ hz1 hL1, hemit]
      cases opt.json
      · simp
      · rw [Run.seq_assoc]; rfl

/-- for tokens, where the specification expands ranges exactly when the engine does (field mode;
    character mode with `--json` or a replacement) -/
theorem emitRecord_eq_specBody (opt : Opt) (line : Bytes) (fields : List Range) (tok : Tok)
    (hR : RefinesText opt line fields (pieceText (Spec.specSep (cfgOf opt)) tok))
    (hlen : fields.length = tok.numFields)
    (hx : opt.boundsType = .characters → (opt.json || opt.replaceDelimiter.isSome) = true)
    (hz : AllNonzero opt.bounds.list) (hL : LastMarked opt.bounds.list) :
    emitRecord line fields opt false [opt.eol.byte] = specBody (cfgOf opt) tok := by
  rw [emitRecord_eq_bodyWith opt line fields _ hR hz hL, specBody_eq_bodyWith, hlen]
  congr 1
  show _ = (opt.json || decide (opt.boundsType = .characters))
  by_cases hc : opt.boundsType = .characters
  · have := hx hc
    cases hj : opt.json <;> simp_all
  · simp [hc]

/-- **C01 and C08, one record** — THE record theorem (the header lists its other names).  The
    general engine in field mode with a literal non-empty delimiter — any of `-g -p -t -s -j -r -m`, fallbacks, format fillers, with or without `--json`;
    no regex — writes for every record (UTF-8 or not) exactly what the per-record specification
    says, and ends as it says (never a panic).  `hz`, `hL`: no bound has the index 0 and `is_last`
    sits on exactly the last bound, as in every list `from_str` returns (`boundsListOfString_good`). -/
theorem fields_record_eq_spec (opt : Opt) (line : Bytes) (hd : opt.delimiter ≠ [])
    (hre : opt.regexBag = none) (hty : opt.boundsType = .fields ∨ opt.boundsType = .lines)
    (hz : AllNonzero opt.bounds.list) (hL : LastMarked opt.bounds.list) :
    (cutStrCore line opt [opt.eol.byte]).1 = specRecord (cfgOf opt) line := by
  rw [cutStrCore_fields line opt _ hre hty, Spec.specRecord_eq, specLine_of_fields opt hty,
    lineTok_of_fields opt hty]
  by_cases he : (trimmed opt line).isEmpty = true
  · rw [if_pos he, if_pos he]
    show _ = if opt.onlyDelimited = true then _ else _
    cases opt.onlyDelimited <;> rfl
  · rw [if_neg he, if_neg he]
    obtain ⟨hG, hok⟩ := engine_gsep opt (trimmed opt line) hd (fun h => he (by rw [h]; rfl))
      (BoundsType.ne_characters hty)
    exact emitRecord_eq_specBody opt _ _ _ (hG.text hok hd hre hty) hG.length_eq
      (fun hc => absurd hc (BoundsType.ne_characters hty)) hz hL

theorem cutRecords_eq_specRunRecords (opt : Opt) (recs : List Bytes) (f₀ : List Range) (b₀ : Bytes)
    (h : ∀ r ∈ recs, (cutStrCore r opt [opt.eol.byte]).1 = specRecord (cfgOf opt) r) :
    cutRecords opt recs f₀ b₀ = specRunRecords (cfgOf opt) recs := by
  rw [cutRecords_eq_seqMap, specRunRecords_eq_seqMap, Run.seqMap_congr h]

/-- **C01 and C08, the run** — THE run theorem (the header lists its other names).  On a
    fault-free reader the general engine in field mode is the specification: records in order, each by `specRecord`, stop at the first failure.  Hypotheses
    as in `fields_record_eq_spec`. -/
theorem fields_run_eq_spec (opt : Opt) (input : Bytes) (hd : opt.delimiter ≠ [])
    (hre : opt.regexBag = none) (hty : opt.boundsType = .fields ∨ opt.boundsType = .lines)
    (hz : AllNonzero opt.bounds.list) (hL : LastMarked opt.bounds.list) :
    readAndCutStr opt input = specRun (cfgOf opt) input :=
  cutRecords_eq_specRunRecords opt _ [] [] fun r _ => fields_record_eq_spec opt r hd hre hty hz hL

/-- **every accepted `--fields` argument satisfies the two hypotheses of `fields_record_eq_spec` on
    the bounds list**: no index 0 is a reading of `boundsListOfString_wf`; `from_str` leaves `is_last` clear on every
    bound, so `fromVec` sets it on the last one only -/
theorem boundsListOfString_good (s : List Char) (ubl : UserBoundsList)
    (h : boundsListOfString s = .ok ubl) : AllNonzero ubl.list ∧ LastMarked ubl.list := by
  obtain ⟨l, hl, -, hv⟩ := boundsListOfString_ok h
  exact ⟨parsed_nonzero s ubl h,
    markLast_lastMarked l _ (parseBoundsList_all _ accepted_isLast_false s l hl) (fromVec_ok hv).1⟩

/-! `fields_record_eq_spec` / `fields_run_eq_spec` for `boundsType = .fields` and with `json = false`
(not used), the form `Props/C01` calls -/

theorem cutStr_eq_spec (opt : Opt) (line : Bytes) (hd : opt.delimiter ≠ [])
    (hre : opt.regexBag = none) (hty : opt.boundsType = .fields) (hjson : opt.json = false)
    (hz : AllNonzero opt.bounds.list) (hL : LastMarked opt.bounds.list) :
    (cutStrCore line opt [opt.eol.byte]).1 = specRecord (cfgOf opt) line :=
  fields_record_eq_spec opt line hd hre (Or.inl hty) hz hL

theorem cutRecords_eq_spec (opt : Opt) (hd : opt.delimiter ≠ [])
    (hre : opt.regexBag = none) (hty : opt.boundsType = .fields) (hjson : opt.json = false)
    (hz : AllNonzero opt.bounds.list) (hL : LastMarked opt.bounds.list)
    (recs : List Bytes) (f₀ : List Range) (b₀ : Bytes) :
    cutRecords opt recs f₀ b₀ = specRunRecords (cfgOf opt) recs :=
  cutRecords_eq_specRunRecords opt recs f₀ b₀ fun r _ => cutStr_eq_spec opt r hd hre hty hjson hz hL

theorem readAndCutStr_eq_specRun (opt : Opt) (input : Bytes) (hd : opt.delimiter ≠ [])
    (hre : opt.regexBag = none) (hty : opt.boundsType = .fields) (hjson : opt.json = false)
    (hz : AllNonzero opt.bounds.list) (hL : LastMarked opt.bounds.list) :
    readAndCutStr opt input = specRun (cfgOf opt) input :=
  fields_run_eq_spec opt input hd hre (Or.inl hty) hz hL

end Tuc
