import Tuc.Model.LinesLoop
import Tuc.Lemmas.Run
import Tuc.Lemmas.Lines
import Tuc.Props.C07
/-!
# Lemmas for `Tuc.Props.LinesLoop`: the literal loops of `cut_lines.rs` against `Tuc.Model.Lines`

One theorem per loop: `innerWhile_eq` (the loop over the bounds for one line is `fwdLine`), `epilogueWhile_eq` (the
epilogue is `fwdEnd`), `readWhile_eq` (the read loop, then the epilogue, is `fwdLines`); one turn of the first two is one
arm of the model's function (`innerBody_eq`, `fwdEnd_cons`).  Two notions carry them:
`Tracks idx lineIdx past` — the `i32` counter `line_idx` with its flag `past_last_index` stands for the model's
unbounded index `idx` — and `PastOk b` — what makes the two tests that consult the flag answer as `matches` does
beyond `i32::MAX`.  "l.N" is line N of `/repo/src/cut_lines.rs` (`cut_lines_forward_only`, l.10-127).
-/

namespace Tuc
namespace LinesLoop

/-- `strip_suffix(eol)` keeps validity both ways: the EOL is ASCII (`validUtf8_split_ascii`) -/
theorem validUtf8_stripEol (e : EOL) (raw : Bytes) :
    validUtf8 (stripEol e.byte raw) = validUtf8 raw := by
  unfold stripEol
  cases hl : raw.getLast? with
  | none => rfl
  | some c =>
    obtain ⟨l, rfl⟩ := List.getLast?_eq_some_iff.1 hl
    dsimp only
    split
    · next hc =>
      rw [List.dropLast_concat, hc, validUtf8_split_ascii _ (EOL.byte_ascii e)]
      exact (Bool.and_true _).symm
    · rfl

theorem reader_step (e : EOL) (stdin : Bytes) (hne : stdin ≠ []) :
    ∃ raw rest, readUntil e.byte stdin = (raw, rest) ∧ raw ≠ [] ∧ rest.length < stdin.length ∧
      records e.byte stdin = stripEol e.byte raw :: records e.byte rest ∧
      validUtf8 raw = validUtf8 (stripEol e.byte raw) := by
  obtain ⟨h1, h2, h3⟩ := rawLines_readUntil e.byte hne
  refine ⟨_, _, rfl, h1, h2, ?_, (validUtf8_stripEol e _).symm⟩
  rw [records_eq_map_stripEol, h3, List.map_cons, ← records_eq_map_stripEol]

theorem readLineWithEol_def (e : EOL) (stdin : Bytes) :
    readLineWithEol stdin e =
      (if validUtf8 (readUntil e.byte stdin).1 then
          (if (readUntil e.byte stdin).1.length == 0 then .none
            else .someOk (readUntil e.byte stdin).1)
        else .someErr, (readUntil e.byte stdin).2) := by
  -- the two arms of `match eol` (read_utils.rs:23) differ in how the bytes reach the buffer, not in the result
  cases e
  all_goals
    unfold readLineWithEol
    simp only [show EOL.newline.byte = 10 from rfl, List.nil_append]
    generalize readUntil _ stdin = p
    by_cases hv : validUtf8 p.1 = true
    · simp only [hv, if_true]
      split <;> rfl
    · simp only [hv, Bool.false_eq_true, if_false]

theorem readLineWithEol_nil (e : EOL) : readLineWithEol [] e = (.none, []) := by
  cases e <;> rfl

theorem readLineWithEol_eq (e : EOL) (stdin raw rest : Bytes) (h : readUntil e.byte stdin = (raw, rest))
    (hne : raw ≠ []) :
    readLineWithEol stdin e = (if validUtf8 raw then .someOk raw else .someErr, rest) := by
  have hlen : (raw.length == 0) = false := by
    cases raw with
    | nil => exact absurd rfl hne
    | cons _ _ => rfl
  rw [readLineWithEol_def, h]
  simp only [hlen, Bool.false_eq_true, if_false]

theorem empty_eq_ok : Run.empty = Run.ok [] := rfl

theorem joinWrite_eq (opt : Opt) (pre : List BoF) (x : BoF) (t : List BoF)
    (h : opt.bounds.list = pre ++ x :: t) :
    joinWrite opt (pre.length + 1) = Run.ok (lineJoiner opt t) := by
  unfold joinWrite lineJoiner
  rw [h]
  have : (pre.length + 1 != (pre ++ x :: t).length) = !t.isEmpty := by
    cases t <;> simp
  rw [this]
  split <;> rfl

/-- what makes the two tests that consult `past_last_index` (`is_match`, l.52-56, and l.66) give the
    answers of `matches` and of `b.r == Side::Some(idx)` at the true line number `idx > i32::MAX`:
    every written side is at most `i32::MAX`, and an open-ended
    bound does not start at a negative index (both hold for every bound of a forward-only list the
    parser produced) -/
def PastOk (b : UserBounds) : Prop :=
  (∀ v, b.l = .some v → v ≤ i32Max) ∧ (∀ w, b.r = .some w → w ≤ i32Max) ∧
  (b.r = .cont → ∀ v, b.l = .some v → 0 ≤ v)

/-- the pair `(line_idx, past_last_index)` stands for the model's index `idx`: equal to it while
    it fits, stuck at `i32::MAX` with the flag set afterwards -/
def Tracks (idx lineIdx : Int) (past : Bool) : Prop :=
  (past = false ∧ lineIdx = idx ∧ 0 ≤ idx ∧ idx ≤ i32Max) ∨
  (past = true ∧ lineIdx = i32Max ∧ i32Max < idx)

theorem tracks_step {idx lineIdx : Int} {past : Bool} (h : Tracks idx lineIdx past) (k : Nat)
    (a : Bool) :
    ∃ li' p', nextLine ⟨lineIdx, past, k, a⟩ = ⟨li', p', k, a⟩ ∧ Tracks (idx + 1) li' p' := by
  have hnone : i32Max ≤ lineIdx → i32CheckedAdd lineIdx 1 = Option.none :=
    fun hm => if_neg fun hc => Int.not_lt.2 hm (Int.lt_of_add_one_le hc.2)
  unfold nextLine
  rcases h with ⟨rfl, rfl, h0, h1⟩ | ⟨rfl, rfl, h1⟩
  · by_cases hm : lineIdx < i32Max
    · have hadd : i32CheckedAdd lineIdx 1 = Option.some (lineIdx + 1) :=
        if_pos ⟨Int.le_trans (by decide) (Int.le_add_of_nonneg_left h0), Int.add_one_le_of_lt hm⟩
      rw [hadd]
      exact ⟨_, _, rfl, Or.inl ⟨rfl, rfl, Int.le_add_one h0, Int.add_one_le_of_lt hm⟩⟩
    · have he : lineIdx = i32Max := Int.le_antisymm h1 (Int.not_lt.1 hm)
      rw [hnone (Int.not_lt.1 hm)]
      exact ⟨_, _, rfl, Or.inr ⟨rfl, he, he ▸ Int.lt_add_one_of_le (Int.le_refl _)⟩⟩
  · rw [hnone (Int.le_refl _)]
    exact ⟨_, _, rfl, Or.inr ⟨rfl, rfl, Int.lt_trans h1 (Int.lt_add_one_of_le (Int.le_refl _))⟩⟩

/-- `is_match`, l.52-56: past the last `i32` index a `PastOk` bound matches exactly when it is open-ended -/
theorem isMatch_eq {idx lineIdx : Int} {past : Bool} (h : Tracks idx lineIdx past) (b : UserBounds)
    (hb : past = true → PastOk b) :
    (if past then decide (b.r = Side.cont) else (b.matches lineIdx).getD false) =
      (b.matches idx).getD false := by
  rcases h with ⟨hp, rfl, _, _⟩ | ⟨hp, _, hbig⟩
  · rw [hp]
    rfl
  · obtain ⟨hl, hr, hneg⟩ := hb hp
    rw [hp, if_pos rfl, Bool.eq_iff_iff, decide_eq_true_iff,
      UserBounds.matches_iff (Int.lt_trans (by decide) hbig)]
    -- no written side reaches `idx`
    constructor
    · intro hc
      exact ⟨fun u hu => ⟨hneg hc u hu, Int.le_of_lt (Int.lt_of_le_of_lt (hl u hu) hbig)⟩,
        fun v hv => by rw [hc] at hv; cases hv⟩
    · intro ⟨_, hR⟩
      cases hbr : b.r with
      | cont => rfl
      | some w => exact absurd (hR w hbr) (Int.not_le.2 (Int.lt_of_le_of_lt (hr w hbr) hbig))

/-- the test of l.66: past the last `i32` index no `PastOk` bound is exhausted -/
theorem exhausted_eq {idx lineIdx : Int} {past : Bool} (h : Tracks idx lineIdx past) (b : UserBounds)
    (hb : past = true → PastOk b) :
    (!past && decide (b.r = Side.some lineIdx)) = decide (b.r = Side.some idx) := by
  rcases h with ⟨hp, rfl, _, _⟩ | ⟨hp, _, hbig⟩
  · simp only [hp, Bool.not_false, Bool.true_and]
  · obtain ⟨_, hr, _⟩ := hb hp
    have : ¬ b.r = Side.some idx := by
      intro e
      have := hr idx e
      omega
    simp [hp, this]

theorem getElem?_at (pre : List BoF) (x : BoF) (t : List BoF) : (pre ++ x :: t)[pre.length]? = Option.some x := by
  simp

theorem lt_length_append_cons (pre : List BoF) (x : BoF) (t : List BoF) :
    pre.length < (pre ++ x :: t).length := by
  rw [List.length_append]
  exact Nat.lt_add_of_pos_right (Nat.succ_pos _)

theorem append_cons_eq (pre : List BoF) (x : BoF) (t : List BoF) :
    pre ++ x :: t = (pre ++ [x]) ++ t ∧ (pre ++ [x]).length = pre.length + 1 :=
  ⟨by rw [List.append_assoc]; rfl, List.length_append⟩

/-- the body of the loop, l.36-80 -/
theorem innerBody_eq (opt : Opt) (line : Bytes) {idx li : Int} {p : Bool} (htr : Tracks idx li p) (a : Bool)
    (pre : List BoF) (x : BoF) (t : List BoF) (h : opt.bounds.list = pre ++ x :: t)
    (hok : p = true → ∀ b, BoF.bound b ∈ x :: t → PastOk b) :
    innerBody opt line ⟨li, p, pre.length, a⟩ =
      match x with
      | .filler f => (Run.ok (f ++ lineJoiner opt t), ⟨li, p, pre.length + 1, a⟩, true)
      | .bound b =>
        if (b.matches idx).getD false then
          if b.r = .some idx then
            (Run.ok ((if a then [opt.eol.byte] else []) ++ line ++ lineJoiner opt t),
              ⟨li, p, pre.length + 1, false⟩, true)
          else (Run.ok ((if a then [opt.eol.byte] else []) ++ line), ⟨li, p, pre.length, true⟩, false)
        else (Run.empty, ⟨li, p, pre.length, a⟩, false) := by
  have hget : opt.bounds.list[pre.length]? = Option.some x := by rw [h]; exact getElem?_at _ _ _
  cases x with
  | filler f => simp only [innerBody, hget, joinWrite_eq opt pre _ t h, Run.ok_seq_ok]
  | bound b =>
    have hb := fun hp => hok hp b List.mem_cons_self
    simp only [innerBody, hget, isMatch_eq htr b hb, exhausted_eq htr b hb, joinWrite_eq opt pre _ t h,
      decide_eq_true_eq]
    cases a <;> rfl

theorem innerWhile_done (opt : Opt) (line : Bytes) (fuel : Nat) (v : Vars)
    (h : ¬ v.boundsIdx < opt.bounds.list.length) :
    innerWhile opt line (fuel + 1) v = (Run.empty, v) := by
  simp only [innerWhile, if_neg h]

theorem innerWhile_break (opt : Opt) (line : Bytes) (fuel : Nat) {v v' : Vars} {r : Run}
    (h : v.boundsIdx < opt.bounds.list.length) (hb : innerBody opt line v = (r, v', false)) :
    innerWhile opt line (fuel + 1) v = (r, v') := by
  simp only [innerWhile, if_pos h, hb, Bool.false_eq_true, if_false]

theorem innerWhile_continue (opt : Opt) (line : Bytes) (fuel : Nat) {v v' : Vars} {r : Run}
    (h : v.boundsIdx < opt.bounds.list.length) (hb : innerBody opt line v = (r, v', true)) :
    innerWhile opt line (fuel + 1) v
      = (r.seq (innerWhile opt line fuel v').1, (innerWhile opt line fuel v').2) := by
  simp only [innerWhile, if_pos h, hb, if_true]

/-- l.35-81; `bounds.len() + 1` units of fuel (any amount above the number of pending elements) are enough -/
theorem innerWhile_eq (opt : Opt) (line : Bytes) (idx li : Int) (p : Bool) (htr : Tracks idx li p)
    (rest pre : List BoF) (fuel : Nat) (a : Bool) :
    opt.bounds.list = pre ++ rest →
      rest.length < fuel → (p = true → ∀ b, BoF.bound b ∈ rest → PastOk b) →
      ∃ pre', opt.bounds.list = pre' ++ (fwdLine opt line idx rest a).2.1 ∧
        innerWhile opt line fuel ⟨li, p, pre.length, a⟩ =
          (Run.ok (fwdLine opt line idx rest a).1,
            ⟨li, p, pre'.length, (fwdLine opt line idx rest a).2.2⟩) := by
  fun_induction fwdLine opt line idx rest a generalizing pre fuel
  all_goals
    intro h hf hok
    obtain ⟨f, rfl⟩ := Nat.exists_eq_add_of_lt hf
  case case1 a =>                                   -- nil: the test of l.35 fails
    refine ⟨pre, h, innerWhile_done opt line _ _ ?_⟩
    rw [h, List.append_nil]
    exact Nat.lt_irrefl _
  case case2 x t a w r a' e ih | case3 x t a hm _ hr w r a' e ih =>   -- filler / next: `continue`
    obtain ⟨pre', e1, e2⟩ := ih (pre ++ [_]) _ (h.trans (append_cons_eq pre _ t).1)
      (Nat.lt_of_succ_lt_succ hf) fun hp b hb => hok hp b (List.mem_cons_of_mem _ hb)
    rw [(append_cons_eq pre _ t).2, e] at e2
    rw [e] at e1
    refine ⟨pre', e1, ?_⟩
    rw [innerWhile_continue opt line _ (h ▸ lt_length_append_cons pre _ t)
      (by first
        | exact innerBody_eq opt line htr a pre _ t h hok
        | exact (innerBody_eq opt line htr a pre _ t h hok).trans ((if_pos hm).trans (if_pos hr))), e2]
    rfl
  case case4 b t a hm _ hr =>                       -- stay: `break` after writing the line
    exact ⟨pre, h, innerWhile_break opt line _ (h ▸ lt_length_append_cons pre _ t)
      ((innerBody_eq opt line htr a pre _ t h hok).trans ((if_pos hm).trans (if_neg hr)))⟩
  case case5 b t a hm =>                            -- nomatch: `break`
    exact ⟨pre, h, innerWhile_break opt line _ (h ▸ lt_length_append_cons pre _ t)
      ((innerBody_eq opt line htr a pre _ t h hok).trans (if_neg hm))⟩

/-- l.91-114 (`epilogueOutput`), then the joiner -/
theorem fwdEnd_cons (opt : Opt) (x : BoF) (t : List BoF) (a : Bool) :
    fwdEnd opt (x :: t) a =
      match (epilogueOutput opt x a).1 with
      | Option.none => Run.fail
      | Option.some out =>
        Run.pre (out ++ lineJoiner opt t) (fwdEnd opt t (epilogueOutput opt x a).2) := by
  cases x with
  | filler f => rfl
  | bound b =>
    cases a with
    | true => by_cases hr : b.r = Side.cont <;> simp [fwdEnd, epilogueOutput, hr]
    | false =>
      cases hfb : b.fallback <;> cases hgf : opt.fallbackOob <;>
        simp [fwdEnd, epilogueOutput, hfb, hgf]

/-- l.90-124, given more fuel than there are pending elements -/
theorem epilogueWhile_eq (opt : Opt) (li : Int) (p : Bool) :
    ∀ (rest pre : List BoF) (fuel : Nat) (a : Bool), opt.bounds.list = pre ++ rest →
      rest.length < fuel →
      (epilogueWhile opt fuel ⟨li, p, pre.length, a⟩).1.seq (Run.ok [opt.eol.byte]) = fwdEnd opt rest a := by
  intro rest
  induction rest with
  | nil =>
    intro pre fuel a h hf
    obtain ⟨f, rfl⟩ := Nat.exists_eq_add_of_lt hf
    have hget : opt.bounds.list[pre.length]? = Option.none := by
      rw [h, List.append_nil]
      exact List.getElem?_eq_none (Nat.le_refl _)
    simp only [epilogueWhile, hget, fwdEnd, Run.empty_seq]
  | cons x t ih =>
    intro pre fuel a h hf
    cases fuel with
    | zero => exact absurd hf (Nat.not_lt_zero _)
    | succ f =>
    have hget : opt.bounds.list[pre.length]? = Option.some x := by rw [h]; exact getElem?_at _ _ _
    rw [fwdEnd_cons]
    simp only [epilogueWhile, hget]
    cases (epilogueOutput opt x a).1 with
    | none => rfl
    | some out =>
      have := ih (pre ++ [x]) f (epilogueOutput opt x a).2 (h.trans (append_cons_eq pre x t).1)
        (Nat.lt_of_succ_lt_succ hf)
      rw [(append_cons_eq pre x t).2] at this
      dsimp only
      rw [joinWrite_eq opt pre x t h, Run.ok_seq_ok, Run.seq_assoc, this, Run.seq_ok]

/-- the rest of `cut_lines_forward_only` after the read loop has produced `w` -/
def finish (opt : Opt) (w : Run × Vars) : Run :=
  (w.1.seq (epilogueWhile opt (opt.bounds.list.length + 1) w.2).1).seq (Run.ok [opt.eol.byte])

theorem finish_pre (opt : Opt) (out : Bytes) (r : Run) (v : Vars) :
    finish opt ((Run.ok out).seq r, v) = Run.pre out (finish opt (r, v)) := by
  unfold finish
  rw [Run.seq_assoc, Run.seq_assoc, Run.seq_ok, Run.seq_assoc]

theorem finish_fail (opt : Opt) (v : Vars) : finish opt (Run.fail, v) = Run.fail := rfl

theorem readWhile_end (opt : Opt) (fuel : Nat) (v : Vars) :
    readWhile opt (fuel + 1) [] v = (Run.empty, v) := by
  simp only [readWhile, readLineWithEol_nil]

theorem readWhile_err (opt : Opt) (fuel : Nat) {stdin rest : Bytes} (v : Vars)
    (h : readLineWithEol stdin opt.eol = (.someErr, rest)) :
    readWhile opt (fuel + 1) stdin v = (Run.fail, nextLine v) := by
  simp only [readWhile, h]

theorem readWhile_line (opt : Opt) (fuel : Nat) {stdin raw rest : Bytes} (v : Vars)
    (h : readLineWithEol stdin opt.eol = (.someOk raw, rest)) :
    readWhile opt (fuel + 1) stdin v =
      if (innerWhile opt (stripEol opt.eol.byte raw) (opt.bounds.list.length + 1) (nextLine v)).2.boundsIdx
          == opt.bounds.list.length then
        innerWhile opt (stripEol opt.eol.byte raw) (opt.bounds.list.length + 1) (nextLine v)
      else
        ((innerWhile opt (stripEol opt.eol.byte raw) (opt.bounds.list.length + 1) (nextLine v)).1.seq
            (readWhile opt fuel rest
              (innerWhile opt (stripEol opt.eol.byte raw) (opt.bounds.list.length + 1) (nextLine v)).2).1,
          (readWhile opt fuel rest
            (innerWhile opt (stripEol opt.eol.byte raw) (opt.bounds.list.length + 1) (nextLine v)).2).2) := by
  simp only [readWhile, h]

/-- from any state of the counter that stands for the model's index, when every bound is `PastOk` — or, for any
    bounds at all, when the lines still to come do not take the index past `i32::MAX`; `len + 1` units of fuel
    (any amount above the number of bytes still to read) are enough -/
theorem readWhile_eq (opt : Opt) :
    ∀ (fuel : Nat) (stdin : Bytes) (pre rest : List BoF) (idx li : Int) (p a : Bool),
      opt.bounds.list = pre ++ rest → stdin.length < fuel → Tracks idx li p →
      ((∀ b, BoF.bound b ∈ opt.bounds.list → PastOk b) ∨
        idx + (records opt.eol.byte stdin).length ≤ i32Max) →
      finish opt (readWhile opt fuel stdin ⟨li, p, pre.length, a⟩) =
        fwdLines opt (records opt.eol.byte stdin) idx rest a := by
  intro fuel
  induction fuel with
  | zero => exact fun stdin _ _ _ _ _ _ _ h => absurd h (Nat.not_lt_zero _)
  | succ fuel ih =>
    intro stdin pre rest idx li p a h hf htr hG
    have hL : rest.length < opt.bounds.list.length + 1 := by
      rw [h, List.length_append]
      exact Nat.lt_succ_of_le (Nat.le_add_left ..)
    by_cases hne : stdin = []
    · subst hne
      rw [readWhile_end]
      exact (congrArg (Run.seq · _) (Run.empty_seq _)).trans (epilogueWhile_eq opt li p rest pre _ a h hL)
    · obtain ⟨raw, rest', e1, e2, e3, e4, e5⟩ := reader_step opt.eol stdin hne
      obtain ⟨li', p', hstep, htr'⟩ := tracks_step htr pre.length a
      rw [e4] at hG ⊢
      have hG' : (∀ b, BoF.bound b ∈ opt.bounds.list → PastOk b) ∨
          idx + 1 + (records opt.eol.byte rest').length ≤ i32Max := by
        refine hG.imp_right fun hG => ?_
        rw [List.length_cons] at hG
        omega
      have hok : p' = true → ∀ b, BoF.bound b ∈ rest → PastOk b := by
        intro hp' b hb
        rcases hG' with hG' | hG'
        · exact hG' b (h ▸ List.mem_append_right _ hb)
        · rcases htr' with ⟨hp'', _⟩ | ⟨_, _, hbig⟩
          · rw [hp'] at hp''
            cases hp''
          · omega
      have hread := readLineWithEol_eq opt.eol stdin raw rest' e1 e2
      rw [fwdLines_cons, ← e5]
      by_cases hv : validUtf8 raw = true
      · rw [hv] at hread ⊢
        obtain ⟨pre', p1, p2⟩ := innerWhile_eq opt (stripEol opt.eol.byte raw) (idx + 1) li' p' htr'
          rest pre (opt.bounds.list.length + 1) a h hL hok
        rw [readWhile_line opt fuel _ hread, hstep, p2]
        generalize (fwdLine opt (stripEol opt.eol.byte raw) (idx + 1) rest a) = r at p1 ⊢
        obtain ⟨w, rest'', a'⟩ := r
        cases rest'' with
        | nil =>
          -- every bound has been served: the loop is left, the epilogue has nothing to do
          have hlen : (pre'.length == opt.bounds.list.length) = true := by
            rw [p1, List.append_nil]
            exact beq_self_eq_true _
          simp only [hlen, if_true, List.isEmpty_nil, Bool.not_true, Bool.false_eq_true, if_false]
          have := epilogueWhile_eq opt li' p' [] pre' (opt.bounds.list.length + 1) a' p1
            (Nat.succ_pos _)
          unfold finish
          rw [Run.seq_assoc, this]
          rfl
        | cons x t =>
          have hlen : (pre'.length == opt.bounds.list.length) = false := by
            rw [p1, List.length_append]
            exact beq_false_of_ne (Nat.ne_of_lt (Nat.lt_add_of_pos_right (Nat.succ_pos _)))
          simp only [hlen, Bool.false_eq_true, if_false, List.isEmpty_cons, Bool.not_true]
          rw [finish_pre]
          exact congrArg (Run.pre w)
            (ih rest' pre' (x :: t) (idx + 1) li' p' a' p1 (Nat.lt_of_lt_of_le e3 (Nat.le_of_lt_succ hf))
              htr' hG')
      · rw [Bool.not_eq_true] at hv
        rw [hv] at hread ⊢
        rw [readWhile_err opt fuel _ hread]
        rfl

end LinesLoop
end Tuc
