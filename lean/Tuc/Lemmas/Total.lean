import Tuc.Model.Args
import Tuc.Lemmas.Run
import Tuc.Lemmas.Bounds
import Tuc.Lemmas.StreamOpt
import Tuc.Lemmas.Records
/-!
# Tuc.Lemmas.Total — `cut_str` in stages, what the two `try_from` establish, `dispatch` by mode; no engine panics (C12)

Four things that many files read, then the safety proofs that use them.

* **`cut_str` in stages** — `cutStrCore_eq`: the model's `cutStrCore` is its two refusals, then `afterTrim` on
  `trimOf opt line`; `afterTrim` is the compress pass `compressOf` (a 5-tuple, the model's own: the record the ranges
  point into, the delimiter it is split at, split with the regex?, what is left in `compressed_line_buf`, did the
  regex rewrite the record?), the ranges `engineFields` and the output stage `emitRecord`, itself `loopBounds`
  (`-m`, then the expansion of ranges) followed by the output loop (`emitRecord_eq`).  Readings of the stages:
  `compressOf_off`, `compressOf_literal`, `engineFields_literal` here, `trimOf_literal` in `Lemmas/CutStrSpec`,
  `trimOf_regex` in `Lemmas/RegexSpec`.
* **`StreamOptFacts` / `ForwardBoundsFacts`** — everything `StreamOpt::try_from` and `ForwardBounds::try_from`
  establish, by name (`streamOptOf_facts`, `forwardBoundsOf_facts`).
* **`dispatch`, mode by mode** — `dispatch_of_fields`, `dispatch_fixedMemory`, `dispatch_bytes`, `dispatch_lines`,
  `dispatch_chars`, `dispatch_flatten`, `dispatch_none_iff`, `dispatch_fm_not_fields`.
* **No engine panics** — every Rust site that can panic is a checked operation of the model that yields `Status.panic`;
  these outcomes are unreachable for the general engine (`readAndCutStr_safe`), `-l` (`readAndCutLines_safe`), `-b`
  (`readAndCutBytes_safe`) and `-M` (`cutBytesStream_safe`); the fast path is `readAndCutFast_safe` in `Lemmas/FastLoop`.

The notions of the safety proofs:

* `Run.Safe r` — the run ended with status `ok` or `fail` (neither `panic` nor `hang`);
* `RangesIn n lo rs` — what the three splitters guarantee about the ranges they fill `fields`
  with, for **every** delimiter (the empty one included) and, for regex delimiters, under the
  contract of `find_iter` (`SortedMatches`: matches sorted, non-overlapping, within the line;
  `MatchesIn dlen` is the same for the offsets of the literal `findIter`, each match `dlen` long);
  it is what makes `line[fields[s].start .. fields[e-1].end]` in range;
* `LNZ l` — no bound of the list has the left index 0 (the parser never produces one); preserved
  by `complement` and `unpack`, which are also shown never to hand `fromVec` a list without bound;
* `NoNeg l` — no written index is negative (`ForwardBounds::try_from` has checked it): with
  `curr_field ≥ 1` it keeps `matches(..).unwrap()` of the `-M` machine from failing.
-/
namespace Tuc

theorem writeMaybeAsJson_safe (w : Bytes) (j : Bool) : (writeMaybeAsJson w j).Safe :=
  Run.safe_ite (Run.safe_ite (Run.safe_ok _) Run.safe_fail) (Run.safe_ok _)

def RangesIn (n : Nat) : Nat → List Range → Prop
  | _, [] => True
  | lo, r :: t => lo ≤ r.start ∧ r.start ≤ r.stop ∧ r.stop ≤ n ∧ RangesIn n r.stop t

theorem RangesIn.mono {n lo lo' : Nat} {rs : List Range} (h : lo' ≤ lo) (hr : RangesIn n lo rs) :
    RangesIn n lo' rs := by
  cases rs with
  | nil => trivial
  | cons r t => exact ⟨Nat.le_trans h hr.1, hr.2⟩

/-- by index: this is `fields[s].start ≤ fields[e-1].end ≤ line.len()` of the Rust slicing -/
theorem RangesIn.getElem {n : Nat} :
    ∀ {rs : List Range} {lo : Nat}, RangesIn n lo rs →
      ∀ (i j : Nat) (_ : i ≤ j) (hj : j < rs.length),
        lo ≤ rs[i].start ∧ rs[i].start ≤ rs[j].stop ∧ rs[j].stop ≤ n := by
  intro rs
  induction rs with
  | nil => intro _ _ _ _ _ hj; exact absurd hj (Nat.not_lt_zero _)
  | cons r t ih =>
    intro lo h i j hij hj
    obtain ⟨h1, h2, h3, h4⟩ := h
    cases j with
    | zero => obtain rfl := Nat.le_zero.mp hij; exact ⟨h1, h2, h3⟩
    | succ j =>
      cases i with
      | zero =>
        obtain ⟨a, b, c⟩ := ih h4 j j (Nat.le_refl j) (Nat.lt_of_succ_lt_succ hj)
        exact ⟨h1, Nat.le_trans h2 (Nat.le_trans a b), c⟩
      | succ i =>
        obtain ⟨a, b, c⟩ := ih h4 i j (Nat.le_of_succ_le_succ hij) (Nat.lt_of_succ_lt_succ hj)
        exact ⟨Nat.le_trans h1 (Nat.le_trans h2 a), b, c⟩

theorem RangesIn.dropLast {n : Nat} :
    ∀ {rs : List Range} {lo : Nat}, RangesIn n lo rs → RangesIn n lo rs.dropLast
  | [], _, _ => trivial
  | [_], _, _ => trivial
  | _ :: r' :: t, _, h => ⟨h.1, h.2.1, h.2.2.1, RangesIn.dropLast (rs := r' :: t) h.2.2.2⟩

theorem RangesIn.drop_one {n lo : Nat} {rs : List Range} (h : RangesIn n lo rs) :
    RangesIn n 0 (rs.drop 1) := by
  cases rs with
  | nil => trivial
  | cons r t => exact h.2.2.2.mono (Nat.zero_le _)

/-- what `find_iter` guarantees, as far as slicing is concerned: the offsets go up by at least the
    width of the needle and a needle fits at each of them -/
def MatchesIn (dlen n : Nat) : Nat → List Nat → Prop
  | _, [] => True
  | lo, idx :: t => lo ≤ idx ∧ idx + dlen ≤ n ∧ MatchesIn dlen n (idx + dlen) t

theorem MatchesIn.mono {dlen n lo lo' : Nat} {ms : List Nat} (h : lo' ≤ lo)
    (hm : MatchesIn dlen n lo ms) : MatchesIn dlen n lo' ms := by
  cases ms with
  | nil => trivial
  | cons idx t => exact ⟨Nat.le_trans h hm.1, hm.2⟩

theorem findIterAux_in (d : Bytes) :
    ∀ (l : Bytes) (skip pos : Nat), skip ≤ l.length →
      MatchesIn d.length (pos + l.length) (pos + skip) (findIterAux d skip pos l) := by
  -- with the end of the line and the lower bound as variables, every recursive call of
  -- `findIterAux` is an instance of the induction hypothesis (for the empty needle too)
  suffices h : ∀ (n : Nat) (l : Bytes) (skip pos lo : Nat), pos + l.length = n → skip ≤ l.length →
      lo ≤ pos + skip → MatchesIn d.length n lo (findIterAux d skip pos l) from
    fun l skip pos hs => h _ l skip pos _ rfl hs (Nat.le_refl _)
  intro n l
  induction l with
  | nil =>
    intro skip pos lo hn hs hlo
    rw [findIterAux]
    by_cases hd : d.isEmpty = true
    · rw [if_pos hd, List.isEmpty_iff.mp hd]
      exact ⟨Nat.le_trans hlo (Nat.add_le_add_left hs pos), Nat.le_of_eq hn, trivial⟩
    · rw [if_neg hd]; trivial
  | cons c t ih =>
    intro skip pos lo hn hs hlo
    rw [List.length_cons] at hn hs
    have hn' : pos + 1 + t.length = n := by rw [Nat.add_assoc, Nat.add_comm 1]; exact hn
    cases skip with
    | succ k =>
      rw [findIterAux]
      exact ih k (pos + 1) lo hn' (Nat.le_of_succ_le_succ hs)
        (by rw [Nat.add_assoc, Nat.add_comm 1]; exact hlo)
    | zero =>
      rw [findIterAux]
      by_cases hp : d.isPrefixOf (c :: t) = true
      · rw [if_pos hp]
        have hdl : d.length ≤ t.length + 1 := (List.isPrefixOf_iff_prefix.mp hp).length_le
        exact ⟨hlo, hn ▸ Nat.add_le_add_left hdl pos,
          ih (d.length - 1) (pos + 1) _ hn' (Nat.sub_le_of_le_add hdl) (by omega)⟩
      · rw [if_neg hp]; exact ih 0 (pos + 1) lo hn' (Nat.zero_le _) (Nat.le_succ_of_le hlo)

theorem findIter_in (d line : Bytes) : MatchesIn d.length line.length 0 (findIter d line) := by
  have := findIterAux_in d line 0 0 (Nat.zero_le _)
  simpa [findIter] using this

theorem rangesBetween_in (dlen n : Nat) :
    ∀ (ms : List Nat) (prev : Nat), MatchesIn dlen n prev ms → prev ≤ n →
      RangesIn n prev (rangesBetween dlen n prev ms) := by
  intro ms
  induction ms with
  | nil => intro prev _ hp; exact ⟨Nat.le_refl _, hp, Nat.le_refl _, trivial⟩
  | cons idx t ih =>
    intro prev hm hp
    obtain ⟨h1, h2, h3⟩ := hm
    have := ih (idx + dlen) h3 h2
    show prev ≤ prev ∧ prev ≤ idx ∧ idx ≤ n ∧ RangesIn n idx _
    exact ⟨Nat.le_refl _, h1, by omega, this.mono (by omega)⟩

theorem rangesBetweenGreedy_in (dlen n : Nat) :
    ∀ (ms : List Nat) (am : Bool) (prev : Nat), MatchesIn dlen n prev ms → prev ≤ n →
      RangesIn n prev (rangesBetweenGreedy dlen n am prev ms) := by
  intro ms
  induction ms with
  | nil => intro am prev _ hp; exact ⟨Nat.le_refl _, hp, Nat.le_refl _, trivial⟩
  | cons idx t ih =>
    intro am prev hm hp
    obtain ⟨h1, h2, h3⟩ := hm
    have := ih true (idx + dlen) h3 h2
    simp only [rangesBetweenGreedy]
    split
    · exact this.mono (by omega)
    · show prev ≤ prev ∧ prev ≤ idx ∧ idx ≤ n ∧ RangesIn n idx _
      exact ⟨Nat.le_refl _, h1, by omega, this.mono (by omega)⟩

theorem fillWithFieldsLocations_in (buf : List Range) (line d : Bytes) :
    RangesIn line.length 0 (fillWithFieldsLocations buf line d) := by
  unfold fillWithFieldsLocations
  split
  · trivial
  · exact rangesBetween_in _ _ _ 0 (findIter_in d line) (Nat.zero_le _)

theorem fillWithFieldsLocationsGreedy_in (buf : List Range) (line d : Bytes) :
    RangesIn line.length 0 (fillWithFieldsLocationsGreedy buf line d) := by
  unfold fillWithFieldsLocationsGreedy
  split
  · exact fillWithFieldsLocations_in buf line d
  · split
    · trivial
    · exact rangesBetweenGreedy_in _ _ _ false 0 (findIter_in d line) (Nat.zero_le _)

/-- the contract of `Regex::find_iter`: matches are reported in order, do not overlap and lie
    within the haystack -/
def SortedMatches (n : Nat) : Nat → List (Nat × Nat) → Prop
  | _, [] => True
  | lo, (s, e) :: t => lo ≤ s ∧ s ≤ e ∧ e ≤ n ∧ SortedMatches n e t

/-- a `RegexBag` whose two matchers honour the contract of `find_iter` on every haystack -/
def RegexBag.OK (bag : RegexBag) : Prop :=
  ∀ line : Bytes, SortedMatches line.length 0 (bag.normal line) ∧
    SortedMatches line.length 0 (bag.greedy line)

theorem rangesBetweenMatches_in (n : Nat) :
    ∀ (ms : List (Nat × Nat)) (prev : Nat), SortedMatches n prev ms → prev ≤ n →
      RangesIn n prev (rangesBetweenMatches n prev ms) := by
  intro ms
  induction ms with
  | nil => intro prev _ hp; exact ⟨Nat.le_refl _, hp, Nat.le_refl _, trivial⟩
  | cons m t ih =>
    intro prev hm hp
    obtain ⟨s, e⟩ := m
    obtain ⟨h1, h2, h3, h4⟩ := hm
    have := ih e h4 h3
    show prev ≤ prev ∧ prev ≤ s ∧ s ≤ n ∧ RangesIn n s _
    exact ⟨Nat.le_refl _, h1, by omega, this.mono (by omega)⟩

theorem fillWithFieldsLocationsUsingRegex_in (buf : List Range) (line : Bytes)
    (ms : List (Nat × Nat)) (h : SortedMatches line.length 0 ms) :
    RangesIn line.length 0 (fillWithFieldsLocationsUsingRegex buf line ms) := by
  unfold fillWithFieldsLocationsUsingRegex
  split
  · trivial
  · exact rangesBetweenMatches_in _ _ 0 h (Nat.zero_le _)

/-- no bound of the list has the left index 0 (all the slicing needs; the parser never produces
    an index 0 on either side) -/
def LNZ (l : List BoF) : Prop := ∀ b, BoF.bound b ∈ l → b.l ≠ .some 0

theorem LNZ.of_nonzero {l : List BoF} (h : ∀ b, BoF.bound b ∈ l → b.Nonzero) : LNZ l :=
  fun b hb => (h b hb).1.ne_some_zero

theorem LNZ.tail {x : BoF} {t : List BoF} (h : LNZ (x :: t)) : LNZ t :=
  fun b hb => h b (List.mem_cons_of_mem _ hb)

theorem fromVec_lnz (l : List BoF) (u : UserBoundsList) (h : fromVec l = .ok u) (hl : LNZ l) :
    LNZ u.list :=
  fromVec_all (fun _ h => h) h hl

theorem mem_complementBof {n : Nat} {x : BoF} {b : UserBounds} (h : BoF.bound b ∈ complementBof n x) :
    ∃ b0, x = .bound b0 ∧ (b = { b0 with isLast := false } ∨
      ∃ s e q, b0.tryIntoRange n = some (s, e) ∧ q ∈ complementStdRange n (s, e) ∧
        b = UserBounds.ofRange q) := by
  cases x with
  | filler f => simp [complementBof] at h
  | bound b0 =>
    refine ⟨b0, rfl, ?_⟩
    unfold complementBof UserBounds.complement at h
    cases hr : b0.tryIntoRange n with
    | none =>
      simp only [hr, Option.map_none, List.mem_singleton, BoF.bound.injEq] at h
      subst h
      exact .inl rfl
    | some p =>
      simp only [hr, Option.map_some, List.mem_map, BoF.bound.injEq, exists_eq_right] at h
      obtain ⟨q, hq, rfl⟩ := h
      exact .inr ⟨p.1, p.2, q, rfl, hq, rfl⟩

theorem mem_unpackBof {n : Nat} {x : BoF} {b : UserBounds} (h : BoF.bound b ∈ unpackBof n x) :
    ∃ b0, x = .bound b0 ∧ (b = { b0 with isLast := false } ∨
      ∃ s e i, b0.tryIntoRange n = some (s, e) ∧ i < e - s ∧
        b = UserBounds.single ((s + i + 1 : Nat) : Int)) := by
  cases x with
  | filler f => simp [unpackBof] at h
  | bound b0 =>
    refine ⟨b0, rfl, ?_⟩
    simp only [unpackBof, List.mem_map, BoF.bound.injEq, exists_eq_right] at h
    unfold UserBounds.unpack at h
    cases hr : b0.tryIntoRange n with
    | none =>
      simp only [hr, List.mem_singleton] at h
      subst h
      exact .inl rfl
    | some p =>
      simp only [hr, List.mem_map, List.mem_range] at h
      obtain ⟨i, hi, rfl⟩ := h
      exact .inr ⟨p.1, p.2, i, rfl, hi, rfl⟩

theorem complementBof_lnz (n : Nat) (x : BoF) (hx : ∀ b, x = .bound b → b.l ≠ .some 0) :
    LNZ (complementBof n x) := by
  intro b hb
  obtain ⟨b0, rfl, h | ⟨s, e, q, _, _, rfl⟩⟩ := mem_complementBof hb
  · rw [h]; exact hx b0 rfl
  · simp only [UserBounds.ofRange, ne_eq, Side.some.injEq]; omega

theorem complementList_ok (l : List BoF) (n : Nat) (hl : LNZ l) :
    complementList l n ≠ .panic ∧ ∀ u, complementList l n = .ok u → LNZ u.list := by
  unfold complementList
  simp only
  split
  · exact ⟨by simp, by intro u h; cases h⟩
  · rename_i hne
    refine ⟨fromVec_ne_panic _ (by simpa using hne), ?_⟩
    intro u hu
    refine fromVec_lnz _ u hu (bound_mem_flatMap _ _ ?_)
    intro x hx
    exact complementBof_lnz n x (fun b hb => hl b (hb ▸ hx))

theorem unpackBof_lnz (n : Nat) (x : BoF) (hx : ∀ b, x = .bound b → b.l ≠ .some 0) :
    LNZ (unpackBof n x) := by
  intro b hb
  obtain ⟨b0, rfl, h | ⟨s, e, i, _, _, rfl⟩⟩ := mem_unpackBof hb
  · rw [h]; exact hx b0 rfl
  · simp only [UserBounds.single, ne_eq, Side.some.injEq]; omega

theorem unpack_ne_nil (b : UserBounds) (n : Nat) (hz : b.l ≠ .some 0) : b.unpack n ≠ [] := by
  unfold UserBounds.unpack
  cases hr : b.tryIntoRange n with
  | none => simp
  | some p =>
    obtain ⟨s, e⟩ := p
    have := tryIntoRange_bounds b n s e hz hr
    simp only [ne_eq, List.map_eq_nil_iff, List.range_eq_nil]
    omega

theorem boundsOnly_flatMap_unpack_ne_nil (l : List BoF) (n : Nat) (hl : LNZ l)
    (h : boundsOnly l ≠ []) : boundsOnly (l.flatMap (unpackBof n)) ≠ [] := by
  cases hb : boundsOnly l with
  | nil => exact absurd hb h
  | cons b _ =>
    have hmem : BoF.bound b ∈ l := mem_boundsOnly_iff.1 (by rw [hb]; simp)
    have hne := unpack_ne_nil b n (hl b hmem)
    cases hu : b.unpack n with
    | nil => exact absurd hu hne
    | cons u _ =>
      have : BoF.bound u ∈ l.flatMap (unpackBof n) := by
        simp only [List.mem_flatMap]
        exact ⟨.bound b, hmem, by simp [unpackBof, hu]⟩
      intro hnil
      have := mem_boundsOnly_iff.2 this
      rw [hnil] at this
      simp at this

theorem unpackList_ok (l : List BoF) (n : Nat) (hl : LNZ l) (h : boundsOnly l ≠ []) :
    unpackList l n ≠ .panic ∧ ∀ u, unpackList l n = .ok u → LNZ u.list := by
  unfold unpackList
  refine ⟨fromVec_ne_panic _ (boundsOnly_flatMap_unpack_ne_nil l n hl h), ?_⟩
  intro u hu
  refine fromVec_lnz _ u hu (bound_mem_flatMap _ _ ?_)
  intro x hx
  exact unpackBof_lnz n x (fun b hb => hl b (hb ▸ hx))

theorem boundsOnly_ne_nil_of_any_needsUnpack (l : List BoF) (h : l.any needsUnpack = true) :
    boundsOnly l ≠ [] := by
  simp only [List.any_eq_true] at h
  obtain ⟨x, hx, hn⟩ := h
  cases x with
  | filler f => simp [needsUnpack] at hn
  | bound b =>
    intro hnil
    have := mem_boundsOnly_iff.2 hx
    rw [hnil] at this
    simp at this

theorem outputBof_safe (line : Bytes) (fields : List Range) (opt : Opt) (cwr : Bool) (x : BoF)
    (hf : RangesIn line.length 0 fields) (hx : ∀ b, x = .bound b → b.l ≠ .some 0) :
    (outputBof line fields fields.length opt cwr x).Safe := by
  cases x with
  | filler f => exact Run.safe_ok _
  | bound b =>
    have hj : (if opt.join && !b.isLast then Run.ok (opt.replaceDelimiter.getD opt.delimiter)
        else Run.empty).Safe := Run.safe_ite (Run.safe_ok _) Run.safe_empty
    simp only [outputBof]
    cases hr : b.tryIntoRange fields.length with
    | some p =>
      obtain ⟨s, e⟩ := p
      have hb := tryIntoRange_bounds b fields.length s e (hx b rfl) hr
      have hs : s < fields.length := by omega
      have he : e - 1 < fields.length := by omega
      simp only [List.getElem?_eq_getElem hs, List.getElem?_eq_getElem he]
      have := hf.getElem s (e - 1) (by omega) he
      rw [if_pos ⟨this.2.1, this.2.2⟩]
      exact (writeMaybeAsJson_safe _ _).seq hj
    | none =>
      exact Run.fallbackRule (fun f => (writeMaybeAsJson_safe _ _).seq hj) Run.safe_fail

theorem outputLoop_safe (line : Bytes) (fields : List Range) (opt : Opt) (cwr : Bool)
    (hf : RangesIn line.length 0 fields) (l : List BoF) (hl : LNZ l) :
    (outputLoop line fields fields.length opt cwr l).Safe := by
  rw [outputLoop_eq_seqMap]
  exact Run.seqMap_safe fun x hx =>
    outputBof_safe line fields opt cwr x hf fun b hb => hl b (hb ▸ hx)

theorem Res.ite_ne_panic {α : Type} {c : Prop} [Decidable c] {x : Res α} {a : α} (hx : x ≠ .panic) :
    (if c then x else .ok a) ≠ .panic := by
  by_cases h : c
  · rw [if_pos h]; exact hx
  · rw [if_neg h]; exact fun e => by cases e

theorem Res.ite_ok_imp {α : Type} {P : α → Prop} {c : Prop} [Decidable c] {x : Res α} {a : α}
    (hx : c → ∀ u, x = .ok u → P u) (ha : ¬c → P a) : ∀ u, (if c then x else .ok a) = .ok u → P u := by
  by_cases h : c
  · rw [if_pos h]; exact hx h
  · rw [if_neg h]; intro u hu; cases hu; exact ha h

/-- the bounds list the output loop walks: the user's, after the `-m` pass and — under `--json`,
    or `-c` with a replacement, when some bound is a range — the unpack pass (cut_str.rs:369-405) -/
def loopBounds (opt : Opt) (n : Nat) : Res UserBoundsList :=
  (if opt.complement then complementList opt.bounds.list n else .ok opt.bounds).bind fun bounds =>
    if (opt.json || (opt.boundsType = .characters && opt.replaceDelimiter.isSome))
        && bounds.list.any needsUnpack
    then unpackList bounds.list n else .ok bounds

theorem emitRecord_eq (line : Bytes) (fields : List Range) (opt : Opt) (cwr : Bool) (eol : Bytes) :
    emitRecord line fields opt cwr eol =
      if opt.onlyDelimited && fields.length == 1 then Run.empty
      else
        (if opt.json then Run.ok [0x5B] else Run.empty).seq
          (match loopBounds opt fields.length with
            | .fail => Run.fail
            | .panic => Run.panic
            | .ok bounds =>
              ((outputLoop line fields fields.length opt cwr bounds.list).seq
                (if opt.json then Run.ok [0x5D] else Run.empty)).seq (Run.ok eol)) := by
  unfold emitRecord loopBounds
  simp only []
  by_cases hs : (opt.onlyDelimited && fields.length == 1) = true
  · rw [if_pos hs, if_pos hs]
  · rw [if_neg hs, if_neg hs]
    congr 1
    generalize (if opt.complement = true then complementList opt.bounds.list fields.length
      else Res.ok opt.bounds) = r
    cases r with
    | fail => rfl
    | panic => rfl
    | ok bounds =>
      simp only [Res.bind]
      generalize (if ((opt.json || (decide (opt.boundsType = .characters) && opt.replaceDelimiter.isSome))
        && bounds.list.any needsUnpack) = true then unpackList bounds.list fields.length
        else Res.ok bounds) = r2
      cases r2 <;> rfl

/-- neither pass can trip the `expect` of `From<Vec<BoundOrFiller>>` on a list without the index 0, and
    the list the loop walks is again without it -/
theorem loopBounds_lnz (opt : Opt) (n : Nat) (hl : LNZ opt.bounds.list) :
    loopBounds opt n ≠ .panic ∧ ∀ u, loopBounds opt n = .ok u → LNZ u.list := by
  unfold loopBounds
  have hc := complementList_ok opt.bounds.list n hl
  have hc1 := Res.ite_ne_panic (c := opt.complement = true) (a := opt.bounds) hc.1
  have hc2 := Res.ite_ok_imp (c := opt.complement = true) (fun _ => hc.2) (fun _ => hl)
  generalize (if opt.complement = true then complementList opt.bounds.list n else Res.ok opt.bounds) = ac at hc1 hc2
  cases ac with
  | fail => exact ⟨nofun, nofun⟩
  | panic => exact absurd rfl hc1
  | ok b =>
    simp only [Res.bind]
    by_cases hu : ((opt.json || (opt.boundsType = .characters && opt.replaceDelimiter.isSome))
        && b.list.any needsUnpack) = true
    · rw [if_pos hu]
      exact unpackList_ok b.list n (hc2 b rfl) (boundsOnly_ne_nil_of_any_needsUnpack _ (Bool.and_eq_true _ _ ▸ hu).2)
    · rw [if_neg hu]
      exact ⟨nofun, fun u h => by cases h; exact hc2 b rfl⟩

theorem emitRecord_safe (line : Bytes) (fields : List Range) (opt : Opt) (cwr : Bool) (eol : Bytes)
    (hf : RangesIn line.length 0 fields) (hl : LNZ opt.bounds.list) :
    (emitRecord line fields opt cwr eol).Safe := by
  rw [emitRecord_eq]
  refine Run.safe_ite Run.safe_empty ((Run.safe_ite (Run.safe_ok _) Run.safe_empty).seq ?_)
  have hb := loopBounds_lnz opt fields.length hl
  cases hr : loopBounds opt fields.length with
  | fail => exact Run.safe_fail
  | panic => exact absurd hr hb.1
  | ok b =>
    exact ((outputLoop_safe line fields opt cwr hf _ (hb.2 b hr)).seq
      (Run.safe_ite (Run.safe_ok _) Run.safe_empty)).seq (Run.safe_ok _)

def trimOf (opt : Opt) (line : Bytes) : Bytes :=
  match opt.trim with
  | some kind =>
    match opt.regexBag with
    | some bag => trimRegex line kind (bag.greedy line)
    | none => trimLiteral line kind opt.delimiter
  | none => line

def engineFields (opt : Opt) (line delimiter : Bytes) (useRegex : Bool) : List Range :=
  let fields : List Range :=
    match useRegex, opt.regexBag with
    | true, some bag =>
      fillWithFieldsLocationsUsingRegex [] line
        ((if opt.greedyDelimiter then bag.greedy else bag.normal) line)
    | _, _ =>
      if opt.greedyDelimiter then fillWithFieldsLocationsGreedy [] line delimiter
      else fillWithFieldsLocations [] line delimiter
  if opt.boundsType = .characters && fields.length > 2 then fields.dropLast.drop 1 else fields

/-- the compress pass of `cut_str` (`-p`, field and line mode only): the record the ranges will
    point into, the delimiter it is split at, whether the split uses the regex, what is left in
    `compressed_line_buf`, whether the regex rewrote the record.  `none` is the `unwrap()` of a
    replacement that is missing. -/
def compressOf (opt : Opt) (line : Bytes) : Option (Bytes × Bytes × Bool × Option Bytes × Bool) :=
  if opt.compressDelimiter && (opt.boundsType = .fields || opt.boundsType = .lines) then
    match opt.regexBag with
    | some bag =>
      match opt.replaceDelimiter with
      | some nd => some (replaceMatches line nd 0 (bag.greedy line), nd, false, none, true)
      | none => none
    | none =>
      let c := compressDelimiter line opt.delimiter []
      some (c, opt.delimiter, false, some c, false)
  else some (line, opt.delimiter, opt.regexBag.isSome, none, false)

theorem compressOf_off {opt : Opt} (hp : opt.compressDelimiter = false) (line : Bytes) :
    compressOf opt line = some (line, opt.delimiter, opt.regexBag.isSome, none, false) := by
  simp only [compressOf, hp, Bool.false_and, Bool.false_eq_true, if_false]

/-- field mode: `-f`, and `-l`, which the engine treats alike -/
theorem decide_fieldsMode {bt : BoundsType} (h : bt = .fields ∨ bt = .lines) :
    (decide (bt = .fields) || decide (bt = .lines)) = true ∧ decide (bt = .characters) = false := by
  rcases h with rfl | rfl <;> exact ⟨rfl, rfl⟩

theorem BoundsType.ne_characters {t : BoundsType} (h : t = .fields ∨ t = .lines) :
    t ≠ .characters := by
  rcases h with rfl | rfl <;> exact fun h => nomatch h

/-- the record the ranges point into when the delimiter is literal: after `-p` -/
def compressed (opt : Opt) (line : Bytes) : Bytes :=
  if opt.compressDelimiter then compressDelimiter line opt.delimiter [] else line

theorem compressOf_literal {opt : Opt} (hre : opt.regexBag = none)
    (hty : opt.boundsType = .fields ∨ opt.boundsType = .lines) (line : Bytes) :
    compressOf opt line = some (compressed opt line, opt.delimiter, false,
      if opt.compressDelimiter then some (compressed opt line) else none, false) := by
  unfold compressOf compressed
  rw [hre, (decide_fieldsMode hty).1]
  cases opt.compressDelimiter <;> rfl

theorem engineFields_literal {opt : Opt} (hnc : opt.boundsType ≠ .characters) (line delimiter : Bytes) :
    engineFields opt line delimiter false =
      if opt.greedyDelimiter then fillWithFieldsLocationsGreedy [] line delimiter
      else fillWithFieldsLocations [] line delimiter := by
  simp only [engineFields, hnc, decide_false, Bool.false_and, Bool.false_eq_true, if_false]

def afterTrim (line : Bytes) (opt : Opt) (eol : Bytes) : Run × Option (List Range) × Option Bytes :=
  if line.isEmpty then
    ((if !opt.onlyDelimited then Run.ok eol else Run.empty), none, none)
  else
    match compressOf opt line with
    | none => (Run.panic, none, none)
    | some (line, delimiter, useRegex, buf, compressedWithRegex) =>
      (emitRecord line (engineFields opt line delimiter useRegex) opt compressedWithRegex eol,
        some (engineFields opt line delimiter useRegex), buf)

theorem cutStrCore_eq (line : Bytes) (opt : Opt) (eol : Bytes) :
    cutStrCore line opt eol =
      if opt.regexBag.isSome && opt.compressDelimiter && opt.replaceDelimiter.isNone then
        (Run.fail, none, none)
      else if opt.regexBag.isSome && opt.join && opt.replaceDelimiter.isNone then
        (Run.fail, none, none)
      else afterTrim (trimOf opt line) opt eol := rfl

theorem engineFields_in (opt : Opt) (hbag : ∀ bag, opt.regexBag = some bag → bag.OK)
    (line delimiter : Bytes) (useRegex : Bool) :
    RangesIn line.length 0 (engineFields opt line delimiter useRegex) := by
  have h : RangesIn line.length 0
      (match useRegex, opt.regexBag with
        | true, some bag =>
          fillWithFieldsLocationsUsingRegex [] line
            ((if opt.greedyDelimiter then bag.greedy else bag.normal) line)
        | _, _ =>
          if opt.greedyDelimiter then fillWithFieldsLocationsGreedy [] line delimiter
          else fillWithFieldsLocations [] line delimiter) := by
    split
    · rename_i bag hre
      apply fillWithFieldsLocationsUsingRegex_in
      split
      · exact (hbag bag hre line).2
      · exact (hbag bag hre line).1
    · split
      · exact fillWithFieldsLocationsGreedy_in _ _ _
      · exact fillWithFieldsLocations_in _ _ _
  have key : ∀ fs : List Range, RangesIn line.length 0 fs →
      RangesIn line.length 0
        (if opt.boundsType = .characters && fs.length > 2 then fs.dropLast.drop 1 else fs) := by
    intro fs hfs
    split
    · exact hfs.dropLast.drop_one
    · exact hfs
  exact key _ h

theorem afterTrim_safe (line : Bytes) (opt : Opt) (eol : Bytes)
    (hbag : ∀ bag, opt.regexBag = some bag → bag.OK) (hl : LNZ opt.bounds.list)
    (hc1 : ¬ (opt.regexBag.isSome && opt.compressDelimiter && opt.replaceDelimiter.isNone) = true) :
    (afterTrim line opt eol).1.Safe := by
  have key := fun l d u c => emitRecord_safe l _ opt c eol (engineFields_in opt hbag l d u) hl
  unfold afterTrim compressOf
  by_cases he : line.isEmpty = true
  · rw [if_pos he]; exact Run.safe_ite (Run.safe_ok _) Run.safe_empty
  · rw [if_neg he]
    by_cases hsc : (opt.compressDelimiter &&
        (decide (opt.boundsType = .fields) || decide (opt.boundsType = .lines))) = true
    · simp only [if_pos hsc]
      cases hre : opt.regexBag with
      | none => exact key _ _ _ _
      | some bag =>
        cases hrd : opt.replaceDelimiter with
        | none => exact absurd (by simp [hre, hrd, (Bool.and_eq_true _ _ ▸ hsc).1]) hc1
        | some nd => exact key _ _ _ _
    · simp only [if_neg hsc]
      exact key _ _ _ _

/-- **`cut_str` never panics**: any line, any option set whose bounds have no left index 0 (`LNZ`,
    as in every parsed list); a regex delimiter only has to honour the contract of `find_iter`.  (The `unwrap()` of the replacement after a regex compress is excluded
    by the first test of the function.) -/
theorem cutStrCore_safe (line : Bytes) (opt : Opt) (eol : Bytes)
    (hbag : ∀ bag, opt.regexBag = some bag → bag.OK) (hl : LNZ opt.bounds.list) :
    (cutStrCore line opt eol).1.Safe := by
  rw [cutStrCore_eq]
  split
  · exact Run.safe_fail
  · rename_i hc1
    split
    · exact Run.safe_fail
    · exact afterTrim_safe _ opt eol hbag hl hc1

theorem cutStr_safe (line : Bytes) (opt : Opt) (f₀ : List Range) (b₀ eol : Bytes)
    (hbag : ∀ bag, opt.regexBag = some bag → bag.OK) (hl : LNZ opt.bounds.list) :
    (cutStr line opt f₀ b₀ eol).1.Safe := cutStrCore_safe line opt eol hbag hl

theorem readAndCutStr_safe (opt : Opt) (hbag : ∀ bag, opt.regexBag = some bag → bag.OK)
    (hl : LNZ opt.bounds.list) (input : Bytes) : (readAndCutStr opt input).Safe := by
  unfold readAndCutStr
  rw [cutRecords_eq_seqMap]
  exact Run.seqMap_safe fun r _ => cutStrCore_safe r opt _ hbag hl

theorem fwdEnd_safe (o : Opt) : ∀ (rest : List BoF) (a : Bool), (fwdEnd o rest a).Safe
  | [], _ => Run.safe_ok _
  | .filler f :: t, a => by
    simp only [fwdEnd]; exact (fwdEnd_safe o t a).pre
  | .bound b :: t, a => by
    simp only [fwdEnd]
    refine Run.safe_ite (Run.safe_ite Run.safe_fail (fwdEnd_safe o t false).pre) ?_
    exact Run.fallbackRule (fun f => (fwdEnd_safe o t false).pre) Run.safe_fail

theorem fwdLines_safe (o : Opt) : ∀ (ls : List Bytes) (idx : Int) (rest : List BoF) (a : Bool),
    (fwdLines o ls idx rest a).Safe
  | [], _, rest, a => fwdEnd_safe o rest a
  | line :: t, idx, rest, a => by
    simp only [fwdLines]
    exact Run.safe_ite Run.safe_fail (Run.safe_ite (Run.safe_ok _) (fwdLines_safe o t _ _ _).pre)

theorem cutLinesForwardOnly_safe (o : Opt) (input : Bytes) : (cutLinesForwardOnly o input).Safe :=
  fwdLines_safe o _ _ _ _

theorem cutLines_safe (o : Opt) (hbag : ∀ bag, o.regexBag = some bag → bag.OK)
    (hl : LNZ o.bounds.list) (input : Bytes) : (cutLines o input).Safe := by
  unfold cutLines
  exact Run.safe_ite Run.safe_fail (cutStr_safe _ o _ _ _ hbag hl)

theorem readAndCutLines_safe (o : Opt) (hbag : ∀ bag, o.regexBag = some bag → bag.OK)
    (hl : LNZ o.bounds.list) (input : Bytes) : (readAndCutLines o input).Safe := by
  unfold readAndCutLines
  exact Run.safe_ite (cutLinesForwardOnly_safe o input) (cutLines_safe o hbag hl input)

theorem cutBytesLoop_safe (data : Bytes) (o : Opt) (l : List BoF) (hl : LNZ l) :
    (cutBytesLoop data o l).Safe := by
  induction l with
  | nil => exact Run.safe_empty
  | cons x t ih =>
    have iht := ih hl.tail
    cases x with
    | filler f => simp only [cutBytesLoop]; exact iht.pre
    | bound b =>
      simp only [cutBytesLoop]
      cases hr : b.tryIntoRange data.length with
      | some p =>
        obtain ⟨s, e⟩ := p
        have hb := tryIntoRange_bounds b data.length s e (hl b (by simp)) hr
        have : s ≤ e ∧ e ≤ data.length := ⟨by omega, hb.2⟩
        simp only [this, and_self, if_true]
        exact iht.pre
      | none =>
        exact Run.fallbackRule (fun f => iht.pre) Run.safe_fail

theorem readAndCutBytes_safe (o : Opt) (hl : LNZ o.bounds.list) (data : Bytes) :
    (readAndCutBytes o data).Safe := by
  unfold readAndCutBytes
  exact Run.safe_ite Run.safe_empty (cutBytesLoop_safe data o _ hl)

/-- no written index is negative (what `ForwardBounds::try_from` checks first) -/
def NoNeg (l : List BoF) : Prop := ∀ b, BoF.bound b ∈ l → b.l.isNeg = false ∧ b.r.isNeg = false

theorem oppSign_false (v idx : Int) (hv : ¬ v < 0) (hidx : 1 ≤ idx) : oppSign v idx = false :=
  (oppSign_of_pos (Int.lt_of_lt_of_le Int.zero_lt_one hidx) v).trans (decide_eq_false hv)

/-- `matches` fails (the `unwrap()` in `print_bof`) only on a sign mismatch: for a field number
    `idx ≥ 1` and a bound without negative index it answers -/
theorem matches_isSome (b : UserBounds) (idx : Int) (hidx : 1 ≤ idx)
    (hb : b.l.isNeg = false ∧ b.r.isNeg = false) : ∃ m, b.matches idx = some m := by
  obtain ⟨h1, h2⟩ := hb
  unfold UserBounds.matches
  cases hl : b.l with
  | cont =>
    cases hr : b.r with
    | cont => simp
    | some r =>
      rw [hr] at h2
      simp only [Side.isNeg, decide_eq_false_iff_not] at h2
      simp [oppSign_false r idx h2 hidx]
  | some l =>
    rw [hl] at h1
    simp only [Side.isNeg, decide_eq_false_iff_not] at h1
    cases hr : b.r with
    | cont => simp [oppSign_false l idx h1 hidx]
    | some r =>
      rw [hr] at h2
      simp only [Side.isNeg, decide_eq_false_iff_not] at h2
      simp [oppSign_false l idx h1 hidx, oppSign_false r idx h2 hidx]

theorem printBof_isSome (o : StreamOpt) (hb : NoNeg o.bounds) (bofIdx : Nat) (cf : Int)
    (hcf : 1 ≤ cf) (tr : Bool) (p : Bytes) (fc : Bool) :
    ∃ w i, printBof o bofIdx cf tr p fc = some (w, i) := by
  unfold printBof
  split
  rename_i w0 i _
  simp only
  cases hi : o.bounds[i]? with
  | none => exact ⟨_, _, rfl⟩
  | some x =>
    cases x with
    | filler f => exact ⟨_, _, rfl⟩
    | bound b =>
      have hmem : BoF.bound b ∈ o.bounds := List.mem_of_getElem? hi
      obtain ⟨m, hm⟩ := matches_isSome b cf hcf (hb b hmem)
      simp only [hm]
      cases m with
      | false => exact ⟨_, _, rfl⟩
      | true =>
        simp only
        by_cases hc : (fc && decide (b.r = .some cf)) = true
        · rw [if_pos hc]; exact ⟨_, _, rfl⟩
        · rw [if_neg hc]; exact ⟨_, _, rfl⟩

theorem printFillerOrFallbacks_safe (o : StreamOpt) (n : Int) (hn : 1 ≤ n) :
    ∀ (l : List BoF), NoNeg l → (printFillerOrFallbacks o n l).Safe
  | [], _ => Run.safe_empty
  | .filler f :: t, h => by
    simp only [printFillerOrFallbacks]
    exact (Run.safe_ok _).seq
      (printFillerOrFallbacks_safe o n hn t (fun b hb => h b (List.mem_cons_of_mem _ hb)))
  | .bound b :: t, h => by
    have iht := printFillerOrFallbacks_safe o n hn t (fun b hb => h b (List.mem_cons_of_mem _ hb))
    obtain ⟨m, hm⟩ := matches_isSome b n hn (h b (by simp))
    simp only [printFillerOrFallbacks, hm]
    split
    · exact iht
    · exact Run.fallbackRule (fun f => (Run.safe_ok _).seq iht) Run.safe_fail

theorem NoNeg.drop {l : List BoF} (h : NoNeg l) (i : Nat) : NoNeg (l.drop i) :=
  fun b hb => h b (List.mem_of_mem_drop hb)

theorem endOfRecord_safe (o : StreamOpt) (hb : NoNeg o.bounds) (st : SState)
    (hcf : 1 ≤ st.currField) : (endOfRecord o st).Safe := by
  unfold endOfRecord
  obtain ⟨w, i, h⟩ := printBof_isSome o hb st.bofIdx st.currField hcf st.trunc st.piece true
  simp only [h]
  exact (Run.safe_ok _).seq
    ((printFillerOrFallbacks_safe o _ hcf _ (hb.drop i)).seq (Run.safe_ok _))

theorem streamStep_safe (o : StreamOpt) (hb : NoNeg o.bounds) (st : SState)
    (hcf : 1 ≤ st.currField) (c : UInt8) (last : Bool) :
    (streamStep o st c last).1.Safe ∧ 1 ≤ (streamStep o st c last).2.currField := by
  unfold streamStep
  let P : Run × SState → Prop := fun p => p.1.Safe ∧ 1 ≤ p.2.currField
  -- the term follows the `if` tree of `streamStep`: skipping (EOL / other byte), EOL (empty record /
  -- `endOfRecord`); the two leaves left open are a delimiter byte and a data byte that is the last
  -- of its chunk; the final leaf is a data byte inside a chunk
  refine ite_ind (P := P) (ite_ind (P := P) ⟨Run.safe_ok _, Int.le_refl 1⟩ ⟨Run.safe_empty, hcf⟩)
    (ite_ind (P := P)
      (ite_ind (P := P) ⟨Run.safe_ok _, Int.le_refl 1⟩ ⟨endOfRecord_safe o hb st hcf, Int.le_refl 1⟩)
      (ite_ind (P := P) ?_ (ite_ind (P := P) ?_ ⟨Run.safe_empty, hcf⟩)))
  · obtain ⟨w, i, h⟩ := printBof_isSome o hb st.bofIdx st.currField hcf st.trunc st.piece true
    rw [h]
    exact ite_ind (P := P)
      ⟨(Run.safe_ok _).seq (printFillerOrFallbacks_safe o _ hcf _ (hb.drop i)), hcf⟩
      ⟨Run.safe_ok _, Int.le_trans hcf (Int.le_add_one (Int.le_refl _))⟩
  · obtain ⟨w, i, h⟩ :=
      printBof_isSome o hb st.bofIdx st.currField hcf st.trunc (st.piece ++ [c]) false
    rw [h]
    exact ⟨Run.safe_ok _, hcf⟩

theorem streamEof_safe (o : StreamOpt) (hb : NoNeg o.bounds) (st : SState)
    (hcf : 1 ≤ st.currField) : (streamEof o st).Safe := by
  unfold streamEof
  refine Run.safe_ite Run.safe_empty
    (Run.safe_ite (Run.safe_ok _) (Run.safe_ite (endOfRecord_safe o hb st hcf) ?_))
  obtain ⟨w, i, h⟩ := printBof_isSome o hb st.bofIdx st.currField hcf st.trunc st.piece false
  rw [h]
  exact (Run.safe_ok _).seq (endOfRecord_safe o hb _ hcf)

theorem streamRun_safe (o : StreamOpt) (hb : NoNeg o.bounds) :
    ∀ (l : List (UInt8 × Bool)) (st : SState), 1 ≤ st.currField → (streamRun o st l).Safe
  | [], st, h => streamEof_safe o hb st h
  | (c, last) :: t, st, h => by
    simp only [streamRun]
    have := streamStep_safe o hb st h c last
    exact this.1.seq (streamRun_safe o hb t _ this.2)

theorem noNeg_iff_hasNegativeIndices (l : List BoF) : NoNeg l ↔ hasNegativeIndices l = false := by
  unfold hasNegativeIndices
  rw [List.any_eq_false]
  constructor
  · intro h b hb
    simpa using h b (mem_boundsOnly_iff.1 hb)
  · intro h b hb
    simpa using h b (mem_boundsOnly_iff.2 hb)

/-- everything `StreamOpt::try_from` establishes -/
structure StreamOptFacts (opt : Opt) (so : StreamOpt) : Prop where
  delimiter : opt.delimiter = [so.delimiter]
  replace : opt.replaceDelimiter = so.replaceDelimiter.map (fun r => [r])
  join : so.join = opt.join
  eol : so.eol = opt.eol
  fallback : so.fallbackOob = opt.fallbackOob
  bounds : forwardBoundsOf opt.bounds = some so.bounds
  last : lastBoundRight (boundsOnly so.bounds) = some so.lastInterestingField
  complement : opt.complement = false
  greedy : opt.greedyDelimiter = false
  compress : opt.compressDelimiter = false
  json : opt.json = false
  fields : opt.boundsType = .fields
  trim : opt.trim = none
  regex : opt.regexBag = none
  onlyDelimited : opt.onlyDelimited = false

theorem streamOptOf_facts (opt : Opt) (so : StreamOpt) (h : streamOptOf opt = some so) :
    StreamOptFacts opt so := by
  obtain ⟨hf, bs, last, hb, hl, rfl⟩ := (OptLit.streamOptOf_eq_some_iff opt so).mp h
  simp only [OptLit.streamFlagsOk, OptLit.replOneByte, Bool.and_eq_true, Bool.not_eq_true', Bool.or_eq_false_iff,
    beq_iff_eq, bne_eq_false_iff_eq, Option.isSome_eq_false_iff, Option.isNone_iff_eq_none] at hf
  -- the tests of `streamFlagsOk`, in its order
  obtain ⟨⟨⟨hd, ⟨⟨⟨⟨hcomplement, hgreedy⟩, hcompress⟩, hjson⟩, hfields⟩⟩, hr⟩, ⟨⟨htrim, hregex⟩, honly⟩⟩ := hf
  refine ⟨?_, ?_, rfl, rfl, rfl, hb, hl, hcomplement, hgreedy, hcompress, hjson, hfields, htrim, hregex, honly⟩
  -- one byte each: the delimiter, and the replacement if there is one
  · rcases hd' : opt.delimiter with _ | ⟨d, _ | _⟩ <;> simp_all [OptLit.streamModel]
  · rcases hr' : opt.replaceDelimiter with _ | ⟨_ | ⟨r, _ | _⟩⟩ <;> simp_all [OptLit.streamModel]

/-- what `ForwardBounds::try_from` has checked, and what it returns: the list marked again -/
structure ForwardBoundsFacts (l : UserBoundsList) (bs : List BoF) : Prop where
  forwardOnly : isForwardOnly l.list = true
  sorted : isSorted l.list = true
  noNeg : hasNegativeIndices l.list = false
  noShared : noSharedField 0 (boundsOnly l.list) = true
  marked : markLast l.list = some bs

theorem forwardBoundsOf_facts (l : UserBoundsList) (bs : List BoF) (h : forwardBoundsOf l = some bs) :
    ForwardBoundsFacts l bs := by
  rw [OptLit.forwardBoundsOf_nf] at h
  split at h
  · rename_i hc
    unfold fromVec at h
    cases hm : markLast l.list with
    | none => rw [hm] at h; cases h
    | some m =>
      simp only [hm, Res.toOption, Option.map_some, Option.some.injEq] at h
      subst h
      have hfo := hc.2.1
      simp only [isForwardOnly, Bool.and_eq_true, Bool.not_eq_true'] at hfo
      exact ⟨hc.2.1, hfo.1.2, hfo.2, hc.2.2, hm⟩
  · cases h

theorem forwardBoundsOf_noNeg (l : UserBoundsList) (bs : List BoF)
    (h : forwardBoundsOf l = some bs) : NoNeg bs := by
  have ⟨_, _, hneg, _, hml⟩ := forwardBoundsOf_facts l bs h
  intro b hb
  rcases markLast_mem _ _ hml _ hb with h0 | ⟨b0, h0, e⟩
  · exact (noNeg_iff_hasNegativeIndices _).2 hneg b h0
  · cases e; exact (noNeg_iff_hasNegativeIndices _).2 hneg b0 h0

/-- **`-M` never panics**: whatever `StreamOpt::try_from` accepts, every segmentation of every
    input.  (No hypothesis on the bounds: `ForwardBounds::try_from` has refused negative indexes,
    and `curr_field ≥ 1` is an invariant of the machine, so `matches(..).unwrap()` cannot fail.) -/
theorem cutBytesStream_safe (o : Opt) (so : StreamOpt) (h : streamOptOf o = some so)
    (segs : List Bytes) : (cutBytesStream so segs).Safe :=
  streamRun_safe so (forwardBoundsOf_noNeg _ _ (streamOptOf_facts o so h).bounds) _ _ (by decide)

theorem dispatch_of_fields {o : Opt} (hb : o.boundsType ≠ .bytes) (hl : o.boundsType ≠ .lines)
    (segs : List Bytes) :
    dispatch o false segs =
      some (match fastOptOf o with
        | some fo => readAndCutFast fo segs.flatten
        | none => readAndCutStr o segs.flatten) := by
  simp only [dispatch, Bool.false_eq_true, if_false, if_neg hb, if_neg hl]
  cases fastOptOf o <;> rfl

theorem dispatch_fixedMemory (o : Opt) (segs : List Bytes) :
    dispatch o true segs = (streamOptOf o).map fun so => cutBytesStream so segs := by
  unfold dispatch
  cases streamOptOf o <;> rfl

theorem dispatch_flatten (o : Opt) (segs segs' : List Bytes) (h : segs.flatten = segs'.flatten) :
    dispatch o false segs = dispatch o false segs' := by
  unfold dispatch
  simp only [h, Bool.false_eq_true, if_false]

theorem dispatch_bytes (o : Opt) (segs : List Bytes) (hty : o.boundsType = .bytes) :
    dispatch o false segs = Option.some (readAndCutBytes o segs.flatten) := by
  simp only [dispatch, Bool.false_eq_true, if_false, if_pos hty]

theorem dispatch_lines (o : Opt) (segs : List Bytes) (hty : o.boundsType = .lines) :
    dispatch o false segs = Option.some (readAndCutLines o segs.flatten) := by
  simp [dispatch, hty]

theorem dispatch_chars (o : Opt) (segs : List Bytes) (hty : o.boundsType = .characters)
    (hbag : o.regexBag.isSome = true) :
    dispatch o false segs = Option.some (readAndCutStr o segs.flatten) := by
  have hf : fastOptOf o = none := by
    unfold fastOptOf
    split
    · rw [if_pos (by simp [hbag])]
    · rfl
  unfold dispatch
  simp only [Bool.false_eq_true, if_false, hty, reduceCtorEq, hf]

theorem dispatch_none_iff (o : Opt) (fm : Bool) (segs : List Bytes) :
    dispatch o fm segs = none ↔ fm = true ∧ streamOptOf o = none := by
  unfold dispatch
  cases fm with
  | true =>
    cases h : streamOptOf o <;> simp
  | false =>
    simp only [Bool.false_eq_true, if_false, false_and, iff_false]
    split
    · simp
    · split
      · simp
      · split <;> simp

theorem streamOptOf_none_of_not_fields (o : Opt) (h : o.boundsType ≠ .fields) : streamOptOf o = none := by
  have hb : (o.boundsType != BoundsType.fields) = true := by simpa using h
  rw [OptLit.streamOptOf_nf, if_neg]
  simp [OptLit.streamFlagsOk, hb]

/-- outside field mode `-M` is refused: `StreamOpt::try_from` fails, exit 1 -/
theorem dispatch_fm_not_fields (o : Opt) (h : o.boundsType ≠ .fields) (segs : List Bytes) :
    dispatch o true segs = none := by
  unfold dispatch
  rw [if_pos rfl, streamOptOf_none_of_not_fields o h]

end Tuc
