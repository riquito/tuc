import Tuc.Model.CutStr
import Tuc.Model.Regex
import Tuc.Spec.RegexSpec
import Tuc.Lemmas.Run
import Tuc.Lemmas.Total
import Tuc.Lemmas.Split
import Tuc.Lemmas.CutStrSpec
/-!
# Tuc.Lemmas.RegexSpec — the regex branches of `cut_str` (property C16)

The executable matcher of `Tuc.Model.Regex` honours the contract of `find_iter` (`Re.bag_ok`).  The
ranges `fill_with_fields_locations_using_regex` builds are the gaps between the matches — the
tokens of `Tuc.Spec.RegexSpec`, separators verbatim (`slice_eq_pieceTextRe`); given that rendering
of the printed ranges `cut_str` is `specRecordRe` (`cutStr_regex_eq_spec_of_piece`, through the
output stage of `Tuc.Lemmas.CutStrSpec`).  Under `-r R` every printed range is matched again: that
is the specification's text if `RE` has no empty match (`StrictMatches`, more than `RegexBag.OK` asks), the
matcher is context-free on those slices (`SliceStable`) and the matches that delimit the fields are tiled
by the matches of `RE` (`GreedyTiledLists`): `cutStr_regex_replace_eq_spec_of`, over `replace_eq_pieceTextRe`
(the text of one range, under `StrictMatches` and the tiling stated inline).  `-p -r R` is in `Tuc.Props.C16`; for it
only: `outputLoop_congr`, `emitRecord_congr`, `literalAfterCompress`, `replaceMatches_ne_nil`.
-/
namespace Tuc
open Tuc.Spec

/-! `Re.run` on the forms of input that occur when a concrete expression is run on a concrete
record.  (Evaluating with the defining equations of `Re.run` themselves also unfolds `+` under the
continuation, where the rest of the record is still a variable, once for every unit of fuel.) -/

theorem Re.run_byte_cons (f : Nat) (b c : UInt8) (t : Bytes) (k : Bytes → Option Bytes) :
    Re.run f (.byte b) (c :: t) k = if c = b then k t else none := by
  rw [Re.run]

theorem Re.run_alt (f : Nat) (a b : Re) (s : Bytes) (k : Bytes → Option Bytes) :
    Re.run f (.alt a b) s k = (Re.run f a s k).or (Re.run f b s k) := by
  rw [Re.run]
  cases Re.run f a s k <;> rfl

theorem Re.run_plus_cons (f : Nat) (a : Re) (c : UInt8) (t : Bytes) (k : Bytes → Option Bytes) :
    Re.run (f + 1) (.plus a) (c :: t) k =
      Re.run (f + 1) a (c :: t) fun s' =>
        if s'.length < t.length + 1 then (Re.run f (.plus a) s' k).or (k s') else none := by
  rw [Re.run]
  congr 1
  funext s'
  cases Re.run f (.plus a) s' k <;> rfl

theorem Re.run_suffix (f : Nat) (r : Re) (s : Bytes) (k : Bytes → Option Bytes) :
    ∀ rest, Re.run f r s k = some rest → ∃ s', s' <:+ s ∧ k s' = some rest := by
  fun_induction Re.run f r s k
  case case1 => intro rest h; exact ⟨_, List.suffix_refl _, h⟩
  -- nothing is returned
  case case2 | case4 | case5 | case7 | case8 | case12 => intro rest h; cases h
  -- one byte is consumed
  case case3 | case6 => intro rest h; exact ⟨_, List.suffix_cons _ _, h⟩
  case case9 f a b s k ihb iha =>
    intro rest h
    obtain ⟨s1, hs1, h1⟩ := iha rest h
    obtain ⟨s2, hs2, h2⟩ := ihb s1 rest h1
    exact ⟨s2, hs2.trans hs1, h2⟩
  case case10 f a b s k r hr iha =>
    intro rest h
    cases h
    exact iha _ hr
  case case11 f a b s k hr iha ihb =>
    intro rest h
    exact ihb rest h
  case case13 f a s k ihp iha =>
    intro rest h
    obtain ⟨s1, hs1, h1⟩ := iha rest (by simpa using h)
    simp only [] at h1
    by_cases hlt : s1.length < s.length
    · rw [dif_pos hlt] at h1
      cases hp : Re.run f (.plus a) s1 k with
      | some r =>
        rw [hp] at h1
        simp only [Option.some.injEq] at h1
        subst h1
        obtain ⟨s2, hs2, h2⟩ := ihp s1 _ hp
        exact ⟨s2, hs2.trans hs1, h2⟩
      | none =>
        rw [hp] at h1
        exact ⟨s1, hs1, h1⟩
    · rw [dif_neg hlt] at h1; cases h1

theorem Re.matchLen_spec (r : Re) (s : Bytes) (n : Nat) (h : r.matchLen s = some n) :
    ∃ rest, rest <:+ s ∧ n + rest.length = s.length := by
  unfold Re.matchLen at h
  cases hr : Re.run (s.length + 1) r s some with
  | none => rw [hr] at h; cases h
  | some rest =>
    rw [hr] at h
    simp only [Option.map_some, Option.some.injEq] at h
    obtain ⟨s', hs', h'⟩ := Re.run_suffix _ _ _ _ _ hr
    simp only [Option.some.injEq] at h'
    subst h'
    refine ⟨s', hs', ?_⟩
    have := hs'.length_le
    omega

theorem Re.matchLen_le (r : Re) (s : Bytes) (n : Nat) (h : r.matchLen s = some n) :
    n ≤ s.length := by
  obtain ⟨rest, _, h2⟩ := Re.matchLen_spec r s n h
  omega

/-- the contract of `find_iter` for an expression that does not match the empty string: the
    matches are reported in order, do not overlap, lie within the haystack and are never empty -/
def StrictMatches (n : Nat) : Nat → List (Nat × Nat) → Prop
  | _, [] => True
  | lo, (s, e) :: t => lo ≤ s ∧ s < e ∧ e ≤ n ∧ StrictMatches n e t

theorem StrictMatches.mono {n lo lo' : Nat} {ms : List (Nat × Nat)} (h : lo' ≤ lo)
    (hm : StrictMatches n lo ms) : StrictMatches n lo' ms := by
  cases ms with
  | nil => trivial
  | cons m t => obtain ⟨s, e⟩ := m; exact ⟨Nat.le_trans h hm.1, hm.2⟩

theorem StrictMatches.sorted {n : Nat} : ∀ {ms : List (Nat × Nat)} {lo : Nat},
    StrictMatches n lo ms → SortedMatches n lo ms
  | [], _, _ => trivial
  | (_, _) :: _, _, h => ⟨h.1, Nat.le_of_lt h.2.1, h.2.2.1, StrictMatches.sorted h.2.2.2⟩

theorem Re.findIterAux_ok (r : Re) : ∀ (s : Bytes) (skip pos : Nat), skip ≤ s.length →
    StrictMatches (pos + s.length) (pos + skip) (Re.findIterAux r skip pos s) := by
  intro s
  induction s with
  | nil => intro skip pos _; simp only [Re.findIterAux]; trivial
  | cons c t ih =>
    intro skip pos hs
    simp only [List.length_cons] at hs ⊢
    have ih' : ∀ k, k ≤ t.length →
        StrictMatches (pos + (t.length + 1)) (pos + k + 1) (Re.findIterAux r k (pos + 1) t) := by
      intro k hk
      have := ih k (pos + 1) hk
      rwa [Nat.add_right_comm pos 1 t.length, Nat.add_right_comm pos 1 k] at this
    cases skip with
    | succ k =>
      simp only [Re.findIterAux]
      exact ih' k (by omega)
    | zero =>
      simp only [Re.findIterAux]
      split
      · rename_i n hm
        have hle := Re.matchLen_le r (c :: t) (n + 1) hm
        simp only [List.length_cons] at hle
        exact ⟨by omega, by omega, by omega, ih' n (by omega)⟩
      · exact (ih' 0 (Nat.zero_le _)).mono (by omega)

theorem Re.findIter_ok (r : Re) (s : Bytes) : StrictMatches s.length 0 (r.findIter s) := by
  have := Re.findIterAux_ok r s 0 0 (Nat.zero_le _)
  simpa [Re.findIter] using this

theorem Re.bag_strict (r : Re) (line : Bytes) :
    StrictMatches line.length 0 ((Re.bag r).normal line) ∧
      StrictMatches line.length 0 ((Re.bag r).greedy line) :=
  ⟨Re.findIter_ok r line, Re.findIter_ok (.plus r) line⟩

/-- the bag `parse_args` builds (`RE`, `(RE)+`) satisfies `RegexBag.OK`, the hypothesis on the
    matcher of every theorem about the regex branches of `cut_str` -/
theorem Re.bag_ok (r : Re) : (Re.bag r).OK :=
  fun line => ⟨(Re.findIter_ok r line).sorted, (Re.findIter_ok (.plus r) line).sorted⟩

theorem SortedMatches.mem {n : Nat} : ∀ {ms : List (Nat × Nat)} {lo : Nat},
    SortedMatches n lo ms → ∀ m ∈ ms, lo ≤ m.1 ∧ m.1 ≤ m.2 ∧ m.2 ≤ n
  | [], _, _, m, hm => by cases hm
  | (s, e) :: t, lo, h, m, hm => by
    rcases List.mem_cons.mp hm with rfl | hm
    · exact ⟨h.1, h.2.1, h.2.2.1⟩
    · have := SortedMatches.mem h.2.2.2 m hm
      have h1 := h.1
      have h2 := h.2.1
      exact ⟨by omega, this.2⟩

theorem rangesBetweenMatches_length (L prev : Nat) (ms : List (Nat × Nat)) :
    (rangesBetweenMatches L prev ms).length = ms.length + 1 := by
  induction ms generalizing prev with
  | nil => rfl
  | cons m t ih => obtain ⟨s, e⟩ := m; simp [rangesBetweenMatches, ih]

/-- where the `a`-th range of `rangesBetweenMatches L prev ms` starts … -/
def gapStart : Nat → List (Nat × Nat) → Nat → Nat
  | prev, _, 0 => prev
  | prev, [], _ + 1 => prev
  | _, (_, e) :: t, a + 1 => gapStart e t a

/-- … and where its `b`-th range stops: the ranges by index, without the list (and without the
    proofs that an index is in range, which get in the way of rewriting) -/
def gapStop (L : Nat) : List (Nat × Nat) → Nat → Nat
  | [], _ => L
  | (s, _) :: _, 0 => s
  | _ :: t, b + 1 => gapStop L t b

theorem gapStart_zero (prev : Nat) (ms : List (Nat × Nat)) : gapStart prev ms 0 = prev := by
  cases ms <;> rfl

theorem rangesBetweenMatches_getElem (L : Nat) :
    ∀ (ms : List (Nat × Nat)) (prev i : Nat) (hi : i < (rangesBetweenMatches L prev ms).length),
      (rangesBetweenMatches L prev ms)[i] = ⟨gapStart prev ms i, gapStop L ms i⟩
  | [], _, 0, _ => rfl
  | [], _, i + 1, hi => by simp [rangesBetweenMatches] at hi
  | (_, _) :: _, _, 0, _ => rfl
  | (_, e) :: t, _, i + 1, hi =>
    rangesBetweenMatches_getElem L t e i (by simpa [rangesBetweenMatches] using hi)

theorem gap_le {L : Nat} {ms : List (Nat × Nat)} {prev : Nat} (h : SortedMatches L prev ms)
    (hp : prev ≤ L) {a b : Nat} (hab : a ≤ b) (hb : b ≤ ms.length) :
    prev ≤ gapStart prev ms a ∧ gapStart prev ms a ≤ gapStop L ms b ∧ gapStop L ms b ≤ L := by
  have hlen := rangesBetweenMatches_length L prev ms
  have := (rangesBetweenMatches_in L ms prev h hp).getElem a b hab (by omega)
  rwa [rangesBetweenMatches_getElem, rangesBetweenMatches_getElem] at this

theorem gapStart_boundary : ∀ (ms : List (Nat × Nat)) (prev a : Nat),
    gapStart prev ms a = prev ∨ ∃ m ∈ ms, m.2 = gapStart prev ms a
  | ms, prev, 0 => Or.inl (gapStart_zero prev ms)
  | [], _, _ + 1 => Or.inl rfl
  | (s, e) :: t, _, a + 1 =>
    Or.inr <| (gapStart_boundary t e a).elim (fun h => ⟨(s, e), List.mem_cons_self .., h.symm⟩)
      fun ⟨m, hm, h⟩ => ⟨m, List.mem_cons_of_mem _ hm, h⟩

theorem gapStop_boundary (L : Nat) : ∀ (ms : List (Nat × Nat)) (b : Nat),
    gapStop L ms b = L ∨ ∃ m ∈ ms, m.1 = gapStop L ms b
  | [], _ => Or.inl rfl
  | (s, e) :: _, 0 => Or.inr ⟨(s, e), List.mem_cons_self .., rfl⟩
  | _ :: t, b + 1 =>
    (gapStop_boundary L t b).imp id fun ⟨m, hm, h⟩ => ⟨m, List.mem_cons_of_mem _ hm, h⟩

theorem tokFrom_numFields (line : Bytes) (cnt : Nat → Nat → Nat) :
    ∀ (ms : List (Nat × Nat)) (prev : Nat), (tokFrom line cnt prev ms).numFields = ms.length + 1
  | [], _ => rfl
  | (s, e) :: t, prev => by
    have := tokFrom_numFields line cnt t e
    simp only [TokRe.numFields] at this
    simp [tokFrom, TokRe.numFields, this]

theorem pieceTextRe_one_one (sep : Bytes → Nat → Bytes) (tok : TokRe) :
    pieceTextRe sep tok 1 1 = tok.first := by
  simp [pieceTextRe]

theorem pieceTextRe_one_succ (sep : Bytes → Nat → Bytes) (f x g : Bytes) (k : Nat)
    (rest : List (Bytes × Nat × Bytes)) (b : Nat) :
    pieceTextRe sep ⟨f, (x, k, g) :: rest⟩ 1 (b + 2) =
      f ++ sep x k ++ pieceTextRe sep ⟨g, rest⟩ 1 (b + 1) := by
  simp [pieceTextRe, List.append_assoc]

theorem pieceTextRe_succ_succ (sep : Bytes → Nat → Bytes) (f x g : Bytes) (k : Nat)
    (rest : List (Bytes × Nat × Bytes)) (a b : Nat) :
    pieceTextRe sep ⟨f, (x, k, g) :: rest⟩ (a + 2) (b + 2) =
      pieceTextRe sep ⟨g, rest⟩ (a + 1) (b + 1) := by
  have e : b + 2 - (a + 2) = b + 1 - (a + 1) := by omega
  cases a with
  | zero => simp [pieceTextRe]
  | succ a' => simp [pieceTextRe, e]

theorem pieceTextRe_tokFrom_one_succ (sep : Bytes → Nat → Bytes) (line : Bytes)
    (cnt : Nat → Nat → Nat) (prev s e : Nat) (t : List (Nat × Nat)) (b : Nat) :
    pieceTextRe sep (tokFrom line cnt prev ((s, e) :: t)) 1 (b + 2) =
      slice line prev s ++ sep (slice line s e) (cnt s e) ++
        pieceTextRe sep (tokFrom line cnt e t) 1 (b + 1) :=
  pieceTextRe_one_succ ..

theorem pieceTextRe_tokFrom_succ_succ (sep : Bytes → Nat → Bytes) (line : Bytes)
    (cnt : Nat → Nat → Nat) (prev s e : Nat) (t : List (Nat × Nat)) (a b : Nat) :
    pieceTextRe sep (tokFrom line cnt prev ((s, e) :: t)) (a + 2) (b + 2) =
      pieceTextRe sep (tokFrom line cnt e t) (a + 1) (b + 1) :=
  pieceTextRe_succ_succ ..

theorem slice_eq_pieceTextRe (line : Bytes) (cnt : Nat → Nat → Nat) :
    ∀ (ms : List (Nat × Nat)) (prev : Nat), SortedMatches line.length prev ms → prev ≤ line.length →
      ∀ (a b : Nat), a ≤ b → b ≤ ms.length →
        slice line (gapStart prev ms a) (gapStop line.length ms b) =
          pieceTextRe (fun x _ => x) (tokFrom line cnt prev ms) (a + 1) (b + 1)
  | [], prev, _, _, a, b, hab, hb => by
    obtain rfl : b = 0 := by simpa using hb
    obtain rfl : a = 0 := by omega
    rw [pieceTextRe_one_one]
    exact slice_to_end line prev
  | (s, e) :: t, prev, _, _, a, 0, hab, _ => by
    obtain rfl : a = 0 := by omega
    rw [pieceTextRe_one_one]
    rfl
  | (s, e) :: t, prev, hm, _, 0, b + 1, _, hb => by
    have hb' : b ≤ t.length := by simpa using hb
    have ih := slice_eq_pieceTextRe line cnt t e hm.2.2.2 hm.2.2.1 0 b (Nat.zero_le _) hb'
    have hge := gap_le hm.2.2.2 hm.2.2.1 (Nat.zero_le b) hb'
    rw [gapStart_zero] at ih hge
    rw [pieceTextRe_tokFrom_one_succ, ← ih, slice_append_slice line hm.1 hm.2.1,
      slice_append_slice line (Nat.le_trans hm.1 hm.2.1) hge.2.1]
    rfl
  | (s, e) :: t, prev, hm, _, a + 1, b + 1, hab, hb => by
    rw [pieceTextRe_tokFrom_succ_succ]
    exact slice_eq_pieceTextRe line cnt t e hm.2.2.2 hm.2.2.1 a b (by omega) (by simpa using hb)

theorem emitWith_joiner (cfg : Cfg) (n : Nat) (piece : Nat → Nat → Bytes) (j j' : Bytes)
    (h : cfg.join = false ∨ j = j') :
    ∀ (l : List BoF), emitWith cfg n piece j l = emitWith cfg n piece j' l := by
  rcases h with h | h
  · intro l
    induction l with
    | nil => rfl
    | cons x t ih =>
      cases x with
      | filler f => simp only [emitWith, ih]
      | bound b => simp only [emitWith, ih, h, Bool.false_and, Bool.false_eq_true, if_false]
  · subst h; intro l; rfl

theorem bodyWith_joiner (cfg : Cfg) (n : Nat) (piece : Nat → Nat → Bytes) (j j' : Bytes) (x : Bool)
    (h : cfg.join = false ∨ j = j') : bodyWith cfg n piece j x = bodyWith cfg n piece j' x := by
  unfold bodyWith
  rw [emitWith_joiner cfg n piece j j' h]

theorem trimRegex_eq_trimRe (line : Bytes) (k : TrimKind) (ms : List (Nat × Nat)) :
    trimRegex line k ms = trimRe line k ms := by
  unfold trimRegex trimRe
  -- the right cursor, for any left cursor `l`: `slice` against `take`/`drop`
  have hr : ∀ l : Nat,
      slice line l
          (if k = .both ∨ k = .right then
            match ms.getLast? with
            | some (s, e) => if e = line.length then max s l else line.length
            | none => line.length
          else line.length) =
        (line.take
          (if k = .both ∨ k = .right then
            match ms.getLast? with
            | some (s, e) => if e = line.length then s else line.length
            | none => line.length
          else line.length)).drop l := by
    intro l
    split
    · split
      · split
        · exact slice_max line l _
        · exact slice_to_length line l
      · exact slice_to_length line l
    · exact slice_to_length line l
  -- the left cursor is written with `if s = 0` in the engine, with the pattern `(0, e)` in the
  -- specification
  cases ms.head? with
  | none => exact hr _
  | some p =>
    obtain ⟨s, e⟩ := p
    cases s with
    | zero =>
      simp only [if_true]
      exact hr _
    | succ s =>
      simp only [Nat.succ_ne_zero, if_false]
      exact hr _

/-- the record after `-t`, regex delimiter -/
def trimmedRe (opt : Opt) (bag : RegexBag) (line : Bytes) : Bytes :=
  match opt.trim with
  | some k => trimRe line k (bag.greedy line)
  | none => line

theorem trimOf_regex {opt : Opt} {bag : RegexBag} (line : Bytes) (hre : opt.regexBag = some bag) :
    trimOf opt line = trimmedRe opt bag line := by
  unfold trimOf trimmedRe
  rw [hre]
  cases opt.trim with
  | none => rfl
  | some k => exact trimRegex_eq_trimRe _ _ _

/-- the matches that delimit the fields: those of `RE`, with `-g` those of `(RE)+` -/
def fieldMatches (bag : RegexBag) (g : Bool) (line' : Bytes) : List (Nat × Nat) :=
  (if g then bag.greedy else bag.normal) line'

def fieldsRe (opt : Opt) (bag : RegexBag) (line' : Bytes) : List Range :=
  rangesBetweenMatches line'.length 0 (fieldMatches bag opt.greedyDelimiter line')

theorem cutStrCore_regex (line : Bytes) (opt : Opt) (eol : Bytes) (bag : RegexBag)
    (hre : opt.regexBag = some bag) (hp : opt.compressDelimiter = false)
    (hty : opt.boundsType = .fields ∨ opt.boundsType = .lines) :
    (cutStrCore line opt eol).1 =
      if opt.join && opt.replaceDelimiter.isNone then Run.fail
      else if (trimmedRe opt bag line).isEmpty then
        (if !opt.onlyDelimited then Run.ok eol else Run.empty)
      else emitRecord (trimmedRe opt bag line) (fieldsRe opt bag (trimmedRe opt bag line)) opt false eol := by
  rw [cutStrCore_eq, trimOf_regex line hre]
  generalize trimmedRe opt bag line = line'
  simp only [hre, hp, Option.isSome_some, Bool.true_and, Bool.false_and, Bool.false_eq_true, if_false]
  by_cases hj : (opt.join && opt.replaceDelimiter.isNone) = true
  · rw [if_pos hj, if_pos hj]
  · rw [if_neg hj, if_neg hj]
    unfold afterTrim
    by_cases he : line'.isEmpty = true
    · rw [if_pos he, if_pos he]
    · rw [if_neg he, if_neg he]
      have hf : engineFields opt line' opt.delimiter true = fieldsRe opt bag line' := by
        unfold engineFields fieldsRe fieldMatches fillWithFieldsLocationsUsingRegex
        simp only [hre, he, BoundsType.ne_characters hty, decide_false, Bool.false_and,
          Bool.false_eq_true, if_false]
      simp only [compressOf_off hp, hre, Option.isSome_some, hf]

theorem specRecordRe_fields (line : Bytes) (opt : Opt) (bag : RegexBag)
    (hp : opt.compressDelimiter = false) :
    specRecordRe (cfgOf opt) bag line =
      if opt.join && opt.replaceDelimiter.isNone then Run.fail
      else if (trimmedRe opt bag line).isEmpty then
        (if opt.onlyDelimited then Run.empty else Run.ok [opt.eol.byte])
      else
        bodyWith (cfgOf opt) (tokenizeRe bag opt.greedyDelimiter (trimmedRe opt bag line)).numFields
          (pieceTextRe (sepRe opt.replaceDelimiter)
            (tokenizeRe bag opt.greedyDelimiter (trimmedRe opt bag line)))
          (opt.replaceDelimiter.getD []) opt.json := by
  unfold specRecordRe trimmedRe
  simp only [show (cfgOf opt).compress = false by simp [cfgOf, hp], Bool.false_or]
  rfl

theorem fieldsRe_length (opt : Opt) (bag : RegexBag) (line' : Bytes) :
    (fieldsRe opt bag line').length = (tokenizeRe bag opt.greedyDelimiter line').numFields := by
  unfold fieldsRe fieldMatches tokenizeRe tokOfMatches
  cases opt.greedyDelimiter <;>
    simp [rangesBetweenMatches_length, tokFrom_numFields]

theorem RegexBag.OK.matches {bag : RegexBag} (hok : bag.OK) (g : Bool) (line : Bytes) :
    SortedMatches line.length 0 (fieldMatches bag g line) := by
  cases g
  · exact (hok line).1
  · exact (hok line).2

theorem fieldsRe_in (opt : Opt) (bag : RegexBag) (hok : bag.OK) (line' : Bytes) :
    RangesIn line'.length 0 (fieldsRe opt bag line') :=
  rangesBetweenMatches_in _ _ 0 (hok.matches _ _) (Nat.zero_le _)

/-- **the regex engine refines the specification as soon as every printed range is rendered as the
    specification renders it** (`hpiece`; the two instances: no `-r`, separators verbatim; `-r R`
    under `SliceStable`) -/
theorem cutStr_regex_eq_spec_of_piece (opt : Opt) (bag : RegexBag) (line line' : Bytes)
    (G : List (Nat × Nat)) (hline : line' = trimmedRe opt bag line)
    (hG : G = fieldMatches bag opt.greedyDelimiter line')
    (hre : opt.regexBag = some bag) (hok : bag.OK) (hp : opt.compressDelimiter = false)
    (hty : opt.boundsType = .fields ∨ opt.boundsType = .lines)
    (hz : AllNonzero opt.bounds.list) (hL : LastMarked opt.bounds.list)
    (hpiece : line' ≠ [] → ∀ (a b : Nat), a ≤ b → b ≤ G.length →
      maybeReplaceDelimiter (slice line' (gapStart 0 G a) (gapStop line'.length G b)) opt false =
        pieceTextRe (sepRe opt.replaceDelimiter) (tokenizeRe bag opt.greedyDelimiter line')
          (a + 1) (b + 1)) :
    (cutStrCore line opt [opt.eol.byte]).1 = specRecordRe (cfgOf opt) bag line := by
  subst hline hG
  rw [cutStrCore_regex line opt _ bag hre hp hty, specRecordRe_fields line opt bag hp]
  by_cases hj : (opt.join && opt.replaceDelimiter.isNone) = true
  · rw [if_pos hj, if_pos hj]
  · rw [if_neg hj, if_neg hj]
    by_cases he : (trimmedRe opt bag line).isEmpty = true
    · rw [if_pos he, if_pos he]
      cases opt.onlyDelimited <;> simp
    · rw [if_neg he, if_neg he]
      have hin := fieldsRe_in opt bag hok (trimmedRe opt bag line)
      have hlen : (fieldsRe opt bag (trimmedRe opt bag line)).length = _ :=
        rangesBetweenMatches_length ..
      rw [emitRecord_eq_bodyWith opt _ _ _ ⟨fun a b hab hb => (hin.getElem a b hab hb).2,
          fun a b hab hb => by
            simp only [fieldsRe, rangesBetweenMatches_getElem]
            exact hpiece (fun h => he (by rw [h]; rfl)) a b hab (by omega)⟩ hz hL,
        fieldsRe_length, (decide_fieldsMode hty).2, Bool.false_and, Bool.or_false]
      refine bodyWith_joiner _ _ _ _ _ _ ?_
      cases hr : opt.replaceDelimiter with
      | some r => right; rfl
      | none => left; show opt.join = false; simpa [hr] using hj

theorem tokenizeRe_eq (bag : RegexBag) (g : Bool) (line : Bytes) :
    tokenizeRe bag g line =
      tokFrom line (if g then countInside (bag.normal line) else fun _ _ => 1) 0
        (fieldMatches bag g line) := by
  cases g <;> rfl

theorem maybeReplaceDelimiter_none (text : Bytes) (opt : Opt) (cwr : Bool)
    (hr : opt.replaceDelimiter = none) : maybeReplaceDelimiter text opt cwr = text := by
  unfold maybeReplaceDelimiter
  rw [hr]
  split <;> rfl

/-- **C16, one record, no `-r`.**  With `-e RE` (any matcher honouring the contract of
    `find_iter`) and none of `-r -p`, field (or line) mode — any of `-g -t -s -m`, fallbacks, format
    fillers, with or without `--json`; `-j`, which asks for `-r`, is refused by both sides —
    `cut_str` writes for every record (bounds without the index 0, the last one marked) exactly
    what the specification says: the fields are the gaps between successive matches (`-g`: runs of
    matches), a printed range is the bytes of the record from the start of its first gap to the
    end of its last gap. -/
theorem cutStr_regex_eq_spec_gen (opt : Opt) (bag : RegexBag) (line : Bytes)
    (hre : opt.regexBag = some bag) (hok : bag.OK)
    (hr : opt.replaceDelimiter = none) (hp : opt.compressDelimiter = false)
    (hty : opt.boundsType = .fields ∨ opt.boundsType = .lines)
    (hz : AllNonzero opt.bounds.list) (hL : LastMarked opt.bounds.list) :
    (cutStrCore line opt [opt.eol.byte]).1 = specRecordRe (cfgOf opt) bag line := by
  apply cutStr_regex_eq_spec_of_piece opt bag line _ _ rfl rfl hre hok hp hty hz hL
  intro _ a b hab hb
  rw [maybeReplaceDelimiter_none _ _ _ hr, hr, tokenizeRe_eq]
  exact slice_eq_pieceTextRe _ _ _ 0 (hok.matches _ _) (Nat.zero_le _) a b hab hb

theorem cutStr_regex_eq_spec (opt : Opt) (bag : RegexBag) (line : Bytes)
    (hre : opt.regexBag = some bag) (hok : bag.OK)
    (hr : opt.replaceDelimiter = none) (hp : opt.compressDelimiter = false)
    (hjson : opt.json = false) (hty : opt.boundsType = .fields ∨ opt.boundsType = .lines)
    (hz : AllNonzero opt.bounds.list) (hL : LastMarked opt.bounds.list) :
    (cutStrCore line opt [opt.eol.byte]).1 = specRecordRe (cfgOf opt) bag line :=
  cutStr_regex_eq_spec_gen opt bag line hre hok hr hp hty hz hL

theorem outputLoop_congr (opt opt' : Opt) (cwr cwr' : Bool) (line : Bytes) (fields : List Range)
    (n : Nat) (hjoin : opt.join = opt'.join)
    (hJ : opt.replaceDelimiter.getD opt.delimiter = opt'.replaceDelimiter.getD opt'.delimiter)
    (hjson : opt.json = opt'.json) (hfb : opt.fallbackOob = opt'.fallbackOob)
    (hm : ∀ text, maybeReplaceDelimiter text opt cwr = maybeReplaceDelimiter text opt' cwr') :
    ∀ (l : List BoF), outputLoop line fields n opt cwr l = outputLoop line fields n opt' cwr' l := by
  intro l
  rw [outputLoop_eq_seqMap, outputLoop_eq_seqMap]
  refine Run.seqMap_congr fun x _ => ?_
  cases x with
  | filler f => rfl
  | bound b => simp only [outputBof, hjoin, hJ, hjson, hfb, hm]

theorem emitRecord_congr (opt opt' : Opt) (cwr cwr' : Bool) (line : Bytes) (fields : List Range)
    (eol : Bytes) (hjoin : opt.join = opt'.join)
    (hJ : opt.replaceDelimiter.getD opt.delimiter = opt'.replaceDelimiter.getD opt'.delimiter)
    (hjson : opt.json = opt'.json) (hfb : opt.fallbackOob = opt'.fallbackOob)
    (hm : ∀ text, maybeReplaceDelimiter text opt cwr = maybeReplaceDelimiter text opt' cwr')
    (hs : opt.onlyDelimited = opt'.onlyDelimited) (hc : opt.complement = opt'.complement)
    (hb : opt.bounds = opt'.bounds)
    (hty : opt.boundsType ≠ .characters) (hty' : opt'.boundsType ≠ .characters) :
    emitRecord line fields opt cwr eol = emitRecord line fields opt' cwr' eol := by
  unfold emitRecord
  have hl := outputLoop_congr opt opt' cwr cwr' line fields fields.length hjoin hJ hjson hfb hm
  simp only [hs, hc, hb, hjson, hty, hty', hl, decide_false, Bool.false_and, Bool.or_false]

/-- the options of the literal engine that takes over once `-p -r R` has rewritten the record:
    `R` is the delimiter, nothing is trimmed, compressed or replaced any more (the joiner of `-j`
    is the delimiter, i.e. `R`) -/
def literalAfterCompress (opt : Opt) (R : Bytes) : Opt :=
  { opt with regexBag := none, delimiter := R, compressDelimiter := false,
             replaceDelimiter := none, trim := none }

theorem replaceMatches_ne_nil (text R : Bytes) (hR : R ≠ []) (ms : List (Nat × Nat))
    (htext : text ≠ []) : replaceMatches text R 0 ms ≠ [] := by
  cases ms with
  | nil => simpa [replaceMatches] using htext
  | cons m t =>
    obtain ⟨s, e⟩ := m
    simp [replaceMatches, hR]

/-- the matches of `ms` that lie inside `[a, b)`, as offsets into that slice -/
def insideShift (ms : List (Nat × Nat)) (a b : Nat) : List (Nat × Nat) :=
  (ms.filter fun m => decide (a ≤ m.1 ∧ m.2 ≤ b)).map fun m => (m.1 - a, m.2 - a)

/-- **the matcher is context-free on the slices `cut_str` prints**: on a slice of the record that
    starts at offset 0 or where a match (of `RE` or `(RE)+`) ends, and ends at the end of the
    record or where a match starts, `RE` finds exactly the matches it finds there in the whole
    record.  A property of the regex engine for expressions without anchors / look-around
    (`^a` violates it); for the real engine it is validated by testing, not proved. -/
def SliceStable (bag : RegexBag) (line : Bytes) : Prop :=
  ∀ a b : Nat, (a = 0 ∨ ∃ m ∈ bag.normal line ++ bag.greedy line, m.2 = a) →
    (b = line.length ∨ ∃ m ∈ bag.normal line ++ bag.greedy line, m.1 = b) → a ≤ b →
    bag.normal (slice line a b) = insideShift (bag.normal line) a b

theorem StrictMatches.mem {n : Nat} : ∀ {ms : List (Nat × Nat)} {lo : Nat},
    StrictMatches n lo ms → ∀ m ∈ ms, lo ≤ m.1 ∧ m.1 < m.2 ∧ m.2 ≤ n
  | [], _, _, m, hm => by cases hm
  | (s, e) :: t, lo, h, m, hm => by
    rcases List.mem_cons.mp hm with rfl | hm
    · exact ⟨h.1, h.2.1, h.2.2.1⟩
    · have := StrictMatches.mem h.2.2.2 m hm
      have h1 := h.1
      have h2 := h.2.1
      exact ⟨by omega, this.2⟩

theorem replaceMatches_slice (text R : Bytes) (A B : Nat) :
    ∀ (X : List (Nat × Nat)) (p : Nat), (∀ m ∈ X, A ≤ m.2) →
      replaceMatches (slice text A B) R p (X.map fun m => (m.1 - A, m.2 - A)) =
        replaceMatches (text.take B) R (p + A) X := by
  have hdrop : ∀ p, (slice text A B).drop p = (text.take B).drop (p + A) := by
    intro p
    unfold slice
    have h : (text.take B).drop A = (text.drop A).take (B - A) := List.drop_take ..
    rw [Nat.add_comm p A, ← List.drop_drop, h]
  intro X
  induction X with
  | nil => intro p _; simp only [List.map_nil, replaceMatches]; exact hdrop p
  | cons m t ih =>
    obtain ⟨s, e⟩ := m
    intro p hX
    have he : A ≤ e := hX (s, e) (List.mem_cons_self ..)
    have iht := ih (e - A) (fun m hm => hX m (List.mem_cons_of_mem _ hm))
    have e1 : e - A + A = e := by omega
    rw [e1] at iht
    simp only [List.map_cons, replaceMatches, iht]
    congr 2
    unfold slice at hdrop ⊢
    rw [hdrop p]
    congr 1
    omega

theorem replaceMatches_advance (text R : Bytes) {p s : Nat} (hps : p ≤ s) :
    ∀ (ms : List (Nat × Nat)), (∀ m ∈ ms, s ≤ m.1) →
      replaceMatches text R p ms = slice text p s ++ replaceMatches text R s ms
  | [], _ => by
    simp only [replaceMatches, slice]
    have h : text.drop s = (text.drop p).drop (s - p) := by
      rw [List.drop_drop]; congr 1; omega
    rw [h, List.take_append_drop]
  | (s1, e1) :: t, h => by
    have h1 : s ≤ s1 := h (s1, e1) (List.mem_cons_self ..)
    simp only [replaceMatches]
    rw [← slice_append_slice text hps h1]
    simp only [List.append_assoc]

theorem StrictMatches.filter_inside_split {n A s e B : Nat} (hAs : A ≤ s) (hse : s ≤ e)
    (heB : e ≤ B) : ∀ {N : List (Nat × Nat)} {lo : Nat}, StrictMatches n lo N →
      (∀ m ∈ N, A ≤ m.1 → m.2 ≤ B → (s ≤ m.1 ∧ m.2 ≤ e) ∨ e ≤ m.1) →
      (N.filter fun m => decide (A ≤ m.1 ∧ m.2 ≤ B)) =
        (N.filter fun m => decide (s ≤ m.1 ∧ m.2 ≤ e)) ++
          (N.filter fun m => decide (e ≤ m.1 ∧ m.2 ≤ B))
  | [], _, _, _ => rfl
  | (s0, e0) :: t, _, hN, h => by
    have ih := filter_inside_split hAs hse heB hN.2.2.2 fun m hm => h m (List.mem_cons_of_mem _ hm)
    have h0 : A ≤ s0 → e0 ≤ B → (s ≤ s0 ∧ e0 ≤ e) ∨ e ≤ s0 := h (s0, e0) (List.mem_cons_self ..)
    have hlt : s0 < e0 := hN.2.1
    simp only [List.filter_cons, ih]
    by_cases h2 : e ≤ s0 ∧ e0 ≤ B
    · -- the head comes after the separator: so does everything behind it
      have hnil : (t.filter fun m => decide (s ≤ m.1 ∧ m.2 ≤ e)) = [] := by
        rw [List.filter_eq_nil_iff]
        intro m hm hpm
        have := hN.2.2.2.mem m hm
        have := of_decide_eq_true hpm
        omega
      have h1 : ¬ (s ≤ s0 ∧ e0 ≤ e) := by omega
      have hc : A ≤ s0 ∧ e0 ≤ B := by omega
      rw [if_pos (decide_eq_true hc), if_neg (mt of_decide_eq_true h1), if_pos (decide_eq_true h2),
        hnil]
      rfl
    · by_cases h1 : s ≤ s0 ∧ e0 ≤ e
      · have hc : A ≤ s0 ∧ e0 ≤ B := by omega
        rw [if_pos (decide_eq_true hc), if_pos (decide_eq_true h1), if_neg (mt of_decide_eq_true h2)]
        rfl
      · have hc : ¬ (A ≤ s0 ∧ e0 ≤ B) := fun hc =>
          (h0 hc.1 hc.2).elim h1 fun h => h2 ⟨h, hc.2⟩
        rw [if_neg (mt of_decide_eq_true hc), if_neg (mt of_decide_eq_true h1),
          if_neg (mt of_decide_eq_true h2)]

theorem StrictMatches.filter_inside_self {n : Nat} : ∀ {N : List (Nat × Nat)} {lo : Nat},
    StrictMatches n lo N → ∀ g ∈ N, (N.filter fun m => decide (g.1 ≤ m.1 ∧ m.2 ≤ g.2)) = [g]
  | (s0, e0) :: t, _, h, g, hg => by
    have hmem := h.2.2.2.mem
    have hlt : s0 < e0 := h.2.1
    rcases List.mem_cons.mp hg with rfl | hg
    · rw [List.filter_cons_of_pos (by simp), List.filter_eq_nil_iff.mpr]
      intro m hm hpm
      have := hmem m hm
      simp only [decide_eq_true_eq] at hpm
      omega
    · have := hmem g hg
      rw [List.filter_cons_of_neg (by simp only [decide_eq_true_eq]; omega)]
      exact h.2.2.2.filter_inside_self g hg

/-- the matches `ms` tile `[a, b)` exactly: the first starts at `a`, every next one starts where
    the previous one ended, the last one ends at `b` -/
def Tiles : Nat → Nat → List (Nat × Nat) → Prop
  | a, b, [] => a = b
  | a, b, (s, e) :: t => s = a ∧ Tiles e b t

instance : ∀ (a b : Nat) (ms : List (Nat × Nat)), Decidable (Tiles a b ms)
  | a, b, [] => inferInstanceAs (Decidable (a = b))
  | a, b, (s, e) :: t =>
    have := instDecidableTiles e b t
    inferInstanceAs (Decidable (s = a ∧ Tiles e b t))

/-- the matches of `normal` (`RE`) and `greedy` (`(RE)+`) over one record are related as the
    matches of an expression and of its `+` are:
    * `covered` — no match of `RE` lies in a gap of `(RE)+`: every one is inside a match of `(RE)+`;
    * `tiled` — every match of `(RE)+` is tiled exactly by the matches of `RE` inside it. -/
structure GreedyTiledLists (normal greedy : List (Nat × Nat)) : Prop where
  covered : ∀ m ∈ normal, ∃ g ∈ greedy, g.1 ≤ m.1 ∧ m.2 ≤ g.2
  tiled : ∀ g ∈ greedy, Tiles g.1 g.2 (normal.filter fun m => decide (g.1 ≤ m.1 ∧ m.2 ≤ g.2))

/-- `GreedyTiledLists` for the two match lists of a bag over the record `s` -/
def GreedyTiled (bag : RegexBag) (s : Bytes) : Prop :=
  GreedyTiledLists (bag.normal s) (bag.greedy s)

/-- without `-g` the fields are delimited by the replaced matches themselves -/
theorem StrictMatches.tiledSelf {n lo : Nat} {N : List (Nat × Nat)} (h : StrictMatches n lo N) :
    GreedyTiledLists N N where
  covered m hm := ⟨m, hm, Nat.le_refl _, Nat.le_refl _⟩
  tiled g hg := by rw [h.filter_inside_self g hg]; exact ⟨rfl, rfl⟩

theorem replaceMatches_tiles (text R : Bytes) (rest : List (Nat × Nat)) :
    ∀ (T : List (Nat × Nat)) (s e : Nat), Tiles s e T →
      replaceMatches text R s (T ++ rest) = repeatBytes R T.length ++ replaceMatches text R e rest
  | [], s, e, h => by
    have h : s = e := h
    subst h
    simp [repeatBytes]
  | (s', e') :: T, s, e, h => by
    obtain ⟨h1, h2⟩ := h
    subst h1
    simp only [List.cons_append, replaceMatches, List.length_cons, repeatBytes]
    rw [replaceMatches_tiles text R rest T e' e h2, slice_self]
    simp [List.append_assoc]

theorem tokFrom_congr (line : Bytes) (cnt cnt' : Nat → Nat → Nat) :
    ∀ (G : List (Nat × Nat)) (prev : Nat), (∀ g ∈ G, cnt g.1 g.2 = cnt' g.1 g.2) →
      tokFrom line cnt prev G = tokFrom line cnt' prev G
  | [], _, _ => rfl
  | (s, e) :: t, _, h => by
    simp only [tokFrom, tokFrom_congr line cnt cnt' t e fun g hg => h g (List.mem_cons_of_mem _ hg),
      h (s, e) (List.mem_cons_self ..)]

theorem tokenizeRe_strict (bag : RegexBag) (g : Bool) {line : Bytes} {lo : Nat}
    (hN : StrictMatches line.length lo (bag.normal line)) :
    tokenizeRe bag g line =
      tokFrom line (countInside (bag.normal line)) 0 (fieldMatches bag g line) := by
  cases g
  · exact tokFrom_congr line _ _ _ 0 fun m hm =>
      (congrArg List.length (hN.filter_inside_self m hm)).symm
  · rfl

/-- **the text of a range after `-r R`**, in the coordinates of the record.  The fields are the
    gaps of `G` (the matches of `RE`, with `-g` of `(RE)+`); what is replaced are the matches `N`
    (of `RE`) between the first and the last gap of the range.  If every match of `N` after `prev`
    lies inside one of `G` and those inside `g ∈ G` tile it, this is the specification's text: a
    separator is rendered as one `R` for every match of `N` it is made of. -/
theorem replace_eq_pieceTextRe (line R : Bytes) (N : List (Nat × Nat))
    (lo0 : Nat) (hN : StrictMatches line.length lo0 N) :
    ∀ (G : List (Nat × Nat)) (prev : Nat), SortedMatches line.length prev G → prev ≤ line.length →
      (∀ m ∈ N, prev ≤ m.1 → ∃ g ∈ G, g.1 ≤ m.1 ∧ m.2 ≤ g.2) →
      (∀ g ∈ G, Tiles g.1 g.2 (N.filter fun m => decide (g.1 ≤ m.1 ∧ m.2 ≤ g.2))) →
      ∀ (a b : Nat), a ≤ b → b ≤ G.length →
        replaceMatches (line.take (gapStop line.length G b)) R (gapStart prev G a)
            (N.filter fun m => decide (gapStart prev G a ≤ m.1 ∧ m.2 ≤ gapStop line.length G b)) =
          pieceTextRe (sepRe (some R)) (tokFrom line (countInside N) prev G) (a + 1) (b + 1) := by
  -- no match of `N` lies in the gap before the first match of `G`: the gap is copied
  have hgap : ∀ (G : List (Nat × Nat)) (prev B : Nat),
      (∀ m ∈ N, prev ≤ m.1 → ∃ g ∈ G, g.1 ≤ m.1 ∧ m.2 ≤ g.2) → (∀ g ∈ G, B ≤ g.1) →
      replaceMatches (line.take B) R prev (N.filter fun m => decide (prev ≤ m.1 ∧ m.2 ≤ B)) =
        slice line prev B := by
    intro G prev B hcov hB
    have hnil : (N.filter fun m => decide (prev ≤ m.1 ∧ m.2 ≤ B)) = [] := by
      rw [List.filter_eq_nil_iff]
      intro m hm hpm
      simp only [decide_eq_true_eq] at hpm
      obtain ⟨g, hg, hg1, _⟩ := hcov m hm hpm.1
      have := hB g hg
      have := hN.mem m hm
      omega
    rw [hnil]
    exact take_drop_eq_slice line prev B
  intro G
  induction G with
  | nil =>
    intro prev _ _ hcov _ a b hab hb
    obtain rfl : b = 0 := by simpa using hb
    obtain rfl : a = 0 := by omega
    rw [pieceTextRe_one_one]
    exact (hgap [] prev _ hcov (fun g hg => by cases hg)).trans (slice_to_end line prev)
  | cons g G' ih =>
    obtain ⟨s, e⟩ := g
    intro prev hG hp hcov htile a b hab hb
    obtain ⟨h1, h2, h3, h4⟩ := hG
    have hGmem := h4.mem
    have hcov' : ∀ m ∈ N, e ≤ m.1 → ∃ g ∈ G', g.1 ≤ m.1 ∧ m.2 ≤ g.2 := by
      intro m hm hem
      obtain ⟨g, hg, hg1, hg2⟩ := hcov m hm (by omega)
      rcases List.mem_cons.mp hg with rfl | hg
      · have := hN.mem m hm
        simp only at hg1 hg2
        omega
      · exact ⟨g, hg, hg1, hg2⟩
    have ih := ih e h4 h3 hcov' (fun g hg => htile g (List.mem_cons_of_mem _ hg))
    cases b with
    | zero =>
      obtain rfl : a = 0 := by omega
      rw [pieceTextRe_one_one]
      apply hgap _ prev s hcov
      intro g hg
      rcases List.mem_cons.mp hg with rfl | hg
      · exact Nat.le_refl _
      · have := hGmem g hg
        omega
    | succ b' =>
      have hb' : b' ≤ G'.length := by simpa using hb
      cases a with
      | zero =>
        have hge := (gap_le h4 h3 (Nat.zero_le b') hb').2
        have ihh := ih 0 b' (Nat.zero_le _) hb'
        rw [gapStart_zero] at ihh hge ⊢
        show replaceMatches (line.take (gapStop line.length G' b')) R prev
          (N.filter fun m => decide (prev ≤ m.1 ∧ m.2 ≤ gapStop line.length G' b')) = _
        generalize gapStop line.length G' b' = B at ihh hge ⊢
        -- the matches to replace: those inside the separator `[s, e)`, then those after it
        have hsplit := hN.filter_inside_split h1 h2 hge.1 (B := B) fun m hm hA _ => by
          obtain ⟨g, hg, hg1, hg2⟩ := hcov m hm hA
          rcases List.mem_cons.mp hg with rfl | hg
          · exact Or.inl ⟨hg1, hg2⟩
          · exact Or.inr (Nat.le_trans (hGmem g hg).1 hg1)
        have hfrom : ∀ m ∈ (N.filter fun m => decide (s ≤ m.1 ∧ m.2 ≤ e)) ++
            (N.filter fun m => decide (e ≤ m.1 ∧ m.2 ≤ B)), s ≤ m.1 := by
          intro m hm
          rcases List.mem_append.mp hm with hm | hm
          · exact (of_decide_eq_true (List.mem_filter.mp hm).2).1
          · have := (of_decide_eq_true (List.mem_filter.mp hm).2).1
            omega
        rw [hsplit, replaceMatches_advance _ R h1 _ hfrom,
          replaceMatches_tiles _ R _ _ s e (htile (s, e) (List.mem_cons_self ..)), ihh,
          slice_take _ _ _ _ (by omega),
          pieceTextRe_tokFrom_one_succ, List.append_assoc]
        rfl
      | succ a' =>
        rw [pieceTextRe_tokFrom_succ_succ]
        exact ih a' b' (by omega) hb'

/-- **C16, one record, `-r R` without `-p`, with or without `-g`** (with or without `--json`, field or line mode,
    bounds without the index 0 and with the last one marked).  Every printed range is matched
    again with `RE` and every match is replaced by `R`.  Under the `find_iter` contract with
    non-empty matches of `RE` and `SliceStable` (on `line'`, the record after `-t`), `cut_str`
    writes what the specification says as soon as the matches `G` that delimit the fields are
    tiled by the matches of `RE` (`ht`: `GreedyTiled` with `-g`; without it `G` are the matches of
    `RE` themselves, `StrictMatches.tiledSelf`). -/
theorem cutStr_regex_replace_eq_spec_of (opt : Opt) (bag : RegexBag) (line R line' : Bytes)
    (G : List (Nat × Nat)) (hline : line' = trimmedRe opt bag line)
    (hG : G = fieldMatches bag opt.greedyDelimiter line')
    (hre : opt.regexBag = some bag) (hok : bag.OK)
    (hr : opt.replaceDelimiter = some R) (hp : opt.compressDelimiter = false)
    (hty : opt.boundsType = .fields ∨ opt.boundsType = .lines)
    (hz : AllNonzero opt.bounds.list) (hL : LastMarked opt.bounds.list)
    (hstrict : StrictMatches line'.length 0 (bag.normal line')) (hstable : SliceStable bag line')
    (ht : GreedyTiledLists (bag.normal line') G) :
    (cutStrCore line opt [opt.eol.byte]).1 = specRecordRe (cfgOf opt) bag line := by
  apply cutStr_regex_eq_spec_of_piece opt bag line line' G hline hG hre hok hp hty hz hL
  have hsorted : SortedMatches line'.length 0 G := hG ▸ hok.matches opt.greedyDelimiter line'
  have hGsub : ∀ m ∈ G, m ∈ bag.normal line' ++ bag.greedy line' := by
    rw [hG]
    unfold fieldMatches
    cases opt.greedyDelimiter
    · exact fun m hm => List.mem_append_left _ hm
    · exact fun m hm => List.mem_append_right _ hm
  intro _ a b hab hb
  rw [tokenizeRe_strict bag _ hstrict, hr, ← hG]
  -- the printed slice is matched again; its matches are those of the record inside it
  have hmrd : ∀ text, maybeReplaceDelimiter text opt false =
      replaceMatches text R 0 (bag.normal text) := by
    intro text
    unfold maybeReplaceDelimiter
    rw [if_neg (BoundsType.ne_characters hty), hr, hre]
    rfl
  rw [hmrd, hstable _ _
    ((gapStart_boundary G 0 a).imp id fun ⟨m, hm, h⟩ => ⟨m, hGsub m hm, h⟩)
    ((gapStop_boundary line'.length G b).imp id fun ⟨m, hm, h⟩ => ⟨m, hGsub m hm, h⟩)
    (gap_le hsorted (Nat.zero_le _) hab hb).2.1]
  unfold insideShift
  rw [replaceMatches_slice _ _ _ _ _ 0
    (by
      intro m hm
      have h1 := of_decide_eq_true (List.mem_filter.mp hm).2
      have h2 := hstrict.mem m (List.mem_filter.mp hm).1
      omega),
    Nat.zero_add]
  exact replace_eq_pieceTextRe line' R _ 0 hstrict G 0 hsorted (Nat.zero_le _)
    (fun m hm _ => ht.covered m hm) ht.tiled a b hab hb

end Tuc
