import Tuc.Model.CutStr
import Tuc.Model.FastLane
import Tuc.Model.LinesLoop
import Tuc.Model.StreamLoop
import Tuc.Lemmas.Run
/-!
# The input as the readers meet it, and the record loops in closed form

First the splitters: `records` by its two equations and one induction principle (`records_of_noeol`,
`records_of_eol`, `records_ind`), the same for the lines with their terminator (`rawLines`, `lines_ind`,
`records_eq_map_stripEol`), `readUntil` and `memchr` past bytes without the needle.  `Space.rawLines` is DEFINED
here, not in a model file: it is the splitter "lines with their terminators" over which `Props/ReadLoops` and
`Props/Space2` state what the readers hand out; it stands under the namespace the space files gave it, with its two
equations (`Space.rawLines_of_noeol`, `_of_eol`), while what relates it to `records` and `readUntil` is plain `Tuc.*`
(`rawLines_cases`, `rawLines_append_eol`, … — `records_append`, the same for `records`, is in `Props/C10`).  The
lemmas about `readUntil` / `stripEol` and `memchr` are in the namespaces of those model definitions (`Tuc.LinesLoop`,
`Tuc.StreamLoop`); `Lemmas/LinesLoop`, `Props/StreamLoop` are other files.
Then the loops:

`read_and_cut_str` and `read_and_cut_text_as_bytes` call their cutter on one record after the other
and stop at the first `Err`; the scratch buffers they hand from call to call are cleared before they
are read.  So both loops are `Run.seqMap` of the run of one record (`cutRecords_eq_seqMap`,
`fastRecords_eq_seqMap`), and what holds of a whole run because it holds record by record
(concatenation, a renaming of the bytes, equality of two engines, the statuses that can occur)
follows from the laws of `Run.seqMap`, with no induction over the records of its own.
-/
namespace Tuc

theorem splitRecords_append_noEol (eol : UInt8) (c : Bytes) (hc : eol ∉ c) (cur rest : Bytes) :
    splitRecords eol cur (c ++ rest) = splitRecords eol (c.reverse ++ cur) rest := by
  induction c generalizing cur with
  | nil => rfl
  | cons x t ih =>
    have hx : x ≠ eol := fun h => hc (by simp [h])
    have ht : eol ∉ t := fun h => hc (List.mem_cons_of_mem _ h)
    simp only [List.cons_append, splitRecords, if_neg hx]
    rw [ih ht]
    simp

theorem records_of_noeol (eol : UInt8) (l : Bytes) (h : ∀ c ∈ l, c ≠ eol) :
    records eol l = if l.isEmpty then [] else [l] := by
  have := splitRecords_append_noEol eol l (fun hm => h eol hm rfl) [] []
  rw [List.append_nil, List.append_nil] at this
  rw [records, this]
  cases l <;> simp [splitRecords]

theorem records_of_eol (eol : UInt8) (l rest : Bytes) (h : ∀ c ∈ l, c ≠ eol) :
    records eol (l ++ eol :: rest) = l :: records eol rest := by
  rw [records, splitRecords_append_noEol eol l (fun hm => h eol hm rfl) [] (eol :: rest)]
  simp [splitRecords, records]

theorem exists_first_eol (eol : UInt8) (input : Bytes) :
    (∀ c ∈ input, c ≠ eol) ∨
      ∃ l rest, input = l ++ eol :: rest ∧ (∀ c ∈ l, c ≠ eol) := by
  induction input with
  | nil => exact Or.inl nofun
  | cons c t ih =>
    by_cases hc : c = eol
    · exact Or.inr ⟨[], t, by rw [hc]; rfl, nofun⟩
    · rcases ih with h | ⟨l, rest, rfl, h2⟩
      · exact Or.inl (List.forall_mem_cons.2 ⟨hc, h⟩)
      · exact Or.inr ⟨c :: l, rest, rfl, List.forall_mem_cons.2 ⟨hc, h2⟩⟩

theorem records_ind {eol : UInt8} {P : Bytes → List Bytes → Prop}
    (last : ∀ l, (∀ c ∈ l, c ≠ eol) → P l (if l.isEmpty then [] else [l]))
    (step : ∀ l rest, (∀ c ∈ l, c ≠ eol) → P rest (records eol rest) →
      P (l ++ eol :: rest) (l :: records eol rest)) :
    ∀ input, P input (records eol input) := by
  intro input
  generalize hn : input.length = n
  induction n using Nat.strongRecOn generalizing input with
  | _ n ih =>
    rcases exists_first_eol eol input with h | ⟨l, rest, rfl, h2⟩
    · rw [records_of_noeol eol input h]; exact last input h
    · rw [records_of_eol eol l rest h2]
      exact step l rest h2 (ih rest.length (by simp at hn; omega) rest rfl)

/-- every record of the input is free of EOL bytes -/
theorem records_noeol (eol : UInt8) (input : Bytes) : ∀ r ∈ records eol input, ∀ c ∈ r, c ≠ eol :=
  records_ind (P := fun _ rs => ∀ r ∈ rs, ∀ c ∈ r, c ≠ eol)
    (fun l h r hr => by
      split at hr
      · cases hr
      · rw [List.mem_singleton.1 hr]; exact h)
    (fun l _ h ih r hr => by
      rcases List.mem_cons.1 hr with rfl | hr
      · exact h
      · exact ih r hr) input

theorem records_eq_nil_iff (eol : UInt8) (x : Bytes) : records eol x = [] ↔ x = [] :=
  records_ind (P := fun x r => r = [] ↔ x = [])
    (fun l _ => by cases l <;> simp) (fun l rest _ _ => by simp) x

theorem records_length_le (eol : UInt8) (input : Bytes) : ∀ r ∈ records eol input, r.length ≤ input.length :=
  records_ind (P := fun x rs => ∀ r ∈ rs, r.length ≤ x.length)
    (fun l _ r hr => by
      split at hr
      · cases hr
      · rw [List.mem_singleton.1 hr]; exact Nat.le_refl _)
    (fun l rest _ ih r hr => by
      simp only [List.length_append, List.length_cons]
      rcases List.mem_cons.1 hr with rfl | hr
      · omega
      · have := ih r hr; omega) input

namespace Space

/-- the lines of the input WITH their terminators (what `read_until` hands out, call after call);
    `cur` is the current line so far, reversed -/
def rawLinesAux (eol : UInt8) : Bytes → Bytes → List Bytes
  | cur, [] => if cur.isEmpty then [] else [cur.reverse]
  | cur, c :: t =>
    if c = eol then (c :: cur).reverse :: rawLinesAux eol [] t else rawLinesAux eol (c :: cur) t

def rawLines (eol : UInt8) (input : Bytes) : List Bytes := rawLinesAux eol [] input

theorem rawLinesAux_append_noEol (eol : UInt8) (c : Bytes) (hc : eol ∉ c) (cur rest : Bytes) :
    rawLinesAux eol cur (c ++ rest) = rawLinesAux eol (c.reverse ++ cur) rest := by
  induction c generalizing cur with
  | nil => rfl
  | cons x t ih =>
    have hx : x ≠ eol := fun h => hc (by simp [h])
    simp only [List.cons_append, rawLinesAux, if_neg hx]
    rw [ih fun h => hc (List.mem_cons_of_mem _ h)]
    simp

theorem rawLines_of_noeol (eol : UInt8) (l : Bytes) (h : ∀ c ∈ l, c ≠ eol) :
    rawLines eol l = if l.isEmpty then [] else [l] := by
  have := rawLinesAux_append_noEol eol l (fun hm => h eol hm rfl) [] []
  rw [List.append_nil, List.append_nil] at this
  rw [rawLines, this]
  cases l <;> simp [rawLinesAux]

theorem rawLines_of_eol (eol : UInt8) (l rest : Bytes) (h : ∀ c ∈ l, c ≠ eol) :
    rawLines eol (l ++ eol :: rest) = (l ++ [eol]) :: rawLines eol rest := by
  rw [rawLines, rawLinesAux_append_noEol eol l (fun hm => h eol hm rfl) [] (eol :: rest)]
  simp [rawLinesAux, rawLines]

end Space

namespace LinesLoop

theorem stripEol_append_eol (eol : UInt8) (l : Bytes) : stripEol eol (l ++ [eol]) = l := by
  unfold stripEol
  simp

theorem stripEol_append_of_ne_nil (eol : UInt8) (a : Bytes) {b : Bytes} (hb : b ≠ []) :
    stripEol eol (a ++ b) = a ++ stripEol eol b := by
  unfold stripEol
  rw [List.getLast?_append, List.getLast?_eq_some_getLast hb, Option.some_or]
  dsimp only
  split
  · rw [List.dropLast_append_of_ne_nil hb]
  · rfl

theorem stripEol_noeol (eol : UInt8) (x : Bytes) (h : ∀ c ∈ x, c ≠ eol) : stripEol eol x = x := by
  unfold stripEol
  cases hl : x.getLast? with
  | none => rfl
  | some c => exact if_neg (h c (List.mem_of_getLast? hl))

theorem readUntil_append_noEol (d : UInt8) (c : Bytes) (hc : d ∉ c) (rest : Bytes) :
    readUntil d (c ++ rest) = (c ++ (readUntil d rest).1, (readUntil d rest).2) := by
  induction c with
  | nil => rfl
  | cons x t ih =>
    have hx : x ≠ d := fun h => hc (by simp [h])
    rw [List.cons_append, readUntil, if_neg hx, ih fun h => hc (List.mem_cons_of_mem _ h)]
    rfl

theorem readUntil_noeol (d : UInt8) (x : Bytes) (h : ∀ c ∈ x, c ≠ d) : readUntil d x = (x, []) := by
  have := readUntil_append_noEol d x (fun hm => h d hm rfl) []
  rwa [List.append_nil, readUntil, List.append_nil] at this

theorem readUntil_eol (d : UInt8) (rest l : Bytes) (h : ∀ c ∈ l, c ≠ d) :
    readUntil d (l ++ d :: rest) = (l ++ [d], rest) := by
  rw [readUntil_append_noEol d l (fun hm => h d hm rfl), readUntil, if_pos rfl]

end LinesLoop

open LinesLoop (readUntil stripEol_append_eol stripEol_noeol readUntil_noeol readUntil_eol)

theorem records_eq_map_stripEol (eol : UInt8) (input : Bytes) :
    records eol input = (Space.rawLines eol input).map (stripEol eol) :=
  records_ind (P := fun x rs => rs = (Space.rawLines eol x).map (stripEol eol))
    (fun l h => by
      rw [Space.rawLines_of_noeol eol l h]
      split
      · rfl
      · rw [List.map_singleton, stripEol_noeol eol l h])
    (fun l rest h ih => by
      rw [Space.rawLines_of_eol eol l rest h, List.map_cons, stripEol_append_eol, ih]) input

/-- induction over the input line by line, for what does not speak of `records` -/
theorem lines_ind {eol : UInt8} {P : Bytes → Prop} (last : ∀ l, (∀ c ∈ l, c ≠ eol) → P l)
    (step : ∀ l rest, (∀ c ∈ l, c ≠ eol) → P rest → P (l ++ eol :: rest)) (input : Bytes) : P input :=
  records_ind (P := fun x _ => P x) last step input

theorem rawLines_cases (eol : UInt8) (input : Bytes) : ∀ l ∈ Space.rawLines eol input,
    (∃ a, (∀ c ∈ a, c ≠ eol) ∧ l = a ++ [eol]) ∨ ((∀ c ∈ l, c ≠ eol) ∧ l ≠ []) := by
  induction input using lines_ind (eol := eol) with
  | last l h =>
    rw [Space.rawLines_of_noeol eol l h]
    cases l with
    | nil => nofun
    | cons c t => exact fun x hx => List.mem_singleton.1 hx ▸ Or.inr ⟨h, List.cons_ne_nil _ _⟩
  | step l rest h ih =>
    rw [Space.rawLines_of_eol eol l rest h]
    exact List.forall_mem_cons.2 ⟨Or.inl ⟨l, h, rfl⟩, ih⟩

theorem rawLines_length_le (eol : UInt8) (input : Bytes) :
    ∀ l ∈ Space.rawLines eol input, l.length ≤ input.length := by
  induction input using lines_ind (eol := eol) with
  | last l h =>
    rw [Space.rawLines_of_noeol eol l h]
    split
    · nofun
    · exact fun x hx => List.mem_singleton.1 hx ▸ Nat.le_refl _
  | step l rest h ih =>
    rw [Space.rawLines_of_eol eol l rest h, List.length_append, List.length_cons]
    exact List.forall_mem_cons.2 ⟨by simp, fun x hx => Nat.le_trans (ih x hx) (by omega)⟩

theorem rawLines_append_eol (eol : UInt8) (a b : Bytes) :
    Space.rawLines eol (a ++ eol :: b) = Space.rawLines eol (a ++ [eol]) ++ Space.rawLines eol b := by
  induction a using lines_ind (eol := eol) with
  | last l h => rw [Space.rawLines_of_eol eol l b h, Space.rawLines_of_eol eol l [] h]; rfl
  | step l rest h ih =>
    rw [List.append_assoc, List.append_assoc, List.cons_append, List.cons_append,
      Space.rawLines_of_eol eol l _ h, Space.rawLines_of_eol eol l _ h, ih]
    rfl

theorem rawLines_readUntil (eol : UInt8) {x : Bytes} (hne : x ≠ []) :
    (readUntil eol x).1 ≠ [] ∧ (readUntil eol x).2.length < x.length ∧
      Space.rawLines eol x = (readUntil eol x).1 :: Space.rawLines eol (readUntil eol x).2 := by
  rcases exists_first_eol eol x with h | ⟨a, r, rfl, h⟩
  · rw [readUntil_noeol eol x h, Space.rawLines_of_noeol eol x h]
    cases x with
    | nil => exact absurd rfl hne
    | cons c t => exact ⟨hne, Nat.succ_pos _, rfl⟩
  · rw [readUntil_eol eol r a h, Space.rawLines_of_eol eol a r h]
    exact ⟨by simp, by simp; omega, rfl⟩

namespace StreamLoop

theorem memchr_none {n : UInt8} : ∀ {l : Bytes}, memchr n l = none → ∀ c ∈ l, c ≠ n
  | [], _ => nofun
  | c :: t, h => by
    unfold memchr at h
    by_cases hc : c = n
    · rw [if_pos hc] at h; cases h
    · rw [if_neg hc, Option.map_eq_none_iff] at h
      exact List.forall_mem_cons.2 ⟨hc, memchr_none h⟩

theorem memchr_some {n : UInt8} : ∀ {l : Bytes} {i : Nat}, memchr n l = Option.some i →
    ∃ a b, l = a ++ n :: b ∧ (∀ c ∈ a, c ≠ n) ∧ i = a.length
  | [], _, h => nomatch h
  | c :: t, i, h => by
    unfold memchr at h
    by_cases hc : c = n
    · rw [if_pos hc] at h; cases h
      exact ⟨[], t, by rw [hc]; rfl, nofun, rfl⟩
    · rw [if_neg hc, Option.map_eq_some_iff] at h
      obtain ⟨j, hj, rfl⟩ := h
      obtain ⟨a, b, rfl, ha, rfl⟩ := memchr_some hj
      exact ⟨c :: a, b, rfl, List.forall_mem_cons.2 ⟨hc, ha⟩, rfl⟩

theorem memchr_lt (n : UInt8) (l : Bytes) (i : Nat) (h : memchr n l = some i) : i < l.length := by
  obtain ⟨a, b, rfl, _, rfl⟩ := memchr_some h
  simp

end StreamLoop

theorem records_eq_lone_iff (eol : UInt8) (x : Bytes) : records eol x = [[]] ↔ x = [eol] :=
  records_ind (P := fun x r => r = [[]] ↔ x = [eol])
    (fun l h => by
      cases l with
      | nil => simp
      | cons c t => simpa using fun e _ => h c (by simp) e)
    (fun l rest _ _ => by
      rw [List.cons.injEq, records_eq_nil_iff]
      cases l <;> simp) x

/-- the second part is the test of `Spec.specLines` for "the input is one empty record", as it stands there after
    `tokOfParts` (the lines as tokens one separator apart): false for an input other than `[]` and `[eol]` -/
theorem records_of_input {eol : UInt8} {input : Bytes} (h0 : input ≠ []) (h1 : input ≠ [eol]) :
    ∃ p ps, records eol input = p :: ps ∧
      ((ps.map fun x => ((1 : Nat), x)).isEmpty && p.isEmpty) = false := by
  cases hrec : records eol input with
  | nil => exact absurd ((records_eq_nil_iff _ _).1 hrec) h0
  | cons p ps =>
    refine ⟨p, ps, rfl, ?_⟩
    cases ps with
    | cons _ _ => rfl
    | nil =>
      cases p with
      | cons _ _ => rfl
      | nil => exact absurd ((records_eq_lone_iff _ _).1 hrec) h1

theorem records_trailing_eol (eol : UInt8) (x : Bytes) (hne : x ≠ [])
    (hlast : x.getLast? ≠ some eol) :
    records eol (x ++ [eol]) = records eol x := by
  induction x using lines_ind (eol := eol) with
  | last l h =>
    rw [records_of_eol eol l [] h, records_of_noeol eol l h]
    cases l with
    | nil => exact absurd rfl hne
    | cons _ _ => rfl
  | step l rest h ih =>
    have hr : rest ≠ [] := fun e => hlast (by simp [e])
    obtain ⟨d, u, rfl⟩ := List.exists_cons_of_ne_nil hr
    rw [List.getLast?_append, List.getLast?_cons_cons] at hlast
    rw [List.append_assoc, List.cons_append, records_of_eol eol l _ h, records_of_eol eol l _ h,
      ih hr fun e => hlast (by rw [e]; rfl)]

theorem cutRecords_eq_seqMap (opt : Opt) (recs : List Bytes) (f₀ : List Range) (b₀ : Bytes) :
    cutRecords opt recs f₀ b₀ = Run.seqMap (fun r => (cutStrCore r opt [opt.eol.byte]).1) recs := by
  induction recs generalizing f₀ b₀ with
  | nil => rfl
  | cons r t ih => simp only [cutRecords, cutStr, Run.seqMap, ih]

theorem fastRecords_eq_seqMap (opt : FastOpt) (lif : Side) (recs : List Bytes) (f₀ : List Nat) :
    fastRecords opt lif recs f₀ = Run.seqMap (fun r => (cutStrFastLaneCore r opt lif).1) recs := by
  induction recs generalizing f₀ with
  | nil => rfl
  | cons r t ih => simp only [fastRecords, cutStrFastLane, Run.seqMap, ih]

theorem outputLoop_eq_seqMap (line : Bytes) (fields : List Range) (n : Nat) (opt : Opt) (c : Bool)
    (l : List BoF) : outputLoop line fields n opt c l = Run.seqMap (outputBof line fields n opt c) l := by
  induction l with
  | nil => rfl
  | cons b t ih => rw [outputLoop, Run.seqMap, ih]

def fastOutputBof (line : Bytes) (fields : List Nat) (opt : FastOpt) : BoF → Run
  | .filler f => Run.ok f
  | .bound b => outputParts line b fields opt

theorem fastOutputLoop_eq_seqMap (line : Bytes) (fields : List Nat) (opt : FastOpt) (l : List BoF) :
    fastOutputLoop line fields opt l = Run.seqMap (fastOutputBof line fields opt) l := by
  induction l with
  | nil => rfl
  | cons b t ih => cases b <;> rw [fastOutputLoop, Run.seqMap, ih] <;> rfl

end Tuc
