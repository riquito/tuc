import Tuc.Model.Basic
/-! # Algebra of `Run.seq` / `Run.pre` / `Run.seqMap`; `Run.Safe` (exit status 0 or 1) and its closure under them and `if` -/
namespace Tuc

theorem ite_ind {α : Sort _} {P : α → Prop} {c : Prop} [Decidable c] {a b : α} (ha : P a) (hb : P b) :
    P (if c then a else b) := by
  split
  · exact ha
  · exact hb

/-- two `if`s on the same test walked in step.  The `*_map` lemmas of `Tuc.Props.C11` first bring the
    tests of the renamed side to the form of the other side (they look at lengths, indexes and the
    equality with the delimiter or the terminator only), then apply this once per `if`. -/
theorem ite_map {α β : Sort _} (f : α → β) {c : Prop} [Decidable c] {a b : α} {a' b' : β}
    (ha : a' = f a) (hb : b' = f b) : (if c then a' else b') = f (if c then a else b) := by
  split <;> assumption

theorem Run.seq_assoc (a b c : Run) : (a.seq b).seq c = a.seq (b.seq c) := by
  obtain ⟨ao, as⟩ := a
  obtain ⟨bo, bs⟩ := b
  cases as <;> cases bs <;> simp [Run.seq, List.append_assoc]

@[simp] theorem Run.empty_seq (a : Run) : Run.empty.seq a = a := by
  simp [Run.seq, Run.empty]

@[simp] theorem Run.seq_empty (a : Run) : a.seq Run.empty = a := by
  obtain ⟨ao, as⟩ := a
  cases as <;> simp [Run.seq, Run.empty]

theorem Run.seq_of_not_ok (a b : Run) (h : a.status ≠ .ok) : a.seq b = a := by
  obtain ⟨ao, as⟩ := a
  cases as <;> simp_all [Run.seq]

theorem Run.seq_ok (w : Bytes) (b : Run) : (Run.ok w).seq b = Run.pre w b := by
  simp [Run.seq, Run.ok, Run.pre]

theorem Run.ok_seq_ok (a b : Bytes) : (Run.ok a).seq (Run.ok b) = Run.ok (a ++ b) := rfl

theorem Run.panic_seq (r : Run) : Run.panic.seq r = Run.panic := rfl

theorem Run.pre_pre (u v : Bytes) (r : Run) : Run.pre u (Run.pre v r) = Run.pre (u ++ v) r := by
  simp [Run.pre, List.append_assoc]

@[simp] theorem Run.pre_nil (r : Run) : Run.pre [] r = r := by
  simp [Run.pre]

theorem Run.pre_seq (w : Bytes) (a b : Run) : (Run.pre w a).seq b = Run.pre w (a.seq b) := by
  obtain ⟨ao, as⟩ := a
  cases as <;> simp [Run.seq, Run.pre, List.append_assoc]

theorem Run.seq_status_ok {a b : Run} (h : (a.seq b).status = .ok) : a.status = .ok ∧ b.status = .ok := by
  obtain ⟨ao, as⟩ := a
  cases as <;> simp_all [Run.seq]

theorem Run.seq_out_of_ok {a b : Run} (h : a.status = .ok) : (a.seq b).out = a.out ++ b.out := by
  obtain ⟨ao, as⟩ := a
  cases as <;> simp_all [Run.seq]

theorem Run.seq_status_of_ok {a b : Run} (h : a.status = .ok) : (a.seq b).status = b.status := by
  obtain ⟨ao, as⟩ := a
  cases as <;> simp_all [Run.seq]

theorem Run.seq_out_prefix (a b : Run) : a.out <+: (a.seq b).out := by
  obtain ⟨ao, as⟩ := a
  cases as <;> simp [Run.seq]

theorem Run.pre_out_prefix {w : Bytes} {a b : Run} (h : a.out <+: b.out) :
    (Run.pre w a).out <+: (Run.pre w b).out := by
  simp only [Run.pre]
  exact (List.prefix_append_right_inj w).2 h

/-- the run ended with exit status 0 or 1: no panic, no endless loop -/
def Run.Safe (r : Run) : Prop := r.status = .ok ∨ r.status = .fail

theorem Run.Safe.ne_panic {r : Run} (h : r.Safe) : r.status ≠ .panic := by
  rcases h with h | h <;> rw [h] <;> simp

theorem Run.Safe.ne_hang {r : Run} (h : r.Safe) : r.status ≠ .hang := by
  rcases h with h | h <;> rw [h] <;> simp

theorem Run.safe_ok (w : Bytes) : (Run.ok w).Safe := Or.inl rfl
theorem Run.safe_empty : Run.empty.Safe := Or.inl rfl
theorem Run.safe_fail : Run.fail.Safe := Or.inr rfl

theorem Run.Safe.pre {w : Bytes} {r : Run} (h : r.Safe) : (Run.pre w r).Safe := h

theorem Run.Safe.seq {a b : Run} (ha : a.Safe) (hb : b.Safe) : (a.seq b).Safe := by
  rcases ha with ha | ha
  · rw [Run.Safe, Run.seq_status_of_ok ha]; exact hb
  · rw [Run.seq_of_not_ok a b (by rw [ha]; exact Status.noConfusion)]; exact Or.inr ha

theorem Run.safe_ite {c : Prop} [Decidable c] {a b : Run} (ha : a.Safe) (hb : b.Safe) :
    (if c then a else b).Safe := ite_ind ha hb

/-- the fallback rule (own fallback, else the generic one, else failure) keeps what each of its three
    outcomes has -/
theorem Run.fallbackRule {P : Run → Prop} {own generic : Option Bytes} {k : Bytes → Run}
    (hk : ∀ f, P (k f)) (hz : P Run.fail) :
    P (match (generalizing := false) own with
      | some f => k f
      | none => match (generalizing := false) generic with
        | some f => k f
        | none => Run.fail) := by
  cases own with
  | some f => exact hk f
  | none => cases generic with
    | some f => exact hk f
    | none => exact hz

theorem Run.seq_fail_of_safe {a : Run} (h : a.Safe) : a.seq Run.fail = ⟨a.out, .fail⟩ := by
  obtain ⟨ao, as⟩ := a
  rcases h with h | h <;> simp only at h <;> subst h <;> simp [Run.seq, Run.fail]

/-- the runs `f a` one after the other, up to the first that does not end well -/
def Run.seqMap {α : Type} (f : α → Run) : List α → Run
  | [] => Run.empty
  | a :: t => (f a).seq (Run.seqMap f t)

theorem Run.seqMap_append {α : Type} (f : α → Run) (l₁ l₂ : List α) :
    Run.seqMap f (l₁ ++ l₂) = (Run.seqMap f l₁).seq (Run.seqMap f l₂) := by
  induction l₁ with
  | nil => exact (Run.empty_seq _).symm
  | cons a t ih => simp only [List.cons_append, Run.seqMap, ih, Run.seq_assoc]

theorem Run.seqMap_congr {α : Type} {f g : α → Run} {l : List α} (h : ∀ a ∈ l, f a = g a) :
    Run.seqMap f l = Run.seqMap g l := by
  induction l with
  | nil => rfl
  | cons a t ih =>
    rw [Run.seqMap, Run.seqMap, h a List.mem_cons_self, ih fun b hb => h b (List.mem_cons_of_mem _ hb)]

theorem Run.seqMap_map {α β : Type} (f : α → Run) (g : β → α) (l : List β) :
    Run.seqMap f (l.map g) = Run.seqMap (fun b => f (g b)) l := by
  induction l with
  | nil => rfl
  | cons a t ih => simp only [List.map_cons, Run.seqMap, ih]

theorem Run.seqMap_ind {α : Type} {f : α → Run} {l : List α} {P : Run → Prop} (h0 : P Run.empty)
    (hseq : ∀ a b, P a → P b → P (a.seq b)) (h : ∀ x ∈ l, P (f x)) : P (Run.seqMap f l) := by
  induction l with
  | nil => exact h0
  | cons a t ih =>
    exact hseq _ _ (h a List.mem_cons_self) (ih fun b hb => h b (List.mem_cons_of_mem _ hb))

theorem Run.seqMap_safe {α : Type} {f : α → Run} {l : List α} (h : ∀ x ∈ l, (f x).Safe) :
    (Run.seqMap f l).Safe :=
  Run.seqMap_ind Run.safe_empty (fun _ _ => Run.Safe.seq) h

theorem Run.seqMap_out_prefix {α : Type} (f : α → Run) {l₁ l₂ : List α} (h : l₁ <+: l₂) :
    (Run.seqMap f l₁).out <+: (Run.seqMap f l₂).out := by
  obtain ⟨more, rfl⟩ := h
  rw [Run.seqMap_append]
  exact Run.seq_out_prefix _ _

theorem Run.seqMap_stop {α : Type} (f : α → Run) (l₁ l₂ : List α) {a : α} (h : (f a).status ≠ .ok) :
    Run.seqMap f (l₁ ++ a :: l₂) = (Run.seqMap f l₁).seq (f a) := by
  rw [Run.seqMap_append, Run.seqMap, Run.seq_of_not_ok _ _ h]

def Run.mapOut (f : Bytes → Bytes) (r : Run) : Run := ⟨f r.out, r.status⟩

section mapOut
variable (σ : UInt8 → UInt8)

@[simp] theorem Run.mapOut_ok (f : Bytes → Bytes) (w : Bytes) : (Run.ok w).mapOut f = Run.ok (f w) := rfl
@[simp] theorem Run.mapOut_empty : Run.empty.mapOut (List.map σ) = Run.empty := rfl
@[simp] theorem Run.mapOut_fail : Run.fail.mapOut (List.map σ) = Run.fail := rfl
@[simp] theorem Run.mapOut_panic : Run.panic.mapOut (List.map σ) = Run.panic := rfl
@[simp] theorem Run.mapOut_hang : Run.hang.mapOut (List.map σ) = Run.hang := rfl

theorem Run.mapOut_seq (a b : Run) :
    (a.seq b).mapOut (List.map σ) = (a.mapOut (List.map σ)).seq (b.mapOut (List.map σ)) := by
  obtain ⟨ao, as⟩ := a
  cases as <;> simp [Run.seq, Run.mapOut]

theorem Run.mapOut_pre (w : Bytes) (r : Run) :
    (Run.pre w r).mapOut (List.map σ) = Run.pre (w.map σ) (r.mapOut (List.map σ)) := by
  simp [Run.pre, Run.mapOut]

theorem Run.mapOut_seqMap {α : Type} (f : α → Run) (l : List α) :
    (Run.seqMap f l).mapOut (List.map σ) = Run.seqMap (fun a => (f a).mapOut (List.map σ)) l := by
  induction l with
  | nil => rfl
  | cons a t ih => simp only [Run.seqMap, Run.mapOut_seq, ih]

end mapOut

end Tuc
