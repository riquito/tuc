import Tuc.Spec.Grammar
import Tuc.Lemmas.Bounds
/-!
# The bounds parser against the grammar, and what it returns

The model's parser (`parseI32`, `parseUserBounds`, the look-ahead scanner `scan`,
`boundsListOfString`) against the grammar of `Tuc.Spec.Grammar` (`specInt`, `specBound`, lexer +
token parser, `specParse`): the theory behind property C18 (`Tuc.Props.C18` holds its examples), in
a lemma file because every later file reads what the parser returns off it.

Integers and single bounds are compared stage by stage (`parseI32_eq_spec`, `parseUserBounds_eq_spec`;
`specRange` by the number of colons).  The scanner with its look-ahead is the lexer's maximal munch
followed by the two token parsers, by ONE simulation (`ScanSim`, `scan_sim`: the only walk through the
scanner on the grammar's side; the literal scanner is compared with `scan` in `Tuc.Props.BoundsListLit`,
`scanLoop_eq`); the four `str::replace` calls are token-wise unescaping (`sequentialReplace_eq_unescape`);
together `parse_eq_spec`.  What the parser returns is then read off the grammar: `accepted_wellformed`,
`parseBoundsList_items`, `boundsListOfString_wf`.

`parseMag`, `sidesOf`, `finishBound`, `rangeOf` below are not model definitions: they name the
stages of `parseI32` and `parseUserBounds` (`parseI32_unfold`, `parseUserBounds_unfold`, both by
`rfl` up to case splits), so that each stage can be compared with its counterpart in the grammar
(`mkBound` is the record that `finishBound` returns when it accepts).
`Tuc.Props.BoundsLit` compares the same stages with the transcription of the Rust code that uses
machine integers (`Tuc.Model.BoundsLit`).
-/
namespace Tuc
open Tuc.Spec

theorem char_le_iff (a b : Char) : a ≤ b ↔ a.toNat ≤ b.toNat := by
  rw [Char.le_def, UInt32.le_iff_toNat_le]; rfl

theorem digitVal_eq (c : Char) :
    digitVal c = if isAsciiDigit c then Option.some (c.toNat - 48) else Option.none := by
  unfold digitVal isAsciiDigit
  simp only [char_le_iff, show '0'.toNat = 48 from rfl, show '9'.toNat = 57 from rfl,
    Bool.and_eq_true, decide_eq_true_eq]

theorem parseDigits_eq (ds : List Char) (acc : Nat) :
    parseDigits ds acc =
      if ds.all isAsciiDigit then
        Option.some (ds.foldl (fun acc c => 10 * acc + (c.toNat - 48)) acc) else Option.none := by
  induction ds generalizing acc with
  | nil => simp [parseDigits]
  | cons c t ih =>
    simp only [parseDigits, digitVal_eq, List.all_cons, List.foldl_cons]
    by_cases hc : isAsciiDigit c = true
    · simp only [hc, if_true, Bool.true_and, ih, Nat.mul_comm]
    · simp [hc]

/-- `parseI32` after the optional sign has been read: at least one digit, the sign `neg` applied to
    the value, the result kept if it fits an `i32` -/
def parseMag (neg : Bool) (ds : List Char) : Option Int :=
  if ds.isEmpty then none else
  match parseDigits ds 0 with
  | none => none
  | some n =>
    let v : Int := if neg then -(n : Int) else (n : Int)
    if i32Min ≤ v ∧ v ≤ i32Max then some v else none

theorem parseMag_eq (neg : Bool) (ds : List Char) :
    parseMag neg ds =
      match (specNat ds).map (fun (n : Nat) => if neg then -(n : Int) else (n : Int)) with
      | some v => if inI32 v then some v else none
      | none => none := by
  unfold parseMag specNat
  cases ds with
  | nil => simp
  | cons c t =>
    rw [parseDigits_eq]
    by_cases h : (c :: t).all isAsciiDigit = true
    · simp only [h, List.isEmpty_cons, Bool.false_eq_true, if_false, if_true, ne_eq, reduceCtorEq,
        not_false_eq_true, and_self, Option.map_some, decimalValue, inI32, i32Min, i32Max,
        Bool.and_eq_true, decide_eq_true_eq]
      first | rfl | congr
    · simp [h]

theorem parseI32_unfold (s : List Char) :
    parseI32 s =
      match s with
      | [] => none
      | c :: t => if c = '-' then parseMag true t else if c = '+' then parseMag false t
                  else parseMag false s := by
  unfold parseI32 parseMag
  cases s with
  | nil => rfl
  | cons c t =>
    by_cases h1 : c = '-'
    · subst h1; rfl
    · by_cases h2 : c = '+'
      · subst h2; rfl
      · simp only [if_neg h1, if_neg h2]
        split
        · rename_i heq; cases heq; exact absurd rfl h1
        · rename_i heq; cases heq; exact absurd rfl h2
        · rfl

theorem parseI32_eq_spec (s : List Char) : parseI32 s = specInt s := by
  rw [parseI32_unfold]
  unfold specInt
  cases s with
  | nil => rfl
  | cons c t =>
    by_cases h1 : c = '-'
    · simp only [if_pos h1, parseMag_eq, if_true]; rfl
    · by_cases h2 : c = '+'
      · simp only [if_neg h1, if_pos h2, parseMag_eq, Bool.false_eq_true, if_false]; rfl
      · simp only [if_neg h1, if_neg h2, parseMag_eq, Bool.false_eq_true, if_false]; rfl

theorem cutAtFirst_eq (c : Char) (s : List Char) :
    cutAtFirst c s =
      match splitOnce c s with
      | Option.some (a, b) => (a, Option.some b)
      | Option.none => (s, Option.none) := by
  induction s with
  | nil => rfl
  | cons x t ih =>
    by_cases hx : x = c
    · simp [cutAtFirst, splitOnce, hx]
    · have hb : (x != c) = true := by simpa using hx
      have : cutAtFirst c (x :: t) = (x :: (cutAtFirst c t).1, (cutAtFirst c t).2) := by
        simp only [cutAtFirst, List.takeWhile_cons, List.dropWhile_cons, hb, if_true]
        cases List.dropWhile (fun c' => c' != c) t <;> rfl
      rw [this, ih, splitOnce, if_neg hx]
      cases splitOnce c t with
      | none => rfl
      | some p => rfl

theorem findChar_of_not_mem (c : Char) (s : List Char) (h : c ∉ s) : findChar c s = none := by
  induction s with
  | nil => rfl
  | cons x t ih =>
    rw [List.mem_cons, not_or] at h
    rw [findChar, if_neg (Ne.symm h.1), ih h.2]
    rfl

theorem findChar_first (c : Char) (l r : List Char) (h : c ∉ l) :
    findChar c (l ++ c :: r) = some l.length := by
  induction l with
  | nil => exact if_pos rfl
  | cons x t ih =>
    rw [List.mem_cons, not_or] at h
    rw [List.cons_append, findChar, if_neg (Ne.symm h.1), ih h.2]
    rfl

theorem piecesFrom_of_not_mem (sep : Char) (cur s : List Char) (h : sep ∉ s) :
    piecesFrom sep cur s = [cur ++ s] := by
  induction s generalizing cur with
  | nil => rw [piecesFrom, List.append_nil]
  | cons x t ih =>
    rw [List.mem_cons, not_or] at h
    rw [piecesFrom, if_neg (Ne.symm h.1), ih _ h.2, List.append_assoc]
    rfl

theorem piecesFrom_append (sep : Char) (cur l r : List Char) (h : sep ∉ l) :
    piecesFrom sep cur (l ++ sep :: r) = (cur ++ l) :: piecesFrom sep [] r := by
  induction l generalizing cur with
  | nil => rw [List.nil_append, piecesFrom, if_pos rfl, List.append_nil]
  | cons x t ih =>
    rw [List.mem_cons, not_or] at h
    rw [List.cons_append, piecesFrom, if_neg (Ne.symm h.1), ih _ h.2, List.append_assoc]
    rfl

theorem piecesFrom_eq (sep : Char) (cur s : List Char) :
    piecesFrom sep cur s =
      (cur ++ (splitOnChar sep s).headD []) :: (splitOnChar sep s).tail := by
  induction s generalizing cur with
  | nil => simp [piecesFrom, splitOnChar]
  | cons x t ih =>
    have hne := splitOnChar_ne_nil sep t
    by_cases hx : x = sep
    · simp only [piecesFrom, splitOnChar, if_pos hx, ih, List.nil_append, List.headD_cons,
        List.append_nil, List.tail_cons]
      cases hs : splitOnChar sep t with
      | nil => exact absurd hs hne
      | cons h r => rfl
    · simp only [piecesFrom, splitOnChar, if_neg hx, ih]
      cases hs : splitOnChar sep t with
      | nil => exact absurd hs hne
      | cons h r => simp

theorem pieces_eq (sep : Char) (s : List Char) : pieces sep s = splitOnChar sep s := by
  unfold pieces
  rw [piecesFrom_eq]
  have hne := splitOnChar_ne_nil sep s
  cases hs : splitOnChar sep s with
  | nil => exact absurd hs hne
  | cons h r => rfl

theorem findChar_some_split (c : Char) (s : List Char) (idx : Nat) (h : findChar c s = some idx) :
    s = s.take idx ++ c :: s.drop (idx + 1) ∧ idx < s.length := by
  induction s generalizing idx with
  | nil => simp [findChar] at h
  | cons x t ih =>
    by_cases hx : x = c
    · simp only [findChar, if_pos hx, Option.some.injEq] at h
      subst h; simp [hx]
    · simp only [findChar, if_neg hx, Option.map_eq_some_iff] at h
      obtain ⟨j, hj, rfl⟩ := h
      have := ih _ hj
      simp only [List.take_succ_cons, List.drop_succ_cons, List.cons_append, List.length_cons]
      exact ⟨by rw [← this.1], by omega⟩

theorem specNat_none_of_mem (ds : List Char) (h : ':' ∈ ds) : specNat ds = none := by
  unfold specNat
  rw [if_neg]
  rintro ⟨_, hall⟩
  have := List.all_eq_true.mp hall ':' h
  revert this; decide

theorem specInt_none_of_mem (s : List Char) (h : ':' ∈ s) : specInt s = none := by
  unfold specInt
  cases s with
  | nil => rfl
  | cons c t =>
    have ht : c = '-' ∨ c = '+' → ':' ∈ t := by
      rintro (rfl | rfl) <;> exact (List.mem_cons.mp h).resolve_left (by decide)
    by_cases h1 : c = '-'
    · simp [h1, specNat_none_of_mem t (ht (Or.inl h1))]
    · by_cases h2 : c = '+'
      · simp [h2, specNat_none_of_mem t (ht (Or.inr h2))]
      · simp [h1, h2, specNat_none_of_mem _ h]

theorem parseSide_cons (c : Char) (t : List Char) :
    parseSide (c :: t) = (parseI32 (c :: t)).map Side.some := rfl

theorem parseSide_none_of_mem (s : List Char) (h : ':' ∈ s) : parseSide s = none := by
  cases s with
  | nil => cases h
  | cons c t => rw [parseSide_cons, parseI32_eq_spec, specInt_none_of_mem _ h]; rfl

theorem specIndex_eq (s : List Char) :
    specIndex s = match parseI32 s with
      | Option.some v => if v = 0 then Option.none else Option.some v
      | Option.none => Option.none := by
  rw [parseI32_eq_spec]; rfl

def mkBound (fb : Option Bytes) (p : Side × Side) : UserBounds :=
  { l := p.1, r := p.2, isLast := false, fallback := fb }

def finishBound (fb : Option Bytes) (sides : Option (Side × Side)) : Option UserBounds :=
  match sides with
  | none => none
  | some (l, r) =>
    if l = .some 0 then none
    else if r = .some 0 then none
    else
      match l, r with
      | .some left, .some right =>
        if right < left ∧ sameSign right left then none
        else some { l := l, r := r, isLast := false, fallback := fb }
      | _, _ => some { l := l, r := r, isLast := false, fallback := fb }

def sidesOf (s : List Char) : Option (Side × Side) :=
  match findChar ':' s with
  | none => (parseSide s).map fun x => (x, x)
  | some idx =>
    if idx = 0 then (parseSide (s.drop 1)).map fun r => (.cont, r)
    else if idx = s.length - 1 then (parseSide (s.take idx)).map fun l => (l, .cont)
    else
      match parseSide (s.take idx), parseSide (s.drop (idx + 1)) with
      | some l, some r => some (l, r)
      | _, _ => none

def rangeOf (fb : Option Bytes) (s : List Char) : Option UserBounds :=
  if s.isEmpty then none
  else if s = [':'] then none
  else finishBound fb (sidesOf s)

theorem parseUserBounds_unfold (s : List Char) :
    parseUserBounds s =
      match splitOnce '=' s with
      | Option.some (r, f) => rangeOf (Option.some (utf8 f)) r
      | Option.none => rangeOf Option.none s := by
  unfold parseUserBounds
  cases splitOnce '=' s with
  | none => rfl
  | some p => rfl

theorem sameSign_eq (a b : Int) : sameSign a b = sameSignP b a := by
  unfold sameSign sameSignP
  rw [Bool.and_comm (decide (0 < b)), Bool.and_comm (decide (b < 0))]

/-- one side of a range as the grammar reads it: no text is `Side::Continue`, otherwise a written
    index -/
def specSide (s : List Char) : Option Side := if s = [] then some .cont else (specIndex s).map .some

/-- `N:M` with both written, of the same sign, and `M` before `N` -/
def decreasing : Side → Side → Bool
  | .some n, .some m => sameSignP n m && decide (¬ n ≤ m)
  | _, _ => false

theorem decreasing_self (v : Int) : decreasing (Side.some v) (Side.some v) = false := by
  simp [decreasing]

/-! `specRange` by the number of colons: none (one index), one (two sides, `specRange_append`), more. -/

theorem specRange_of_not_mem (s : List Char) (h : ':' ∉ s) :
    specRange s = (specIndex s).map fun v => (Side.some v, Side.some v) := by
  rw [specRange, pieces, piecesFrom_of_not_mem _ _ _ h]
  rfl

theorem specRange_append (l r : List Char) (hl : ':' ∉ l) (hr : ':' ∉ r) :
    specRange (l ++ ':' :: r) =
      if l = [] ∧ r = [] then none
      else (specSide l).bind fun a => (specSide r).bind fun b =>
        if decreasing a b then none else some (a, b) := by
  rw [specRange, pieces, piecesFrom_append _ _ _ _ hl, piecesFrom_of_not_mem _ _ _ hr]
  simp only [List.nil_append, specSide]
  by_cases hl0 : l = [] <;> by_cases hr0 : r = []
  · simp [hl0, hr0]
  · simp only [hl0, hr0, and_false, if_false, if_true, Option.bind_some]
    cases specIndex r <;> rfl
  · simp only [hl0, hr0, false_and, if_false, if_true]
    cases specIndex l <;> rfl
  · simp only [hl0, hr0, false_and, if_false]
    cases specIndex l with
    | none => rfl
    | some n =>
      cases specIndex r with
      | none => rfl
      | some m =>
        simp only [Option.map_some, Option.bind_some, decreasing, Bool.and_eq_true, decide_eq_true_eq]

theorem specRange_append_of_mem (l r : List Char) (hl : ':' ∉ l) (hr : ':' ∈ r) :
    specRange (l ++ ':' :: r) = none := by
  obtain ⟨l₂, r₂, rfl, hl₂⟩ := List.eq_append_cons_of_mem hr
  rw [specRange, pieces, piecesFrom_append _ _ _ _ hl, piecesFrom_append _ _ _ _ hl₂, piecesFrom_eq]

theorem specSide_eq (s : List Char) :
    specSide s = (parseSide s).bind fun a => if a = Side.some 0 then none else some a := by
  cases s with
  | nil => rfl
  | cons c t =>
    rw [specSide, if_neg (List.cons_ne_nil _ _), specIndex_eq, parseSide_cons]
    cases parseI32 (c :: t) with
    | none => rfl
    | some v => by_cases hv : v = 0 <;> simp [hv]

theorem finishBound_some (fb : Option Bytes) (a b : Side) :
    finishBound fb (some (a, b)) =
      if a = Side.some 0 ∨ b = Side.some 0 then none
      else if decreasing a b then none else some (mkBound fb (a, b)) := by
  unfold finishBound
  by_cases ha : a = Side.some 0
  · simp [ha]
  · by_cases hb : b = Side.some 0
    · simp [ha, hb]
    · simp only [ha, hb, if_false, or_self]
      cases a <;> cases b <;> try rfl
      rename_i n m
      simp only [decreasing, sameSign_eq, Bool.and_eq_true, decide_eq_true_eq, Int.not_le, mkBound,
        and_comm]

/-- around the first `:` the three branches of `UserBounds::from_str` (`:m`, `n:`, `n:m`) are one:
    an empty side parses as `Side::Continue` -/
theorem sidesOf_append (l r : List Char) (h : ':' ∉ l) :
    sidesOf (l ++ ':' :: r) = (parseSide l).bind fun a => (parseSide r).map fun b => (a, b) := by
  unfold sidesOf
  rw [findChar_first _ _ _ h]
  cases l with
  | nil =>
    simp only [List.length_nil, if_true, List.nil_append, List.drop_succ_cons, List.drop_zero]
    cases parseSide r <;> rfl
  | cons c t =>
    have e1 : (c :: t ++ ':' :: r).take (c :: t).length = c :: t := List.take_left
    have e2 : (c :: t ++ ':' :: r).drop ((c :: t).length + 1) = r := by
      rw [List.drop_length_add_append]; rfl
    simp only []
    rw [if_neg (by simp), e1, e2]
    cases r with
    | nil =>
      rw [if_pos (by simp)]
      cases parseSide (c :: t) <;> rfl
    | cons d u =>
      rw [if_neg (by simp only [List.length_append, List.length_cons]; omega)]
      cases parseSide (c :: t) <;> cases parseSide (d :: u) <;> rfl

theorem finishBound_sides (fb : Option Bytes) (l r : List Char) :
    finishBound fb ((parseSide l).bind fun a => (parseSide r).map fun b => (a, b)) =
      ((specSide l).bind fun a => (specSide r).bind fun b =>
        if decreasing a b then none else some (a, b)).map (mkBound fb) := by
  rw [specSide_eq, specSide_eq]
  cases parseSide l with
  | none => rfl
  | some a =>
    cases parseSide r with
    | none => by_cases ha : a = Side.some 0 <;> simp [ha, finishBound]
    | some b =>
      simp only [Option.bind_some, Option.map_some, finishBound_some]
      by_cases ha : a = Side.some 0
      · simp [ha]
      · by_cases hb : b = Side.some 0
        · simp [ha, hb]
        · simp only [ha, hb, or_self, if_false, Option.bind_some]
          cases decreasing a b <;> rfl

theorem rangeOf_eq (fb : Option Bytes) (s : List Char) :
    rangeOf fb s = (specRange s).map (mkBound fb) := by
  unfold rangeOf
  -- with a colon: `s = l ++ ':' :: r`, `l` free of colons (then `r` has a colon or not); without: a
  -- single index
  by_cases hs : ':' ∈ s
  · obtain ⟨l, r, rfl, hl⟩ := List.eq_append_cons_of_mem hs
    have he : (l ++ ':' :: r).isEmpty = false := by cases l <;> rfl
    have h1 : l ++ ':' :: r = [':'] ↔ l = [] ∧ r = [] := by cases l <;> simp
    rw [he, sidesOf_append l r hl]
    by_cases hr : ':' ∈ r
    · rw [specRange_append_of_mem l r hl hr, parseSide_none_of_mem r hr]
      have : ¬ (l = [] ∧ r = []) := fun h => by rw [h.2] at hr; cases hr
      simp only [Bool.false_eq_true, if_false, h1, this]
      cases parseSide l <;> rfl
    · rw [specRange_append l r hl hr, finishBound_sides]
      simp only [Bool.false_eq_true, if_false, h1, apply_ite (Option.map (mkBound fb)), Option.map_none]
  · have hne : s ≠ [':'] := fun e => hs (e ▸ List.mem_singleton_self _)
    rw [sidesOf, findChar_of_not_mem _ _ hs, specRange_of_not_mem s hs]
    cases s with
    | nil => rfl
    | cons c t =>
      simp only [List.isEmpty_cons, Bool.false_eq_true, if_false, if_neg hne, parseSide_cons, specIndex_eq]
      cases parseI32 (c :: t) with
      | none => rfl
      | some v =>
        simp only [Option.map_some, finishBound_some, or_self, Side.some.injEq, decreasing_self]
        by_cases hv : v = 0 <;> simp [hv]

theorem parseUserBounds_eq_spec (s : List Char) : parseUserBounds s = specBound s := by
  rw [parseUserBounds_unfold]
  unfold specBound
  rw [cutAtFirst_eq]
  cases splitOnce '=' s with
  | none =>
    simp only [rangeOf_eq]
    cases specRange s with
    | none => rfl
    | some p => rfl
  | some p =>
    obtain ⟨r, f⟩ := p
    simp only [rangeOf_eq]
    cases specRange r with
    | none => rfl
    | some p => rfl

/-- a written side fits an `i32` -/
def Side.InI32 : Side → Prop
  | .some v => i32Min ≤ v ∧ v ≤ i32Max
  | .cont => True

theorem inI32_filter (o : Option Int) (v : Int)
    (h : (match o with
          | Option.some w => if inI32 w then Option.some w else Option.none
          | Option.none => Option.none) = Option.some v) :
    i32Min ≤ v ∧ v ≤ i32Max := by
  cases o with
  | none => cases h
  | some w =>
    simp only at h
    by_cases hw : inI32 w = true
    · rw [if_pos hw] at h
      cases h
      simpa [inI32, i32Min, i32Max] using hw
    · rw [if_neg hw] at h; cases h

theorem specInt_inI32 (s : List Char) (v : Int) (h : specInt s = Option.some v) :
    i32Min ≤ v ∧ v ≤ i32Max := inI32_filter _ v h

theorem specIndex_some (s : List Char) (v : Int) (h : specIndex s = Option.some v) :
    v ≠ 0 ∧ i32Min ≤ v ∧ v ≤ i32Max := by
  unfold specIndex at h
  split at h
  · rename_i w hw
    by_cases h0 : w = 0
    · rw [if_pos h0] at h; cases h
    · rw [if_neg h0] at h; cases h
      exact ⟨h0, specInt_inI32 s _ hw⟩
  · cases h

/-- what the grammar guarantees of an accepted pair of sides (`specRange_wf`) -/
structure WfSides (l r : Side) : Prop where
  left : l.Nonzero
  right : r.Nonzero
  leftI32 : l.InI32
  rightI32 : r.InI32
  ordered : ∀ x y, l = .some x → r = .some y → sameSign x y = true → x ≤ y
  written : ¬ (l = .cont ∧ r = .cont)

theorem specSide_some (t : List Char) (a : Side) (h : specSide t = Option.some a) :
    a.Nonzero ∧ a.InI32 ∧ (a = Side.cont → t = []) := by
  unfold specSide at h
  by_cases ht : t = []
  · rw [if_pos ht] at h; cases h
    exact ⟨trivial, trivial, fun _ => ht⟩
  · rw [if_neg ht] at h
    obtain ⟨v, hv, rfl⟩ := Option.map_eq_some_iff.mp h
    obtain ⟨h0, hr⟩ := specIndex_some t v hv
    exact ⟨h0, hr, nofun⟩

theorem specRange_wf (s : List Char) (l r : Side) (h : specRange s = Option.some (l, r)) :
    WfSides l r := by
  by_cases hs : ':' ∈ s
  · obtain ⟨l', r', rfl, hl'⟩ := List.eq_append_cons_of_mem hs
    by_cases hr' : ':' ∈ r'
    · rw [specRange_append_of_mem l' r' hl' hr'] at h; cases h
    · rw [specRange_append l' r' hl' hr'] at h
      by_cases he : l' = [] ∧ r' = []
      · rw [if_pos he] at h; cases h
      · rw [if_neg he] at h
        obtain ⟨a, ha, h⟩ := Option.bind_eq_some_iff.mp h
        obtain ⟨b, hb, h⟩ := Option.bind_eq_some_iff.mp h
        by_cases hd : decreasing a b = true
        · rw [if_pos hd] at h; cases h
        · rw [if_neg hd] at h; cases h
          obtain ⟨a0, a32, ac⟩ := specSide_some l' l ha
          obtain ⟨b0, b32, bc⟩ := specSide_some r' r hb
          refine ⟨a0, b0, a32, b32, ?_, fun hc => he ⟨ac hc.1, bc hc.2⟩⟩
          intro x y hx hy hsgn
          subst hx hy
          exact Decidable.byContradiction fun hle => hd (by simp [decreasing, hle]; exact hsgn)
  · rw [specRange_of_not_mem s hs] at h
    obtain ⟨v, hv, e⟩ := Option.map_eq_some_iff.mp h
    cases e
    obtain ⟨h0, hr⟩ := specIndex_some s v hv
    exact ⟨h0, h0, hr, hr, fun x y hx hy _ => by cases hx; cases hy; exact Int.le_refl _,
      fun h => nomatch h.1⟩

/-- the converse reading of `ordered`: the test `from_str` makes on two written sides does not fire -/
theorem WfSides.not_decreasing {l r : Side} (h : WfSides l r) : decreasing l r = false := by
  cases l <;> cases r <;> try rfl
  rename_i x y
  rw [Bool.eq_false_iff]
  intro hd
  simp only [decreasing, Bool.and_eq_true, decide_eq_true_eq] at hd
  exact hd.2 (h.ordered x y rfl rfl hd.1)

theorem parseUserBounds_some (s : List Char) (b : UserBounds) (h : parseUserBounds s = Option.some b) :
    specRange (cutAtFirst '=' s).1 = Option.some (b.l, b.r) ∧ b.isLast = false := by
  rw [parseUserBounds_eq_spec] at h
  unfold specBound at h
  cases hr : specRange (cutAtFirst '=' s).1 with
  | none => simp [hr] at h
  | some p =>
    simp only [hr, Option.some.injEq] at h
    subst h
    exact ⟨rfl, rfl⟩

theorem parseUserBounds_wf (s : List Char) (b : UserBounds) (h : parseUserBounds s = Option.some b) :
    WfSides b.l b.r :=
  specRange_wf _ b.l b.r (parseUserBounds_some s b h).1

/-- **C18 (one bound, soundness).**  Whatever `UserBounds::from_str` accepts has non-zero sides
    inside `i32`, a same-sign range that does not decrease, and at least one written side. -/
theorem accepted_wellformed (s : List Char) (b : UserBounds) (h : parseUserBounds s = Option.some b) :
    b.l ≠ .some 0 ∧ b.r ≠ .some 0 ∧ b.l.InI32 ∧ b.r.InI32 ∧
    (∀ x y, b.l = .some x → b.r = .some y → sameSign x y = true → x ≤ y) ∧
    ¬ (b.l = .cont ∧ b.r = .cont) :=
  have wf := parseUserBounds_wf s b h
  ⟨wf.left.ne_some_zero, wf.right.ne_some_zero, wf.leftI32, wf.rightI32, wf.ordered, wf.written⟩

theorem accepted_isLast_false (s : List Char) (b : UserBounds)
    (h : parseUserBounds s = Option.some b) : b.isLast = false :=
  (parseUserBounds_some s b h).2

theorem markLast_some_bounds (l l' : List BoF) (h : markLast l = Option.some l') :
    boundsOnly l' ≠ [] := by
  obtain ⟨a, b, f, rfl, _, rfl⟩ := markLast_eq_some h
  simp [boundsOnly_append, boundsOnly]

/-- **C18/C12.**  The `expect("… at least one UserBounds")` of `From<Vec<BoundOrFiller>>` is
    unreachable from `UserBoundsList::from_str`. -/
theorem boundsListOfString_never_panics (s : List Char) : boundsListOfString s ≠ .panic := by
  rcases boundsListOfString_cases s with h | ⟨l, _, hl, h⟩
  · rw [h]; intro h'; cases h'
  · rw [h]; exact fromVec_ne_panic l hl

theorem boundsListOfString_ok_has_bound (s : List Char) (l : UserBoundsList)
    (h : boundsListOfString s = .ok l) : boundsOnly l.list ≠ [] := by
  obtain ⟨l0, _, _, hv⟩ := boundsListOfString_ok h
  exact markLast_some_bounds l0 _ (fromVec_ok hv).1

theorem isWhitespace_eq (c : Char) : isWhitespace c = isWs c := by
  -- the model's two ranges spelt out are the specification's list
  have h1 (n : Nat) : (9 ≤ n ∧ n ≤ 13) ↔ (n = 9 ∨ n = 10 ∨ n = 11 ∨ n = 12 ∨ n = 13) := by omega
  have h2 (n : Nat) : (0x2000 ≤ n ∧ n ≤ 0x200A) ↔
      (n = 0x2000 ∨ n = 0x2001 ∨ n = 0x2002 ∨ n = 0x2003 ∨ n = 0x2004 ∨ n = 0x2005 ∨ n = 0x2006 ∨
       n = 0x2007 ∨ n = 0x2008 ∨ n = 0x2009 ∨ n = 0x200A) := by omega
  unfold isWhitespace isWs
  rw [Bool.eq_iff_iff]
  simp only [List.contains_cons, List.contains_nil, Bool.or_eq_true, Bool.and_eq_true,
    decide_eq_true_eq, beq_iff_eq, Bool.or_false, h1, h2, or_assoc]

theorem all_isWhitespace_eq (s : List Char) : s.all isWhitespace = s.all isWs := by
  congr 1; funext c; exact isWhitespace_eq c

theorem hasBrace_eq (s : List Char) :
    (s.any fun c => decide (c = '{' ∨ c = '}')) = hasBrace s := by
  unfold hasBrace
  rw [Bool.eq_iff_iff]
  simp only [List.any_eq_true, decide_eq_true_eq, Bool.or_eq_true, List.contains_eq_mem]
  constructor
  · rintro ⟨y, hy, (h | h)⟩
    · subst h; exact Or.inl hy
    · subst h; exact Or.inr hy
  · rintro (h | h)
    · exact ⟨_, h, Or.inl rfl⟩
    · exact ⟨_, h, Or.inr rfl⟩

theorem boundsOnly_isEmpty (l : List BoF) : (boundsOnly l).isEmpty = !hasBound l := by
  induction l with
  | nil => rfl
  | cons x t ih => cases x <;> simp [boundsOnly, hasBound, ih]

theorem markLast_eq (l : List BoF) :
    markLast l = if hasBound l then Option.some (flagLast l) else Option.none := by
  induction l with
  | nil => rfl
  | cons x t ih =>
    cases x with
    | filler f =>
      simp only [markLast, hasBound, flagLast, ih]
      by_cases h : hasBound t = true <;> simp [h]
    | bound b =>
      simp only [markLast, hasBound, flagLast, ih, if_true]
      by_cases h : hasBound t = true <;> simp [h]

theorem parseAll_eq (l : List (List Char)) : parseAll l = allBounds l := by
  induction l with
  | nil => rfl
  | cons s t ih =>
    simp only [parseAll, allBounds, parseUserBounds_eq_spec, ih]
    cases specBound s with
    | none => rfl
    | some b => cases allBounds t <;> rfl

theorem specCommaList_eq (s : List Char) :
    specCommaList s = (parseAll (splitOnChar ',' s)).map (·.map BoF.bound) := by
  unfold specCommaList
  rw [pieces_eq, parseAll_eq]

theorem tokOfChar_cases (c : Char) :
    (c = '{' ∧ tokOfChar c = .lbrace) ∨ (c = '}' ∧ tokOfChar c = .rbrace) ∨
    (c ≠ '{' ∧ c ≠ '}' ∧ tokOfChar c = .chr c) := by
  unfold tokOfChar
  by_cases h1 : c = '{'
  · exact Or.inl ⟨h1, if_pos h1⟩
  · by_cases h2 : c = '}'
    · exact Or.inr (Or.inl ⟨h2, by rw [if_neg h1, if_pos h2]⟩)
    · exact Or.inr (Or.inr ⟨h1, h2, by rw [if_neg h1, if_neg h2]⟩)

/-- a token that can occur in literal text: an escaped brace or a non-brace character -/
def Spec.LexTok.IsLit : LexTok → Prop
  | .lbrace2 => True
  | .rbrace2 => True
  | .chr c => c ≠ '{' ∧ c ≠ '}'
  | .lbrace => False
  | .rbrace => False

/-- the characters a run of tokens was read from -/
def rawOf (ts : List LexTok) : List Char := ts.flatMap LexTok.raw

/-- the lexer loses nothing: the tokens spell the input -/
theorem rawOf_lex (cs : List Char) : rawOf (lex cs) = cs := by
  have htc : ∀ c, (tokOfChar c).raw = [c] := by
    intro c
    rcases tokOfChar_cases c with ⟨rfl, h⟩ | ⟨rfl, h⟩ | ⟨_, _, h⟩ <;> rw [h] <;> rfl
  fun_induction lex cs with
  | case1 => rfl
  | case2 c => simp [rawOf, htc]
  | case3 c d t h ih =>
    obtain ⟨rfl, rfl⟩ := h
    simp only [rawOf, List.flatMap_cons] at ih ⊢; rw [ih]; rfl
  | case4 c d t h1 h2 ih =>
    obtain ⟨rfl, rfl⟩ := h2
    simp only [rawOf, List.flatMap_cons] at ih ⊢; rw [ih]; rfl
  | case5 c d t h1 h2 ih =>
    simp only [rawOf, List.flatMap_cons, htc] at ih ⊢; rw [ih]; rfl

theorem replace2_cons_ne (a b r x : Char) (l : List Char) (h : x ≠ a) :
    replace2 a b r (x :: l) = x :: replace2 a b r l := by
  cases l with
  | nil => simp [replace2]
  | cons y t =>
    have : ¬ (x = a ∧ y = b) := fun hh => h hh.1
    simp only [replace2, if_neg this]

theorem replace2_eq_substEscape (e r : Char) (l : List Char) :
    replace2 '\\' e r l = substEscape e r l := by
  fun_induction replace2 '\\' e r l with
  | case1 => rfl
  | case2 x => rfl
  | case3 x y t h ih => simp only [substEscape, if_pos h, ih]
  | case4 x y t h ih => simp only [substEscape, if_neg h, ih]

/-- after the first replacement (`{{` → `{`) -/
def Spec.LexTok.raw1 : LexTok → List Char
  | .lbrace2 => ['{']
  | t => t.raw

theorem replace_lbrace2 (ts : List LexTok) (h : ∀ t ∈ ts, t.IsLit) :
    replace2 '{' '{' '{' (rawOf ts) = ts.flatMap LexTok.raw1 := by
  induction ts with
  | nil => rfl
  | cons t r ih =>
    obtain ⟨ht, hr⟩ := List.forall_mem_cons.mp h
    have ih' := ih hr
    simp only [rawOf, List.flatMap_cons] at ih' ⊢
    cases t with
    | lbrace2 => simp only [LexTok.raw, LexTok.raw1, List.cons_append, List.nil_append, replace2, and_self,
        if_true, ih']
    | rbrace2 =>
      simp only [LexTok.raw, LexTok.raw1, List.cons_append, List.nil_append]
      rw [replace2_cons_ne _ _ _ _ _ (by decide), replace2_cons_ne _ _ _ _ _ (by decide), ih']
    | chr c =>
      simp only [LexTok.raw, LexTok.raw1, List.cons_append, List.nil_append]
      rw [replace2_cons_ne _ _ _ _ _ ht.1, ih']
    | lbrace => exact absurd ht id
    | rbrace => exact absurd ht id

theorem replace_rbrace2 (ts : List LexTok) (h : ∀ t ∈ ts, t.IsLit) :
    replace2 '}' '}' '}' (ts.flatMap LexTok.raw1) = ts.map LexTok.literal := by
  induction ts with
  | nil => rfl
  | cons t r ih =>
    obtain ⟨ht, hr⟩ := List.forall_mem_cons.mp h
    have ih' := ih hr
    simp only [List.flatMap_cons, List.map_cons]
    cases t with
    | lbrace2 =>
      simp only [LexTok.raw1, LexTok.literal, List.cons_append, List.nil_append]
      rw [replace2_cons_ne _ _ _ _ _ (by decide), ih']
    | rbrace2 =>
      simp only [LexTok.raw, LexTok.raw1, LexTok.literal, List.cons_append, List.nil_append, replace2,
        and_self, if_true, ih']
    | chr c =>
      simp only [LexTok.raw, LexTok.raw1, LexTok.literal, List.cons_append, List.nil_append]
      rw [replace2_cons_ne _ _ _ _ _ ht.2, ih']
    | lbrace => exact absurd ht id
    | rbrace => exact absurd ht id

/-- **C18 (rendering).**  On literal text as the scanner collects it (escaped braces and
    non-brace characters: every brace run has even length) the four chained `str::replace`
    calls equal the token-wise unescaping of the specification. -/
theorem sequentialReplace_eq_unescape (ts : List LexTok) (h : ∀ t ∈ ts, t.IsLit) :
    unescapeFiller (rawOf ts) = unescapeLiteral ts := by
  unfold unescapeFiller unescapeLiteral
  rw [replace_lbrace2 ts h, replace_rbrace2 ts h, replace2_eq_substEscape, replace2_eq_substEscape]

theorem rawOf_eq_nil (lit : List LexTok) : rawOf lit = [] ↔ lit = [] := by
  cases lit with
  | nil => simp [rawOf]
  | cons t r => cases t <;> simp [rawOf, LexTok.raw]

theorem pushFiller_lit (lit : List LexTok) (hl : ∀ t ∈ lit, t.IsLit) (ins : Bool) (acc : List BoF) :
    (ScanSt.pushFiller { inside := ins, part := (rawOf lit).reverse, bof := acc }).reverse =
      acc.reverse ++ fillerOf lit := by
  unfold ScanSt.pushFiller fillerOf
  by_cases h : lit = []
  · subst h; simp [rawOf]
  · have hr : ¬ rawOf lit = [] := fun hh => h ((rawOf_eq_nil lit).mp hh)
    simp only [List.isEmpty_reverse, List.isEmpty_iff, hr, if_false, h, List.reverse_reverse,
      List.reverse_cons, sequentialReplace_eq_unescape lit hl]

theorem parseOutside_lit {tok : LexTok} (h : tok.IsLit) (lit t : List LexTok) :
    parseOutside lit (tok :: t) = parseOutside (lit ++ [tok]) t := by
  cases tok <;> first | rfl | exact absurd h id

theorem parseBody_lit {tok : LexTok} (h : tok.IsLit) (body : List Char) (t : List LexTok) :
    parseBody body (tok :: t) = parseBody (body ++ tok.raw) t := by
  cases tok <;> first | rfl | exact absurd h id

/-- what is left of a scan, `K`, does on every scanner state what the grammar's two token parsers do on
    the tokens `ts` still to come: outside braces `st.part` is the raw text of the literal tokens read
    since the last brace, inside it is the body read so far; `st.bof` is the output so far, reversed -/
def ScanSim (K : ScanSt → Option (List BoF)) (ts : List LexTok) : Prop :=
  (∀ lit acc, (∀ t ∈ lit, t.IsLit) →
    K { inside := false, part := (rawOf lit).reverse, bof := acc } =
      (parseOutside lit ts).map (acc.reverse ++ ·)) ∧
  (∀ body acc,
    K { inside := true, part := body.reverse, bof := acc } = (parseBody body ts).map (acc.reverse ++ ·))

theorem ScanSim.congr {K K' : ScanSt → Option (List BoF)} {ts : List LexTok} (h : ScanSim K ts)
    (e : ∀ st, K' st = K st) : ScanSim K' ts := by
  rw [show K' = K from funext e]; exact h

theorem ScanSim.nil : ScanSim scanEnd [] := by
  constructor
  · intro lit acc hl
    simp only [scanEnd, parseOutside, Bool.false_eq_true, if_false, Option.map_some, pushFiller_lit lit hl]
  · intro body acc
    simp [scanEnd, parseBody]

theorem ScanSim.lit {K : ScanSt → Option (List BoF)} {ts : List LexTok} (h : ScanSim K ts) {tok : LexTok}
    (hl : tok.IsLit) : ScanSim (fun st => K { st with part := tok.raw.reverse ++ st.part }) (tok :: ts) := by
  constructor
  · intro lit acc hlit
    rw [parseOutside_lit hl, ← h.1 (lit ++ [tok]) acc
      (List.forall_mem_append.mpr ⟨hlit, List.forall_mem_singleton.mpr hl⟩)]
    simp only [rawOf, List.flatMap_append, List.flatMap_cons, List.flatMap_nil, List.append_nil,
      List.reverse_append]
  · intro body acc
    rw [parseBody_lit hl, ← h.2 (body ++ tok.raw) acc, List.reverse_append]

/-- one step of the scanner on a character that is not half of an escaped brace = the token of that
    character: literal text; or `{` (outside: the filler is pushed and the scan goes inside; inside:
    rejected); or `}` (outside: rejected; inside: the body is parsed as a comma list and the scan goes
    outside) -/
theorem ScanSim.step {K : ScanSt → Option (List BoF)} {ts : List LexTok} (h : ScanSim K ts) (w : Char) :
    ScanSim (fun st => (scanStep w st).bind K) (tokOfChar w :: ts) := by
  rcases tokOfChar_cases w with ⟨rfl, e⟩ | ⟨rfl, e⟩ | ⟨h1, h2, e⟩ <;> rw [e]
  · constructor
    · intro lit acc hlit
      simp only [parseOutside, scanStep_lbrace, Bool.false_eq_true, if_false, Option.bind_some]
      have := h.2 [] (ScanSt.pushFiller { inside := false, part := (rawOf lit).reverse, bof := acc })
      simp only [List.reverse_nil] at this
      rw [this, pushFiller_lit lit hlit, Option.map_map]
      congr 1; funext r; simp
    · intro body acc
      simp [parseBody, scanStep_lbrace]
  · constructor
    · intro lit acc hlit
      simp [parseOutside, scanStep_rbrace]
    · intro body acc
      simp only [parseBody, scanStep_rbrace, if_true, List.reverse_reverse, specCommaList_eq]
      cases parseAll (splitOnChar ',' body) with
      | none => simp
      | some bs =>
        have := h.1 [] ((bs.map BoF.bound).reverse ++ acc) (fun x hx => by cases hx)
        simp only [rawOf, List.flatMap_nil, List.reverse_nil] at this
        simp only [Option.map_some, Option.bind_some, this]
        cases parseOutside [] ts <;> simp
  · exact (h.lit (tok := .chr w) ⟨h1, h2⟩).congr fun st => by rw [scanStep_other h1 h2]; rfl

/-- **the scanner with its look-ahead is the lexer (maximal munch) followed by the token parsers** -/
theorem scan_sim (cs : List Char) : ScanSim (scan cs) (lex cs) := by
  fun_induction lex cs with
  | case1 => exact ScanSim.nil.congr fun st => by rw [scan]
  | case2 c =>
    refine (ScanSim.nil.step c).congr fun st => ?_
    rw [scan_noesc c [] st (by rintro ⟨rfl, h⟩; revert h; decide)]
    cases scanStep c st with
    | none => rfl
    | some st' => simp only [Option.bind_some, scan]
  | case3 c d t h ih =>
    obtain ⟨rfl, rfl⟩ := h
    exact (ih.lit (tok := .lbrace2) trivial).congr fun st => scan_esc _ t st (.inl rfl)
  | case4 c d t h1 h2 ih =>
    obtain ⟨rfl, rfl⟩ := h2
    exact (ih.lit (tok := .rbrace2) trivial).congr fun st => scan_esc _ t st (.inr rfl)
  | case5 c d t h1 h2 ih =>
    refine (ih.step c).congr fun st => scan_noesc c (d :: t) st fun ⟨e, hb⟩ => ?_
    simp only [List.head?_cons, Option.getD_some] at e
    subst e
    exact hb.elim (fun hc => h1 ⟨hc, hc⟩) fun hc => h2 ⟨hc, hc⟩

theorem scan_eq_parseToks (s : List Char) :
    scan s { inside := false, part := [], bof := [] } = parseToks (lex s) := by
  have := (scan_sim s).1 [] [] (fun x hx => by cases hx)
  simp only [rawOf, List.flatMap_nil, List.reverse_nil, List.nil_append] at this
  rw [this]
  unfold parseToks
  cases parseOutside [] (lex s) <;> rfl
theorem parseBoundsList_eq (s : List Char) (hne : s ≠ []) : parseBoundsList s = specItems s := by
  unfold parseBoundsList specItems
  have he : s.isEmpty = false := by
    cases s with
    | nil => exact absurd rfl hne
    | cons _ _ => rfl
  rw [he, hasBrace_eq]
  simp only [Bool.false_eq_true, if_false]
  by_cases hb : hasBrace s = true
  · rw [if_pos hb, if_pos hb, scan_eq_parseToks]
  · rw [if_neg hb, if_neg hb, specCommaList_eq]

/-- **C18 (the language).**  For every argument string: `UserBoundsList::from_str` accepts it
    exactly when the grammar does, and then delivers the list the grammar describes (bounds,
    unescaped literal text, `is_last` on the last bound). -/
theorem parse_eq_spec (s : List Char) :
    (boundsListOfString s).toOption.map (·.list) = specParse s := by
  unfold boundsListOfString specParse
  rw [← all_isWhitespace_eq]
  by_cases hw : s.all isWhitespace = true
  · rw [if_pos hw, if_pos hw]; rfl
  · have hne : s ≠ [] := by
      intro h; subst h; exact hw rfl
    rw [if_neg hw, if_neg hw, parseBoundsList_eq s hne]
    cases specItems s with
    | none => rfl
    | some l =>
      simp only [boundsOnly_isEmpty]
      by_cases hb : hasBound l = true
      -- `fromVec` is `markLast`, which is the grammar's `flagLast` when there is a bound
      · simp [hb, fromVec, markLast_eq, Res.toOption]
      · simp [hb, Res.toOption]

/-- `parse_eq_spec` for acceptance alone: the parser accepts exactly the strings of the grammar -/
theorem accepted_iff_spec (s : List Char) :
    (boundsListOfString s).isOk = (specParse s).isSome := by
  rw [← parse_eq_spec]
  cases boundsListOfString s <;> rfl

/-- no two `.filler` are adjacent -/
def NoAdj : List BoF → Prop
  | [] => True
  | .bound _ :: t => NoAdj t
  | .filler _ :: t => (match t with | .filler _ :: _ => False | _ => True) ∧ NoAdj t

/-- what `parse_bounds_list` can return: no two literal texts in a row, and every bound is the value
    of `UserBounds::from_str` on some text (so whatever holds of all of those holds of the list) -/
def Items (l : List BoF) : Prop :=
  NoAdj l ∧ ∀ b, BoF.bound b ∈ l → ∃ s, parseUserBounds s = Option.some b

theorem items_nil : Items [] := ⟨trivial, fun _ h => nomatch h⟩

theorem items_bounds_append (bs : List UserBounds) (r : List BoF)
    (hbs : ∀ b ∈ bs, ∃ s, parseUserBounds s = Option.some b) (h : Items r) :
    Items (bs.map BoF.bound ++ r) := by
  refine ⟨?_, fun b hb => ?_⟩
  · clear hbs
    induction bs with
    | nil => exact h.1
    | cons b t ih => exact ih
  · rcases List.mem_append.mp hb with hb | hb
    · obtain ⟨c, hc, e⟩ := List.mem_map.mp hb
      cases e
      exact hbs b hc
    · exact h.2 b hb

theorem items_fillerOf_append (lit : List LexTok) (r : List BoF) (h : Items r)
    (hr : ∀ f t, r ≠ BoF.filler f :: t) : Items (fillerOf lit ++ r) := by
  unfold fillerOf
  by_cases hl : lit = []
  · rw [if_pos hl]; exact h
  · rw [if_neg hl]
    refine ⟨⟨?_, h.1⟩, fun b hb => h.2 b ((List.mem_cons.mp hb).resolve_left fun e => nomatch e)⟩
    cases r with
    | nil => trivial
    | cons x t =>
      cases x with
      | bound _ => trivial
      | filler f => exact hr f t rfl

theorem allBounds_some (ps : List (List Char)) (bs : List UserBounds)
    (h : allBounds ps = Option.some bs) :
    bs.length = ps.length ∧ ∀ b ∈ bs, ∃ s, parseUserBounds s = Option.some b := by
  induction ps generalizing bs with
  | nil => cases (Option.some.inj h : [] = bs); exact ⟨rfl, fun _ hc => nomatch hc⟩
  | cons p t ih =>
    rw [allBounds] at h
    cases hp : specBound p with
    | none => rw [hp] at h; cases h
    | some b =>
      rw [hp] at h
      obtain ⟨bs', hbs', rfl⟩ := Option.map_eq_some_iff.mp h
      obtain ⟨hlen, hall⟩ := ih bs' hbs'
      refine ⟨congrArg (· + 1) hlen, fun c hc => ?_⟩
      rcases List.mem_cons.mp hc with rfl | hc
      · exact ⟨p, (parseUserBounds_eq_spec p).trans hp⟩
      · exact hall c hc

theorem specCommaList_shape (s : List Char) (l : List BoF) (h : specCommaList s = Option.some l) :
    ∃ b bs, l = (b :: bs).map BoF.bound ∧ ∀ c ∈ b :: bs, ∃ s, parseUserBounds s = Option.some c := by
  obtain ⟨bs, hbs, rfl⟩ := Option.map_eq_some_iff.mp h
  obtain ⟨hlen, hall⟩ := allBounds_some _ _ hbs
  cases bs with
  | nil =>
    rw [pieces_eq] at hlen
    exact absurd (List.eq_nil_of_length_eq_zero hlen.symm) (splitOnChar_ne_nil _ _)
  | cons b t => exact ⟨b, t, rfl, hall⟩

theorem parseToks_items (toks : List LexTok) :
    (∀ lit l, parseOutside lit toks = Option.some l → Items l) ∧
    (∀ body l, parseBody body toks = Option.some l → Items l ∧ ∃ b t, l = BoF.bound b :: t) := by
  induction toks with
  | nil =>
    constructor
    · intro lit l h
      cases (Option.some.inj h : fillerOf lit = l)
      have := items_fillerOf_append lit [] items_nil fun _ _ e => nomatch e
      rwa [List.append_nil] at this
    · intro body l h; cases h
  | cons tok t ih =>
    obtain ⟨ihO, ihB⟩ := ih
    constructor
    · intro lit l h
      cases tok with
      | rbrace => cases h
      | lbrace =>
        obtain ⟨rest, hrest, rfl⟩ := Option.map_eq_some_iff.mp h
        obtain ⟨hi, b, t', rfl⟩ := ihB [] rest hrest
        exact items_fillerOf_append lit _ hi fun _ _ e => nomatch e
      | _ => exact ihO _ l h
    · intro body l h
      cases tok with
      | lbrace => cases h
      | rbrace =>
        simp only [parseBody] at h
        cases hc : specCommaList body with
        | none => rw [hc] at h; cases h
        | some bl =>
          cases ho : parseOutside [] t with
          | none => rw [hc, ho] at h; cases h
          | some rest =>
            rw [hc, ho] at h
            cases h
            obtain ⟨b, bs, rfl, hall⟩ := specCommaList_shape body bl hc
            exact ⟨items_bounds_append _ rest hall (ihO [] rest ho), b, _, rfl⟩
      | _ => exact ihB _ l h

/-- **what `parse_bounds_list` returns**, read off the grammar -/
theorem parseBoundsList_items (s : List Char) (l : List BoF) (h : parseBoundsList s = Option.some l) :
    Items l := by
  by_cases hs : s = []
  · subst hs
    cases (Option.some.inj h : [] = l)
    exact items_nil
  · rw [parseBoundsList_eq s hs] at h
    unfold specItems at h
    by_cases hb : hasBrace s = true
    · rw [if_pos hb] at h
      exact (parseToks_items (lex s)).1 [] l h
    · rw [if_neg hb] at h
      obtain ⟨b, bs, rfl, hall⟩ := specCommaList_shape s l h
      have := items_bounds_append _ [] hall items_nil
      rwa [List.append_nil] at this

theorem parseBoundsList_all (P : UserBounds → Prop) (hP : ∀ s b, parseUserBounds s = Option.some b → P b)
    (s : List Char) (l : List BoF) (h : parseBoundsList s = Option.some l) : ∀ b, BoF.bound b ∈ l → P b :=
  fun b hb => let ⟨t, ht⟩ := (parseBoundsList_items s l h).2 b hb; hP t b ht

/-- **C18.**  The parser never produces two literal texts in a row, stated with `NoAdj`.  (The
    chunk-independence proof of C04 states it with its own `NoAdjFillers`; `noAdjFillers_of_noAdj`
    there relates the two definitions.) -/
theorem parse_noAdjFillers (s : List Char) (l : List BoF) (h : parseBoundsList s = Option.some l) :
    NoAdj l :=
  (parseBoundsList_items s l h).1

/-- **what an accepted argument looks like**: every bound of the list `UserBoundsList::from_str`
    returns has the sides of a bound that `UserBounds::from_str` accepted (`From<Vec<BoundOrFiller>>`
    only sets `is_last`) -/
theorem boundsListOfString_wf {s : List Char} {u : UserBoundsList} (h : boundsListOfString s = .ok u) :
    ∀ b, BoF.bound b ∈ u.list → WfSides b.l b.r := by
  obtain ⟨l, hl, _, hv⟩ := boundsListOfString_ok h
  exact fromVec_all (P := fun b => WfSides b.l b.r) (fun _ h => h) hv
    (parseBoundsList_all _ parseUserBounds_wf s l hl)

/-! two readings of `boundsListOfString_wf` that the engines ask for by name (the others stand where their predicate is
declared: `parsed_lnz` in C12, `boundsOk_of_parsed` in CutStrLit, `boundsListOfString_good` — with `LastMarked` — in
Lemmas/CutStrSpec, `parsed_leftNonzero` in BoundsListLit) -/

theorem parsed_nonzero (f : List Char) (u : UserBoundsList) (h : boundsListOfString f = .ok u) :
    ∀ b, BoF.bound b ∈ u.list → b.Nonzero := fun b hb =>
  have wf := boundsListOfString_wf h b hb
  ⟨wf.left, wf.right⟩

theorem parsed_inI32 (f : List Char) (u : UserBoundsList) (h : boundsListOfString f = .ok u) :
    ∀ b, BoF.bound b ∈ u.list → b.l.InI32 ∧ b.r.InI32 := fun b hb =>
  have wf := boundsListOfString_wf h b hb
  ⟨wf.leftI32, wf.rightI32⟩

end Tuc
