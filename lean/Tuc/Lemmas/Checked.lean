import Tuc.Model.TextLoops
/-!
# Tuc.Lemmas.Checked — the laws of the checked operations of `Tuc.Model.TextLoops`

`Outcome.bind` on `ok` and on `panic`; the two slices that can panic (`&l[a..]`, `&l[a..b]`), each as the equation of
its test (`sliceFrom_eq`, `sliceRange_eq`) and as what it yields when the test holds (`_ok`); `x - y` on `usize` when it
does not underflow (`checkedSub_ok`).  The other checked operations of the literal models (`sliceTo`, `index`, `orPanic`,
`checkedAddI32`) have no law here; their users unfold them.
-/
namespace Tuc
namespace TextLoops

@[simp] theorem bind_ok {α β : Type} (a : α) (f : α → Outcome β) : (Outcome.ok a).bind f = f a := rfl

theorem bind_panic {α β : Type} (f : α → Outcome β) : (Outcome.panic : Outcome α).bind f = .panic := rfl

theorem sliceFrom_eq {α : Type} (l : List α) (a : Nat) :
    sliceFrom l a = if a ≤ l.length then .ok (l.drop a) else .panic := rfl

theorem sliceRange_eq {α : Type} (l : List α) (a b : Nat) :
    sliceRange l a b = if a ≤ b ∧ b ≤ l.length then .ok (slice l a b) else .panic := rfl

theorem sliceFrom_ok {α : Type} (l : List α) {a : Nat} (h : a ≤ l.length) :
    sliceFrom l a = .ok (l.drop a) := by
  rw [sliceFrom_eq, if_pos h]

theorem sliceRange_ok {α : Type} (l : List α) {a b : Nat} (h1 : a ≤ b) (h2 : b ≤ l.length) :
    sliceRange l a b = .ok (slice l a b) := by
  rw [sliceRange_eq, if_pos ⟨h1, h2⟩]

theorem checkedSub_ok {x y : Nat} (h : y ≤ x) : checkedSub x y = .ok (x - y) := by
  unfold checkedSub; rw [if_pos h]

end TextLoops
end Tuc
