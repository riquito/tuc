import Tuc.Model.CutStr
import Tuc.Model.FastLane
import Tuc.Lemmas.Bounds
/-!
# Lemmas about the fast lane:
`FastOpt::try_from` as a relation, the `memchr` loop of the fast lane against `find_iter`, the
byte-wise trim against the general trim, the early-stop arithmetic (`try_into_range` against a
shorter vector) and what `lastInteresting` guarantees about a bounds list.
-/
namespace Tuc

theorem fastOptOf_eq_some_iff (o : Opt) (fo : FastOpt) :
    fastOptOf o = some fo ↔
      (o.delimiter = [fo.delimiter] ∧ o.complement = false ∧ o.greedyDelimiter = false ∧
        o.compressDelimiter = false ∧ o.json = false ∧ o.boundsType = .fields ∧
        o.replaceDelimiter = none ∧ o.regexBag = none) ∧
      fo.join = o.join ∧ fo.eol = o.eol ∧ fo.bounds = o.bounds ∧
        fo.onlyDelimited = o.onlyDelimited ∧ fo.trim = o.trim ∧ fo.fallbackOob = o.fallbackOob := by
  have guard : (o.complement || o.greedyDelimiter || o.compressDelimiter || o.json ||
        o.boundsType != .fields || o.replaceDelimiter.isSome || o.regexBag.isSome) = false ↔
      o.complement = false ∧ o.greedyDelimiter = false ∧ o.compressDelimiter = false ∧
        o.json = false ∧ o.boundsType = .fields ∧ o.replaceDelimiter = none ∧ o.regexBag = none := by
    simp only [Bool.or_eq_false_iff, and_assoc, bne_eq_false_iff_eq, Option.isSome_eq_false_iff,
      Option.isNone_iff_eq_none]
  unfold fastOptOf
  split
  next d hd =>
    rw [← guard, hd]
    obtain ⟨d', j, e, b, s, t, f⟩ := fo
    cases (o.complement || o.greedyDelimiter || o.compressDelimiter || o.json ||
        o.boundsType != .fields || o.replaceDelimiter.isSome || o.regexBag.isSome)
    · simp only [Bool.false_eq_true, if_false, Option.some.injEq, FastOpt.mk.injEq,
        List.cons.injEq, and_true]
      constructor
      · rintro ⟨rfl, rfl, rfl, rfl, rfl, rfl, rfl⟩; exact ⟨rfl, rfl, rfl, rfl, rfl, rfl, rfl⟩
      · rintro ⟨rfl, rfl, rfl, rfl, rfl, rfl, rfl⟩; exact ⟨rfl, rfl, rfl, rfl, rfl, rfl, rfl⟩
    · simp only [if_true, reduceCtorEq, Bool.true_eq_false, and_false, false_and]
  next hd =>
    simp only [reduceCtorEq, false_iff]
    exact fun h => hd _ h.1.1

/-- everything `FastOpt::try_from` establishes: what it tests of the `Opt`, what it copies -/
structure FastOptFacts (o : Opt) (fo : FastOpt) : Prop where
  delimiter : o.delimiter = [fo.delimiter]
  complement : o.complement = false
  greedy : o.greedyDelimiter = false
  compress : o.compressDelimiter = false
  json : o.json = false
  fields : o.boundsType = .fields
  replace : o.replaceDelimiter = none
  regex : o.regexBag = none
  join : fo.join = o.join
  eol : fo.eol = o.eol
  bounds : fo.bounds = o.bounds
  onlyDelimited : fo.onlyDelimited = o.onlyDelimited
  trim : fo.trim = o.trim
  fallback : fo.fallbackOob = o.fallbackOob

theorem fastOptOf_facts {o : Opt} {fo : FastOpt} (h : fastOptOf o = some fo) : FastOptFacts o fo :=
  have ⟨⟨h1, h2, h3, h4, h5, h6, h7, h8⟩, h9, h10, h11, h12, h13, h14⟩ := (fastOptOf_eq_some_iff o fo).1 h
  ⟨h1, h2, h3, h4, h5, h6, h7, h8, h9, h10, h11, h12, h13, h14⟩

/-- where the fast lane applies, the refinement theorem of the general engine does -/
theorem fastOptOf_general {o : Opt} {fo : FastOpt} (ho : fastOptOf o = some fo) :
    o.delimiter ≠ [] ∧ o.regexBag = none ∧ o.boundsType = .fields ∧ o.json = false :=
  have F := fastOptOf_facts ho
  ⟨by rw [F.delimiter]; nofun, F.regex, F.fields, F.json⟩

theorem isPrefixOf_singleton_cons (d c : UInt8) (t : Bytes) :
    [d].isPrefixOf (c :: t) = true ↔ c = d := by
  simp only [List.isPrefixOf, Bool.and_true, beq_iff_eq]
  exact eq_comm

theorem trimStartFuel_suffix (d : Bytes) : ∀ (f : Nat) (l : Bytes), trimStartFuel d f l <:+ l
  | 0, l => List.suffix_refl l
  | f + 1, l => by
    simp only [trimStartFuel]
    split
    · exact (trimStartFuel_suffix d f _).trans (List.drop_suffix _ l)
    · exact List.suffix_refl l

theorem trimStart_suffix (d l : Bytes) : trimStart d l <:+ l := trimStartFuel_suffix d _ l

theorem trimEnd_prefix (d l : Bytes) : trimEnd d l <+: l := by
  have := List.reverse_prefix.2 (trimStart_suffix d.reverse l.reverse)
  rwa [List.reverse_reverse] at this

theorem trimLiteral_infix (l : Bytes) (k : TrimKind) (d : Bytes) : trimLiteral l k d <:+: l := by
  unfold trimLiteral
  split
  · exact List.infix_refl l
  · cases k with
    | both => exact (trimEnd_prefix d _).isInfix.trans (trimStart_suffix d l).isInfix
    | left => exact (trimStart_suffix d l).isInfix
    | right => exact (trimEnd_prefix d l).isInfix

theorem trimStartFuel_eq_dropWhileEq (d : UInt8) :
    ∀ (f : Nat) (l : Bytes), l.length ≤ f → trimStartFuel [d] f l = dropWhileEq d l := by
  intro f
  induction f with
  | zero =>
    intro l hl
    cases l with
    | nil => rfl
    | cons c t => simp at hl
  | succ f ih =>
    intro l hl
    cases l with
    | nil => rfl
    | cons c t =>
      simp only [trimStartFuel, dropWhileEq, isPrefixOf_singleton_cons]
      by_cases hc : c = d
      · rw [if_pos hc, if_pos hc]
        exact ih t (Nat.le_of_succ_le_succ hl)
      · rw [if_neg hc, if_neg hc]

theorem trimStart_single (d : UInt8) (l : Bytes) : trimStart [d] l = dropWhileEq d l :=
  trimStartFuel_eq_dropWhileEq d l.length l (Nat.le_refl _)

theorem trimEnd_single (d : UInt8) (l : Bytes) :
    trimEnd [d] l = (dropWhileEq d l.reverse).reverse := by
  simp [trimEnd, trimStart_single]

theorem fastTrim_eq_trimLiteral (buf : Bytes) (k : Trim) (d : UInt8) :
    fastTrim buf k d = trimLiteral buf k [d] := by
  cases k <;> simp [fastTrim, trimLiteral, trimStart_single, trimEnd_single]

/-- the record after the `-t` step of `cut_str_fast_lane` -/
def fastTrimmed (buf : Bytes) (o : FastOpt) : Bytes :=
  match o.trim with
  | some k => fastTrim buf k o.delimiter
  | none => buf

/-- `cut_str_fast_lane` on the trimmed record: the run, and what is left in `fields` -/
def fastAfterTrim (buffer : Bytes) (opt : FastOpt) (lif : Side) : Run × Option (List Nat) :=
  if buffer.isEmpty then
    ((if !opt.onlyDelimited then Run.ok [opt.eol.byte] else Run.empty), none)
  else
    let sc := fastScan opt.delimiter lif 0 0 buffer
    if sc.2 == 0 && opt.onlyDelimited then (Run.empty, some (0 :: sc.1))
    else
      let fields := if Side.some sc.2 ≠ lif then 0 :: sc.1 ++ [buffer.length + 1] else 0 :: sc.1
      ((fastOutputLoop buffer fields opt opt.bounds.list).seq (Run.ok [opt.eol.byte]), some fields)

theorem cutStrFastLaneCore_eq (buf : Bytes) (o : FastOpt) (lif : Side) :
    cutStrFastLaneCore buf o lif = fastAfterTrim (fastTrimmed buf o) o lif := rfl

theorem findIterAux_single_nil (d : UInt8) (pos : Nat) : findIterAux [d] 0 pos [] = [] := by
  simp [findIterAux]

theorem findIterAux_single_cons (d c : UInt8) (pos : Nat) (t : Bytes) :
    findIterAux [d] 0 pos (c :: t) =
      if c = d then pos :: findIterAux [d] 0 (pos + 1) t else findIterAux [d] 0 (pos + 1) t := by
  simp only [findIterAux, isPrefixOf_singleton_cons, List.length_singleton, Nat.sub_self]

/-- how many delimiters the scan of `cut_str_fast_lane` (fast_lane.rs:51-60) visits when it starts
    with the counter `c` and `m` delimiters are to come: up to and including the one at which the
    counter reaches `lif`, or all of them (the counter taken as unbounded) -/
def scanCount (lif : Side) (c : Int) (m : Nat) : Nat :=
  match lif with
  | .some k => if c < k ∧ k ≤ c + m then (k - c).toNat else m
  | .cont => m

theorem scanCount_succ (lif : Side) (c : Int) (m : Nat) :
    scanCount lif c (m + 1) = if Side.some (c + 1) = lif then 1 else scanCount lif (c + 1) m + 1 := by
  cases lif with
  | cont => simp only [scanCount, reduceCtorEq, if_false]
  | some k =>
    simp only [scanCount, Side.some.injEq]
    by_cases h1 : c + 1 = k
    · rw [if_pos h1, if_pos (by omega)]; omega
    · rw [if_neg h1]
      by_cases h2 : c + 1 < k ∧ k ≤ c + 1 + m
      · rw [if_pos h2, if_pos (by omega)]; omega
      · rw [if_neg h2, if_neg (by omega)]

theorem scanCount_le (lif : Side) (c : Int) (m : Nat) : scanCount lif c m ≤ m := by
  unfold scanCount
  split
  · split <;> omega
  · exact Nat.le_refl m

theorem scanCount_stop {lif : Side} {k : Int} (hk : lif = .some k) {c : Int} (hc : c < k) (m : Nat) :
    c + scanCount lif c m ≤ k := by
  subst hk
  simp only [scanCount]
  split <;> omega

theorem scanCount_of_no_stop {lif : Side} {c : Int} {m : Nat}
    (h : ∀ i : Nat, 1 ≤ i → i ≤ m → lif ≠ .some (c + i)) : scanCount lif c m = m := by
  cases lif with
  | cont => rfl
  | some k =>
    simp only [scanCount]
    split
    · rename_i hk
      exact absurd (by congr 1; omega) (h (k - c).toNat (by omega) (by omega))
    · rfl

theorem scanCount_of_stop (c : Int) {j m : Nat} (h1 : 1 ≤ j) (h2 : j ≤ m) :
    scanCount (.some (c + j)) c m = j := by
  simp only [scanCount]
  rw [if_pos (by omega)]
  omega

theorem fastScan_nil (d : UInt8) (lif : Side) (pos : Nat) (curr : Int) :
    fastScan d lif pos curr [] = ([], curr) := by
  simp only [fastScan]

theorem fastScan_cons_ne (d : UInt8) (lif : Side) (pos : Nat) (curr : Int) {c : UInt8} (t : Bytes)
    (h : ¬ c = d) : fastScan d lif pos curr (c :: t) = fastScan d lif (pos + 1) curr t := by
  simp only [fastScan, if_neg h]

theorem fastScan_cons_stop (d : UInt8) (lif : Side) (pos : Nat) (curr : Int) {c : UInt8} (t : Bytes)
    (hc : c = d) (h : Side.some (curr + 1) = lif) :
    fastScan d lif pos curr (c :: t) = ([pos + 1], curr + 1) := by
  simp only [fastScan, if_pos hc, if_pos h]

theorem fastScan_cons_go (d : UInt8) (lif : Side) (pos : Nat) (curr : Int) {c : UInt8} (t : Bytes)
    (hc : c = d) (h : ¬ Side.some (curr + 1) = lif) :
    fastScan d lif pos curr (c :: t) =
      ((pos + 1) :: (fastScan d lif (pos + 1) (curr + 1) t).1,
       (fastScan d lif (pos + 1) (curr + 1) t).2) := by
  simp only [fastScan, if_pos hc, if_neg h]

/-- **the scan of the model in closed form**: `idx + 1` for the first `scanCount` delimiter offsets
    `idx`, and the counter advanced by as much -/
theorem fastScan_closed (d : UInt8) (lif : Side) :
    ∀ (line : Bytes) (pos : Nat) (c : Int),
      fastScan d lif pos c line =
        (((findIterAux [d] 0 pos line).take
            (scanCount lif c (findIterAux [d] 0 pos line).length)).map (· + 1),
          c + scanCount lif c (findIterAux [d] 0 pos line).length) := by
  intro line
  induction line with
  | nil =>
    intro pos c
    rw [findIterAux_single_nil, fastScan_nil]
    have : scanCount lif c 0 = 0 := Nat.le_zero.1 (scanCount_le lif c 0)
    simp [this]
  | cons b t ih =>
    intro pos c
    rw [findIterAux_single_cons]
    by_cases hb : b = d
    · rw [if_pos hb, List.length_cons, scanCount_succ]
      by_cases hs : Side.some (c + 1) = lif
      · rw [if_pos hs, fastScan_cons_stop d lif pos c t hb hs]
        rfl
      · rw [if_neg hs, fastScan_cons_go d lif pos c t hb hs, ih (pos + 1) (c + 1), List.take_succ_cons,
          List.map_cons]
        exact Prod.ext rfl (by simp only; omega)
    · rw [if_neg hb, fastScan_cons_ne d lif pos c t hb]
      exact ih (pos + 1) c

theorem fill_single (d : UInt8) (line : Bytes) (hline : line ≠ []) :
    fillWithFieldsLocations [] line [d] =
      rangesBetween 1 line.length 0 (findIterAux [d] 0 0 line) := by
  cases line with
  | nil => exact absurd rfl hline
  | cons c t => simp [fillWithFieldsLocations, findIter]

theorem rangesBetween_length (dlen n : Nat) : ∀ (ms : List Nat) (prev : Nat),
    (rangesBetween dlen n prev ms).length = ms.length + 1 := by
  intro ms
  induction ms with
  | nil => intro prev; rfl
  | cons i t ih => intro prev; simp [rangesBetween, ih]

/-- a bound the early stop at field `k` is sound for: only strictly positive written indexes, a
    closed right side, and that right side within the first `k` fields -/
def UserBounds.Within (b : UserBounds) (k : Int) : Prop :=
  (b.l = .cont ∨ ∃ u, b.l = .some u ∧ 1 ≤ u) ∧ ∃ v, b.r = .some v ∧ 1 ≤ v ∧ v ≤ k

theorem UserBounds.Within.left_ne_zero {b : UserBounds} {k : Int} (h : b.Within k) :
    b.l ≠ .some 0 := by
  rcases h.1 with h | ⟨u, h, hu⟩
  · rw [h]; exact Side.noConfusion
  · rw [h]; intro h0; cases h0; omega

/-- A positive closed bound whose right side is within `k` resolves the same way
    against `k` parts and against any `n ≥ k` parts (including the cases where it does not resolve:
    left side past the right side, whatever `n`). -/
theorem earlyStop_sound (b : UserBounds) (k n : Nat) (hb : b.Within k) (hkn : k ≤ n) :
    b.tryIntoRange k = b.tryIntoRange n := by
  obtain ⟨hl, v, hr, hv1, hvk⟩ := hb
  unfold UserBounds.tryIntoRange
  rw [hr, rangeEnd_of_pos (by omega), if_pos hvk, rangeEnd_of_pos (by omega), if_pos (by omega)]
  rcases hl with hl | ⟨u, hl, hu⟩
  · rw [hl]; rfl
  · rw [hl, rangeStart_of_pos (by omega), rangeStart_of_pos (by omega)]
    by_cases c1 : u ≤ (k : Int)
    · rw [if_pos c1, if_pos (by omega)]
    · -- the left side is past the first `k` parts, hence past the right side `v ≤ k`
      rw [if_neg c1]
      by_cases c2 : u ≤ (n : Int)
      · rw [if_pos c2]
        dsimp only
        rw [if_pos (by omega)]
      · rw [if_neg c2]

theorem Side.gt_some_some (a m : Int) (ha : 0 < a) (hm : 0 < m) :
    (Side.some a).gt (.some m) = decide (a > m) := by
  have hs : sameSign a m = true := by simp [sameSign, ha, hm]
  simp only [Side.gt, Side.partialCmp, hs, Bool.not_true, Bool.false_eq_true, if_false]
  by_cases h : a > m
  · have : compare a m = .gt := by rw [Int.compare_eq_gt]; exact h
    simp [this, h]
  · have : compare a m ≠ .gt := by rw [Ne, Int.compare_eq_gt]; exact h
    simp [h]
    exact this

theorem rightmostBound_cont : ∀ (bs : List UserBounds),
    rightmostBound (some .cont) bs = some .cont := by
  intro bs
  induction bs with
  | nil => rfl
  | cons b t ih =>
    have : b.r.gt .cont = false := by
      cases b.r <;> simp [Side.gt, Side.partialCmp]
    simp only [rightmostBound, this, Bool.false_eq_true, if_false]
    exact ih

/-- all written indexes of the bounds are strictly positive -/
def AllPos (bs : List UserBounds) : Prop :=
  ∀ b ∈ bs, b.l.isNonPos = false ∧ b.r.isNonPos = false

theorem rightmostBound_some_spec : ∀ (bs : List UserBounds) (m k : Int), 0 < m → AllPos bs →
    rightmostBound (some (.some m)) bs = some (.some k) →
    m ≤ k ∧ ∀ b ∈ bs, ∃ v, b.r = .some v ∧ 1 ≤ v ∧ v ≤ k := by
  intro bs
  induction bs with
  | nil =>
    intro m k _ _ h
    simp only [rightmostBound, Option.some.injEq, Side.some.injEq] at h
    subst h
    exact ⟨Int.le_refl _, by simp⟩
  | cons b t ih =>
    intro m k hm hpos h
    have hb := (hpos b (by simp)).2
    have hpos' : AllPos t := fun x hx => hpos x (by simp [hx])
    cases hr : b.r with
    | cont =>
      have hg : (Side.cont).gt (.some m) = true := by simp [Side.gt, Side.partialCmp]
      simp only [rightmostBound, hr, hg, if_true] at h
      rw [rightmostBound_cont] at h
      cases h
    | some v =>
      have hv : 0 < v := by
        rw [hr] at hb
        simp only [Side.isNonPos, decide_eq_false_iff_not] at hb
        omega
      simp only [rightmostBound, hr, Side.gt_some_some v m hv hm] at h
      by_cases hvm : v > m
      · simp only [hvm, decide_true, if_true] at h
        obtain ⟨h1, h2⟩ := ih v k hv hpos' h
        refine ⟨by omega, ?_⟩
        intro x hx
        rcases List.mem_cons.1 hx with rfl | hx
        · exact ⟨v, hr, by omega, h1⟩
        · exact h2 x hx
      · simp only [hvm, decide_false, Bool.false_eq_true, if_false] at h
        obtain ⟨h1, h2⟩ := ih m k hm hpos' h
        refine ⟨h1, ?_⟩
        intro x hx
        rcases List.mem_cons.1 hx with rfl | hx
        · exact ⟨v, hr, by omega, by omega⟩
        · exact h2 x hx

theorem rightmostBound_none_spec (bs : List UserBounds) (k : Int) (hpos : AllPos bs)
    (h : rightmostBound none bs = some (.some k)) :
    ∀ b ∈ bs, ∃ v, b.r = .some v ∧ 1 ≤ v ∧ v ≤ k := by
  cases bs with
  | nil => simp [rightmostBound] at h
  | cons b t =>
    simp only [rightmostBound] at h
    have hpos' : AllPos t := fun x hx => hpos x (by simp [hx])
    have hb := (hpos b (by simp)).2
    cases hr : b.r with
    | cont =>
      rw [hr, rightmostBound_cont] at h
      cases h
    | some v =>
      have hv : 0 < v := by
        rw [hr] at hb
        simp only [Side.isNonPos, decide_eq_false_iff_not] at hb
        omega
      rw [hr] at h
      obtain ⟨h1, h2⟩ := rightmostBound_some_spec t v k hv hpos' h
      intro x hx
      rcases List.mem_cons.1 hx with rfl | hx
      · exact ⟨v, hr, by omega, h1⟩
      · exact h2 x hx

theorem rightmostBound_mem : ∀ (bs : List UserBounds) (acc : Option Side) (s : Side),
    rightmostBound acc bs = some s → acc = some s ∨ ∃ b ∈ bs, b.r = s := by
  intro bs
  induction bs with
  | nil => intro acc s h; left; simpa [rightmostBound] using h
  | cons b t ih =>
    intro acc s h
    cases acc with
    | none =>
      simp only [rightmostBound] at h
      rcases ih _ _ h with h | ⟨x, hx, hxr⟩
      · right; exact ⟨b, by simp, by simpa using h⟩
      · right; exact ⟨x, by simp [hx], hxr⟩
    | some m =>
      simp only [rightmostBound] at h
      by_cases hg : b.r.gt m = true
      · rw [if_pos hg] at h
        rcases ih _ _ h with h | ⟨x, hx, hxr⟩
        · right; exact ⟨b, by simp, by simpa using h⟩
        · right; exact ⟨x, by simp [hx], hxr⟩
      · rw [if_neg hg] at h
        rcases ih _ _ h with h | ⟨x, hx, hxr⟩
        · left; exact h
        · right; exact ⟨x, by simp [hx], hxr⟩

theorem markLast_mem_rev (l l' : List BoF) (h : markLast l = some l') :
    ∀ b0, BoF.bound b0 ∈ l → ∃ b, BoF.bound b ∈ l' ∧ b.l = b0.l ∧ b.r = b0.r := by
  obtain ⟨a, b, f, rfl, _, rfl⟩ := markLast_eq_some h
  intro b0 hb
  simp only [List.mem_append, List.mem_cons, BoF.bound.injEq] at hb ⊢
  rcases hb with hb | rfl | hb
  · exact ⟨b0, .inl hb, rfl, rfl⟩
  · exact ⟨_, .inr (.inl rfl), rfl, rfl⟩
  · exact ⟨b0, .inr (.inr hb), rfl, rfl⟩

/-- If the early-stop field (`last_interesting_field`, userboundslist.rs:53) of a `fromVec`-built list
    is a positive `k`, every bound of the list has only strictly positive written indexes and a
    closed right side `≤ k`. -/
theorem lastInteresting_spec (l : List BoF) (ubl : UserBoundsList) (k : Int)
    (h : fromVec l = .ok ubl) (hk : ubl.lastInteresting = .some k) (hpos : 0 < k) :
    ∀ b, BoF.bound b ∈ ubl.list → b.Within k := by
  obtain ⟨hm, hli⟩ := fromVec_ok h
  rw [hli] at hk
  by_cases hs : isSortable l = true
  · rw [if_pos hs] at hk
    cases hrm : rightmostBound none (boundsOnly l) with
    | none => rw [hrm] at hk; cases hk
    | some s =>
      rw [hrm] at hk
      cases hk
      -- some bound has the positive right side `k`, so no written index is non-positive
      have hall : AllPos (boundsOnly l) := by
        rcases rightmostBound_mem _ _ _ hrm with h0 | ⟨x, hx, hxr⟩
        · cases h0
        · simp only [isSortable, Bool.not_eq_true', Bool.and_eq_false_iff] at hs
          have hp : (boundsOnly l).any (fun b => b.l.isPos || b.r.isPos) = true := by
            rw [List.any_eq_true]
            exact ⟨x, hx, by simp [hxr, Side.isPos, hpos]⟩
          rcases hs with hs | hs
          · intro b hb
            have := List.any_eq_false.1 hs b hb
            simpa using this
          · rw [hp] at hs; cases hs
      have hr := rightmostBound_none_spec _ k hall hrm
      intro b hb
      obtain ⟨b0, h0, hl0, hr0⟩ : ∃ b0, BoF.bound b0 ∈ l ∧ b0.l = b.l ∧ b0.r = b.r := by
        rcases markLast_mem l _ hm _ hb with h | ⟨b0, h0, e⟩
        · exact ⟨b, h, rfl, rfl⟩
        · cases e; exact ⟨b0, h0, rfl, rfl⟩
      have hb0 : b0 ∈ boundsOnly l := mem_boundsOnly_iff.2 h0
      refine ⟨?_, hr0 ▸ hr b0 hb0⟩
      have := (hall b0 hb0).1
      rw [← hl0]
      cases hbl : b0.l with
      | cont => left; rfl
      | some u =>
        right
        rw [hbl] at this
        simp only [Side.isNonPos, decide_eq_false_iff_not] at this
        exact ⟨u, rfl, by omega⟩
  · rw [if_neg hs] at hk
    cases hk

theorem lastInteresting_mem (l : List BoF) (ubl : UserBoundsList) (h : fromVec l = .ok ubl) :
    ubl.lastInteresting = .cont ∨ ∃ b, BoF.bound b ∈ ubl.list ∧ b.r = ubl.lastInteresting := by
  obtain ⟨hm, hli⟩ := fromVec_ok h
  rw [hli]
  by_cases hs : isSortable l = true
  · rw [if_pos hs]
    cases hrm : rightmostBound none (boundsOnly l) with
    | none => left; rfl
    | some s =>
      right
      rcases rightmostBound_mem _ _ _ hrm with h0 | ⟨x, hx, hxr⟩
      · cases h0
      · -- transport the witness through `markLast`
        obtain ⟨b, hb, _, hbr⟩ := markLast_mem_rev l _ hm x (mem_boundsOnly_iff.1 hx)
        exact ⟨b, hb, hbr.trans hxr⟩
  · rw [if_neg hs]; left; rfl

end Tuc
