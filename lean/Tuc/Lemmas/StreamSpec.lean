import Tuc.Props.C04
import Tuc.Lemmas.Split
import Tuc.Lemmas.Records
/-!
# Tuc.Lemmas.StreamSpec — the `-M` machine, one field at a time

By `cutBytesStream_canonical` (C04) the run of the chunk machine is the run over the untagged
bytes, where nothing is flushed in the middle of a field.  This file abstracts that run from bytes
to fields: on a record whose fields (split at the one-byte delimiter) are `f₁ … fₙ` the machine
does `fieldsRun`, i.e. one completing `print_bof` per field, the early stop after the field
`last_interesting_field`, and `endOfRecord` on the last field; and the whole input is processed
record by record (`streamRun_records`).
-/
namespace Tuc
open Tuc.Spec

/-- what the machine does on the fields of one (non-empty) record, from `bof_idx = i` and
    `curr_field = k` -/
def fieldsRun (o : StreamOpt) : Nat → Int → List Bytes → Run
  | _, _, [] => Run.empty
  | i, k, [f] => endOfRecord o { bofIdx := i, currField := k, piece := f, started := true }
  | i, k, f :: g :: t =>
    match printBof o i k false f true with
    | none => Run.panic
    | some (w, i') =>
      if Side.some k = o.lastInterestingField then
        (Run.ok w).seq ((printFillerOrFallbacks o k (o.bounds.drop i')).seq (Run.ok [o.eol.byte]))
      else (Run.ok w).seq (fieldsRun o i' (k + 1) (g :: t))

theorem splitAux_single_cons (d c : UInt8) (cur t : Bytes) :
    splitAux [d] 0 cur (c :: t) =
      if c = d then cur :: splitAux [d] 0 [] t else splitAux [d] 0 (cur ++ [c]) t := by
  by_cases h : c = d
  · subst h; simp [splitAux, List.isPrefixOf]
  · have : (d == c) = false := by simpa using fun h' => h h'.symm
    simp [splitAux, List.isPrefixOf, h, this]

theorem endOfRecord_started (o : StreamOpt) (i : Nat) (k : Int) (tr : Bool) (p : Bytes)
    (sk sd sk' sd' : Bool) :
    endOfRecord o ⟨i, k, tr, p, sk, sd⟩ = endOfRecord o ⟨i, k, tr, p, sk', sd'⟩ := rfl

theorem fieldsRun_step {o : StreamOpt} {i : Nat} {k : Int} {f : Bytes} {w : Bytes} {i' : Nat}
    (more : List Bytes) (h : printBof o i k false f true = some (w, i')) :
    fieldsRun o i k (f :: more) =
      Run.pre w (if more = [] ∨ Side.some k = o.lastInterestingField then
        (printFillerOrFallbacks o k (o.bounds.drop i')).seq (Run.ok [o.eol.byte])
        else fieldsRun o i' (k + 1) more) := by
  cases more with
  | nil => simp only [fieldsRun, endOfRecord, h, true_or, if_true, Run.seq_ok]
  | cons g t =>
    simp only [fieldsRun, h, reduceCtorEq, false_or]
    split <;> rw [Run.seq_ok]

/-- **A record, field by field.**  The record `l` (no EOL in it) is followed by `tail`: its EOL and
    the rest of the input, or nothing at all (EOF).  All that is needed of `tail` is that it ends a
    record that has begun (`hend`; after it the run goes on with `R`), also in skip mode (`hskip`).
    The machine stands at field `k ≥ 1` with the pending piece `cur`, in a record that has begun or
    is about to (`sd = true ∨ l ≠ []`); the last hypothesis excludes the empty record, which the
    machine ends without `endOfRecord` (see `recRun`). -/
theorem streamRun_fields (o : StreamOpt) (tail : List (UInt8 × Bool)) (R : Run)
    (hend : ∀ i k cur, ¬ (k = 1 ∧ cur = []) →
      streamRun o { bofIdx := i, currField := k, piece := cur, started := true } tail =
        (endOfRecord o { bofIdx := i, currField := k, piece := cur, started := true }).seq R)
    (hskip : ∀ st : SState, st.skip = true → st.started = true →
      streamRun o st tail = (Run.ok [o.eol.byte]).seq R) (l : Bytes) :
    ∀ (i : Nat) (k : Int) (cur : Bytes) (sd : Bool), 1 ≤ k → (∀ c ∈ l, c ≠ o.eol.byte) →
    (sd = true ∨ l ≠ []) → ¬ (k = 1 ∧ cur = [] ∧ l = []) →
    streamRun o { bofIdx := i, currField := k, piece := cur, started := sd } (untagged l ++ tail) =
      (fieldsRun o i k (splitAux [o.delimiter] 0 cur l)).seq R := by
  induction l with
  | nil =>
    intro i k cur sd _ _ hsd hne
    cases hsd.resolve_right (fun h => h rfl)
    exact hend i k cur fun h => hne ⟨h.1, h.2, rfl⟩
  | cons c l ih =>
    intro i k cur sd hk hl _ _
    have hc : c ≠ o.eol.byte := hl c List.mem_cons_self
    have hl' : ∀ x ∈ l, x ≠ o.eol.byte := fun x hx => hl x (List.mem_cons_of_mem _ hx)
    rw [untagged_cons, List.cons_append, streamRun_cons, splitAux_single_cons]
    by_cases hd : c = o.delimiter
    · rw [if_pos hd]
      cases hsp : splitAux [o.delimiter] 0 [] l with
      | nil => exact absurd hsp (splitAux_ne_nil _ _ _ _)
      | cons g gs =>
        rw [fieldsRun]
        cases hp : printBof o i k false cur true with
        | none =>
          rw [streamStep_delim_none o ⟨i, k, false, cur, false, sd⟩ c false rfl hc hd hp]
          rfl
        | some x =>
          obtain ⟨w, i'⟩ := x
          rw [streamStep_delim_some o ⟨i, k, false, cur, false, sd⟩ c false rfl hc hd w i' hp]
          dsimp only
          by_cases hli : Side.some k = o.lastInterestingField
          · -- early stop: the rest of the record is passed over in skip mode
            rw [if_pos hli, if_pos hli, streamRun_skip_append o tail (untagged l) _ rfl (untagged_noeol hl'),
              hskip _ rfl rfl, Run.seq_assoc, Run.seq_assoc, Run.seq_assoc]
          · rw [if_neg hli, if_neg hli, ih i' (k + 1) [] true (by omega) hl' (Or.inl rfl) (by omega), hsp,
              Run.seq_assoc]
    · rw [if_neg hd, streamStep_ord_false o ⟨i, k, false, cur, false, sd⟩ c rfl hc hd, Run.empty_seq]
      exact ih i k (cur ++ [c]) true hk hl' (Or.inl rfl) (by simp)

/-- the machine on one record (given without its EOL) -/
def recRun (o : StreamOpt) (r : Bytes) : Run :=
  if r = [] then Run.ok [o.eol.byte] else fieldsRun o 0 1 (splitFields [o.delimiter] r)

/-- **The machine works record by record**, on the specification's `records` (a final unterminated
    non-empty piece counts) -/
theorem streamRun_records (o : StreamOpt) (hwf : NoAdjFillers o.bounds) (input : Bytes) :
    streamRun o {} (untagged input) = Run.seqMap (recRun o) (records o.eol.byte input) := by
  refine records_ind (P := fun x rs => streamRun o {} (untagged x) = Run.seqMap (recRun o) rs)
    (fun input h => ?_) (fun l rest h2 ih => ?_) input
  · -- the last record, ended by EOF
    by_cases hi : input = []
    · subst hi; exact streamEof_init o
    · have hi' : input.isEmpty = false := by simpa using hi
      have := streamRun_fields o [] Run.empty
        (fun i k cur _ => by
          rw [Run.seq_empty]; exact streamEof_started o hwf ⟨i, k, false, cur, false, true⟩ rfl rfl)
        (fun st hs hst => by simp [streamRun, streamEof, hs, hst])
        input 0 1 [] false (Int.le_refl 1) h (Or.inr hi) (fun ⟨_, _, h3⟩ => hi h3)
      rw [List.append_nil, Run.seq_empty] at this
      rw [hi']
      simp only [Bool.false_eq_true, if_false, Run.seqMap, recRun, if_neg hi, Run.seq_empty, splitFields]
      exact this
  · -- a record ended by an EOL
    rw [untagged_append, untagged_cons]
    simp only [Run.seqMap]
    rw [← ih]
    by_cases hl : l = []
    · subst hl
      simp only [untagged_nil, List.nil_append, recRun, if_true]
      rw [streamRun_cons, streamStep_eol o {} _ false rfl rfl]
      rfl
    · have := streamRun_fields o ((o.eol.byte, false) :: untagged rest) (streamRun o {} (untagged rest))
        (fun i k cur hne => by
          rw [streamRun_cons, streamStep_eol o ⟨i, k, false, cur, false, true⟩ _ false rfl rfl, if_neg]
          exact fun ⟨h1, _, h3⟩ => hne ⟨h1, by simpa using h3⟩)
        (fun st hs _ => streamRun_skip_eol o st false _ hs)
        l 0 1 [] false (Int.le_refl 1) h2 (Or.inr hl) (fun ⟨_, _, h3⟩ => hl h3)
      simp only [recRun, if_neg hl, splitFields]
      exact this

theorem cutBytesStream_records (o : StreamOpt) (hwf : NoAdjFillers o.bounds) (segs : List Bytes) :
    cutBytesStream o segs = Run.seqMap (recRun o) (records o.eol.byte segs.flatten) := by
  rw [cutBytesStream_canonical o hwf, streamRun_records o hwf]

end Tuc
