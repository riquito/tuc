import Tuc.Model.Argv
/-!
# Tuc.Lemmas.ParseWith — one logic for the steps of `parseWith`, on two argument stores at once

`parseWith` (the model of `parse_args`) is written once over an interface `Ops σ` of three lookups, in the
monad `P σ`.  `SimE h E I J m₁ m₂ Q` speaks of a step run on two stores, `m₁` over `σ₁` and `m₂` over `σ₂`,
the states related by `h : σ₂ → σ₁`: from a state that satisfies `I` the two do the same; an early exit
satisfies `E`; a value returned satisfies `Q`; the state `m₂` goes on with satisfies `J`.  One rule per
operation `parseWith` uses, so that one pass over the text of `parse_args` (`SimE.parseWith`, `Tuc.Props.C19Argv`) gives
both that two stores answer alike and what is true of the answer on any store (`h := id`).
-/
namespace Tuc

def Step.map {σ₁ σ₂ α : Type} (h : σ₂ → σ₁) : Step σ₂ α → Step σ₁ α
  | .done r => .done r
  | .next a s => .next a (h s)

/-- the answer of `optValue` with the state that is left mapped by `h` -/
def mapOptValue {σ₁ σ₂ : Type} (h : σ₂ → σ₁) :
    Except PicoErr (Option (Arg × σ₂)) → Except PicoErr (Option (Arg × σ₁))
  | .error e => .error e
  | .ok none => .ok none
  | .ok (some (v, s)) => .ok (some (v, h s))

theorem mapOptValue_id {σ : Type} (r : Except PicoErr (Option (Arg × σ))) : mapOptValue id r = r := by
  rcases r with e | _ | ⟨v, s⟩ <;> rfl

def ValuePost {σ : Type} (J : σ → Prop) (s : σ) : Except PicoErr (Option (Arg × σ)) → Prop
  | .ok none => J s
  | .ok (some (_, s')) => J s'
  | .error _ => True

def ValueSim {σ₁ σ₂ : Type} (h : σ₂ → σ₁) (ops₁ : Ops σ₁) (ops₂ : Ops σ₂) (k : Keys) (s : σ₂) (J : σ₂ → Prop) : Prop :=
  ops₁.optValue k (h s) = mapOptValue h (ops₂.optValue k s) ∧ ValuePost J s (ops₂.optValue k s)

def FlagSim {σ₁ σ₂ : Type} (h : σ₂ → σ₁) (ops₁ : Ops σ₁) (ops₂ : Ops σ₂) (k : Keys) (s : σ₂) (J : σ₂ → Prop) : Prop :=
  ops₁.contains k (h s) = ((ops₂.contains k s).1, h (ops₂.contains k s).2) ∧ J (ops₂.contains k s).2

def SimE {σ₁ σ₂ α : Type} (h : σ₂ → σ₁) (E : ArgvResult → Prop) (I J : σ₂ → Prop) (m₁ : P σ₁ α) (m₂ : P σ₂ α)
    (Q : α → Prop) : Prop :=
  ∀ s, I s → m₁ (h s) = Step.map h (m₂ s) ∧
    match m₂ s with
    | .done r => E r
    | .next a s' => Q a ∧ J s'

namespace SimE
variable {σ₁ σ₂ α β : Type} {h : σ₂ → σ₁} {E : ArgvResult → Prop} {I J K : σ₂ → Prop}

theorem bind {m₁ : P σ₁ α} {m₂ : P σ₂ α} {f₁ : α → P σ₁ β} {f₂ : α → P σ₂ β} {Q : α → Prop} {R : β → Prop}
    (hm : SimE h E I J m₁ m₂ Q) (hf : ∀ a, Q a → SimE h E J K (f₁ a) (f₂ a) R) :
    SimE h E I K (m₁ >>= f₁) (m₂ >>= f₂) R := by
  intro s hs
  obtain ⟨e, post⟩ := hm s hs
  show P.bind m₁ f₁ (h s) = Step.map h (P.bind m₂ f₂ s) ∧
    match P.bind m₂ f₂ s with | .done r => E r | .next a s' => R a ∧ K s'
  unfold P.bind
  rw [e]
  cases hm2 : m₂ s with
  | done r => rw [hm2] at post; exact ⟨rfl, post⟩
  | next a s' => rw [hm2] at post; exact hf a post.1 s' post.2

theorem pure {Q : α → Prop} (a : α) (hq : Q a) : SimE h E I I (pure a : P σ₁ α) (pure a : P σ₂ α) Q :=
  fun _ hs => ⟨rfl, hq, hs⟩

theorem exitIf (c : Bool) {r : ArgvResult} (hr : E r) :
    SimE h E I I (P.exitIf c r : P σ₁ Unit) (P.exitIf c r) fun _ => True := by
  intro s hs
  unfold P.exitIf
  cases c
  · exact ⟨rfl, trivial, hs⟩
  · exact ⟨rfl, hr⟩

/-- `hp`: a `None` has to be excused by `E` (or excluded) -/
theorem unwrap (o : Option α) (hp : o = none → E .panic) :
    SimE h E I I (P.unwrap o : P σ₁ α) (P.unwrap o) fun a => o = some a := by
  intro s hs
  unfold P.unwrap
  cases o with
  | none => exact ⟨rfl, hp rfl⟩
  | some a => exact ⟨rfl, rfl, hs⟩

theorem ite (c : Prop) [Decidable c] {a₁ b₁ : P σ₁ α} {a₂ b₂ : P σ₂ α} {Q : α → Prop}
    (ha : SimE h E I J a₁ a₂ Q) (hb : SimE h E I J b₁ b₂ Q) :
    SimE h E I J (if c then a₁ else b₁) (if c then a₂ else b₂) Q := by
  by_cases hc : c <;> simp only [hc, if_true, if_false] <;> assumption

variable {ops₁ : Ops σ₁} {ops₂ : Ops σ₂}

theorem test (e : ∀ s, I s → ops₁.isEmpty (h s) = ops₂.isEmpty s) :
    SimE h E I I (P.test ops₁.isEmpty) (P.test ops₂.isEmpty) fun _ => True := by
  intro s hs
  simp only [P.test, e s hs, Step.map]
  exact ⟨trivial, trivial, hs⟩

theorem flag (k : Keys) (e : ∀ s, I s → FlagSim h ops₁ ops₂ k s J) :
    SimE h E I J (ops₁.flag k) (ops₂.flag k) fun _ => True := by
  intro s hs
  simp only [Ops.flag, (e s hs).1, Step.map]
  exact ⟨trivial, trivial, (e s hs).2⟩

/-- `hp`: a value on which the parser `f` panics has to be excused by `E` (or excluded) -/
theorem value (hr : E .reject) (k : Keys) (f : Arg → Res α) (hp : ∀ v, f v = .panic → E .panic)
    (e : ∀ s, I s → ValueSim h ops₁ ops₂ k s J) :
    SimE h E I J (ops₁.value k f) (ops₂.value k f) fun r => ∀ a, r = some a → ∃ v, f v = .ok a := by
  intro s hs
  obtain ⟨e, post⟩ := e s hs
  simp only [Ops.value, e]
  cases hv : ops₂.optValue k s with
  | error e => exact ⟨rfl, hr⟩
  | ok o =>
    rw [hv] at post
    cases o with
    | none => exact ⟨rfl, nofun, post⟩
    | some p =>
      obtain ⟨v, s'⟩ := p
      simp only [mapOptValue]
      cases hf : f v with
      | ok a => exact ⟨rfl, fun _ h' => by cases h'; exact ⟨v, hf⟩, post⟩
      | fail => exact ⟨rfl, hr⟩
      | panic => exact ⟨rfl, hp v hf⟩

theorem fallbackOob (hr : E .reject) (ev : ∀ s, I s → ValueSim h ops₁ ops₂ kFallback s I)
    (ec : ∀ s, I s → FlagSim h ops₁ ops₂ kFallbackEq s I) :
    SimE h E I I ops₁.fallbackOob ops₂.fallbackOob fun _ => True := by
  intro s hs
  obtain ⟨e, post⟩ := ev s hs
  simp only [Ops.fallbackOob, e]
  cases hv : ops₂.optValue kFallback s with
  | error err =>
    cases err
    · simp only [mapOptValue, (ec s hs).1, Step.map]
      exact ⟨trivial, trivial, (ec s hs).2⟩
    · exact ⟨rfl, hr⟩
  | ok o =>
    rw [hv] at post
    cases o with
    | none => exact ⟨rfl, trivial, post⟩
    | some p => obtain ⟨v, s'⟩ := p; exact ⟨rfl, trivial, post⟩

theorem result {m₁ : P σ₁ ArgvResult} {m₂ : P σ₂ ArgvResult} {Q : ArgvResult → Prop}
    (hm : SimE h E I J m₁ m₂ Q) (s : σ₂) (hs : I s) : E (m₂ s).result ∨ Q (m₂ s).result := by
  have := (hm s hs).2
  cases h : m₂ s with
  | done r => rw [h] at this; exact .inl this
  | next r s' => rw [h] at this; exact .inr this.1

end SimE

end Tuc
