import Tuc.Model.CutStr
import Tuc.Lemmas.SpecLaws
import Tuc.Lemmas.Total
/-!
# Tuc.Lemmas.UnpackSpec — the passes of `cut_str` over the bounds list against the specification

The list the output loop walks (`loopBounds`, `Tuc.Lemmas.Total`) is the user's after the `-m` pass
and the unpack pass.  What the loop needs of it is `AllNonzero` (no written index is 0) and
`LastMarked` (`is_last` on exactly the last bound); `fromVec` establishes the second.  The `-m` pass
is the specification's `complementBound`, `UserBounds::unpack` its `expandBound`; where the engine
skips the expansion (no bound is a range) the specification's unconditional expansion changes
nothing that `emitWith` can see.  The lists are compared up to the `is_last` flags (`eraseLast`),
which the specification never reads.
-/

namespace Tuc
open Tuc.Spec

/-- `is_last` is set on exactly the last bound of the list (`markLast`, `fromVec`) -/
def LastMarked : List BoF → Prop
  | [] => True
  | .filler _ :: t => LastMarked t
  | .bound b :: t => (b.isLast = true ↔ countBounds t = 0) ∧ LastMarked t

/-- what the parser and the `-m` / unpack rewrites produce: no flag set -/
def NoneMarked (l : List BoF) : Prop := ∀ b, BoF.bound b ∈ l → b.isLast = false

theorem lastMarked_of_no_bounds : ∀ (l : List BoF), countBounds l = 0 → LastMarked l
  | [], _ => trivial
  | .filler _ :: t, h => lastMarked_of_no_bounds t h
  | .bound _ :: _, h => absurd h (Nat.succ_ne_zero _)

theorem lastMarked_of_last {b : UserBounds} {f : List BoF} (hb : b.isLast = true)
    (hf : countBounds f = 0) : ∀ (a : List BoF), NoneMarked a → LastMarked (a ++ .bound b :: f)
  | [], _ => ⟨⟨fun _ => hf, fun _ => hb⟩, lastMarked_of_no_bounds f hf⟩
  | .filler _ :: a, hn => lastMarked_of_last hb hf a fun c hc => hn c (List.mem_cons_of_mem _ hc)
  | .bound c :: a, hn =>
    ⟨hn c (List.mem_cons_self ..) ▸ ⟨fun h => Bool.noConfusion h, fun h => absurd
        (Nat.eq_zero_of_add_eq_zero_left ((countBounds_append a (.bound b :: f)).symm.trans h))
        (Nat.succ_ne_zero _)⟩,
      lastMarked_of_last hb hf a fun c hc => hn c (List.mem_cons_of_mem _ hc)⟩

theorem countBounds_pos_of_markLast_some (l l' : List BoF) (h : markLast l = some l') :
    0 < countBounds l ∧ countBounds l' = countBounds l := by
  obtain ⟨a, b, f, rfl, _, rfl⟩ := markLast_eq_some h
  rw [countBounds_append, countBounds_append]
  exact ⟨Nat.lt_add_left _ (Nat.succ_pos _), rfl⟩

theorem markLast_lastMarked (l l' : List BoF) (hn : NoneMarked l) (h : markLast l = some l') :
    LastMarked l' := by
  obtain ⟨a, b, f, rfl, hf, rfl⟩ := markLast_eq_some h
  exact lastMarked_of_last rfl ((countBounds_eq_zero_iff f).2 hf) a
    fun c hc => hn c (List.mem_append_left _ hc)

theorem markLast_eraseLast (l l' : List BoF) (h : markLast l = some l') :
    l'.map eraseLast = l.map eraseLast := by
  obtain ⟨a, b, f, rfl, _, rfl⟩ := markLast_eq_some h
  simp only [List.map_append, List.map_cons, eraseLast]

/-- no written index of the list is 0 (`from_str` refuses it) -/
def AllNonzero (l : List BoF) : Prop := ∀ b, BoF.bound b ∈ l → b.Nonzero

theorem markLast_allNonzero {l l' : List BoF} (h : markLast l = some l') (hl : AllNonzero l) :
    AllNonzero l' :=
  fun b hb => (markLast_mem l l' h _ hb).elim (hl b) fun ⟨b0, h0, e⟩ => by cases e; exact hl b0 h0

theorem fromVec_spec (l : List BoF) (hz : AllNonzero l) (hn : NoneMarked l)
    (hpos : countBounds l ≠ 0) :
    ∃ ubl, fromVec l = .ok ubl ∧ ubl.list.map eraseLast = l.map eraseLast ∧
      AllNonzero ubl.list ∧ LastMarked ubl.list := by
  unfold fromVec
  cases hm : markLast l with
  | none => exact absurd (countBounds_eq_zero_of_markLast_none l hm) hpos
  | some l' =>
    have he := markLast_eraseLast l l' hm
    exact ⟨_, rfl, he, markLast_allNonzero hm hz, markLast_lastMarked l l' hn hm⟩

theorem mapBounds_bound_mem {g : UserBounds → List UserBounds} : ∀ {l : List BoF} {c : UserBounds},
    BoF.bound c ∈ mapBounds g l → ∃ b, BoF.bound b ∈ l ∧ c ∈ g b
  | [], _, h => by simp [mapBounds] at h
  | .filler f :: t, c, h => by
    simp only [mapBounds, List.mem_cons, reduceCtorEq, false_or] at h
    obtain ⟨b, hb, hc⟩ := mapBounds_bound_mem h
    exact ⟨b, List.mem_cons_of_mem _ hb, hc⟩
  | .bound b0 :: t, c, h => by
    simp only [mapBounds, List.mem_append, List.mem_map, BoF.bound.injEq] at h
    rcases h with ⟨c', hc', rfl⟩ | h
    · exact ⟨b0, List.mem_cons_self .., hc'⟩
    · obtain ⟨b, hb, hc⟩ := mapBounds_bound_mem h
      exact ⟨b, List.mem_cons_of_mem _ hb, hc⟩

/-- what a pass over the bounds makes of a bound: the bound itself without its flag, or bounds of its
    own making — written indexes other than 0, no flag, no fallback -/
def Rewrites (g : UserBounds → List UserBounds) : Prop :=
  ∀ b c, c ∈ g b → c = { b with isLast := false } ∨ (c.Nonzero ∧ c.isLast = false ∧ c.fallback = none)

theorem Rewrites.nonzero {g : UserBounds → List UserBounds} (hg : Rewrites g) (l : List BoF)
    (h : AllNonzero l) : AllNonzero (mapBounds g l) := by
  intro c hc
  obtain ⟨b, hb, hcb⟩ := mapBounds_bound_mem hc
  rcases hg b c hcb with rfl | ⟨hz, _⟩
  · exact h b hb
  · exact hz

theorem Rewrites.noneMarked {g : UserBounds → List UserBounds} (hg : Rewrites g) (l : List BoF) :
    NoneMarked (mapBounds g l) := by
  intro c hc
  obtain ⟨b, _, hcb⟩ := mapBounds_bound_mem hc
  rcases hg b c hcb with rfl | ⟨_, hm, _⟩
  · rfl
  · exact hm

theorem Rewrites.fallback {g : UserBounds → List UserBounds} (hg : Rewrites g) {l : List BoF}
    {c : UserBounds} {f : Bytes} (hc : BoF.bound c ∈ mapBounds g l) (hf : c.fallback = some f) :
    ∃ b, BoF.bound b ∈ l ∧ b.fallback = some f := by
  obtain ⟨b, hb, hcb⟩ := mapBounds_bound_mem hc
  rcases hg b c hcb with rfl | ⟨_, _, hnone⟩
  · exact ⟨b, hb, hf⟩
  · rw [hnone] at hf; cases hf

theorem complementBound_rewrites (n : Nat) : Rewrites (complementBound · n) := by
  intro b c (hc : c ∈ complementBound b n)
  unfold complementBound at hc
  cases hres : resolve b n with
  | none =>
    rw [hres] at hc
    exact Or.inl (List.mem_singleton.mp hc)
  | some p =>
    obtain ⟨lo, hi⟩ := p
    rw [hres] at hc
    simp only [List.mem_append] at hc
    right
    rcases hc with hc | hc <;> split at hc
    · cases List.mem_singleton.mp hc
      exact ⟨⟨by simp [Side.Nonzero], by simp only [Side.Nonzero]; omega⟩, rfl, rfl⟩
    · cases hc
    · cases List.mem_singleton.mp hc
      exact ⟨⟨by simp only [Side.Nonzero]; omega, by simp only [Side.Nonzero]; omega⟩, rfl, rfl⟩
    · cases hc

/-- `complement_std_range`, 1-based and inclusive as the specification counts: the parts before
    part `s + 1` and the parts after part `e` -/
theorem complementStdRange_ofRange (n s e : Nat) (he : e ≤ n) :
    (complementStdRange n (s, e)).map UserBounds.ofRange =
      (if 0 < s then [{ l := .some 1, r := .some (s : Int) }] else []) ++
      (if e < n then [{ l := .some ((e : Int) + 1), r := .some (n : Int) }] else []) := by
  have hlt : e < n ↔ ¬ e = n := by omega
  cases s <;> by_cases h : e = n <;> simp [complementStdRange, UserBounds.ofRange, h, hlt]

theorem complement_of_resolve {b : UserBounds} {n lo hi : Nat} (hz : b.Nonzero)
    (h : resolve b n = some (lo, hi)) : b.complement n = some (complementBound b n) := by
  have hr := tryIntoRange_eq_resolve b n hz
  rw [h] at hr
  obtain ⟨hlo, -, hhi⟩ := resolve_range h
  obtain ⟨s, rfl⟩ : ∃ s, lo = s + 1 := ⟨lo - 1, by omega⟩
  have e : ((s + 1 : Nat) : Int) - 1 = s := by omega
  simp only [UserBounds.complement, hr, Option.map_some, Nat.add_sub_cancel, complementBound, h,
    complementStdRange_ofRange n s hi hhi, Nat.lt_add_left_iff_pos, e]

theorem complementBof_eq_spec (b : UserBounds) (n : Nat) (hz : b.Nonzero) :
    complementBof n (.bound b) = (complementBound b n).map .bound := by
  cases hres : resolve b n with
  | none =>
    have hr := tryIntoRange_eq_resolve b n hz
    rw [hres] at hr
    simp only [complementBof, UserBounds.complement, complementBound, hr, hres, Option.map_none,
      List.map_cons, List.map_nil]
  | some p => simp only [complementBof, complement_of_resolve hz hres]

theorem flatMap_eq_mapBounds {F : BoF → List BoF} {g : UserBounds → List UserBounds}
    (hF : ∀ f, F (.filler f) = [.filler f]) : ∀ (l : List BoF),
    (∀ b, BoF.bound b ∈ l → F (.bound b) = (g b).map .bound) → l.flatMap F = mapBounds g l
  | [], _ => rfl
  | .filler f :: t, h => by
    rw [List.flatMap_cons, hF, mapBounds, List.singleton_append,
      flatMap_eq_mapBounds hF t fun b hb => h b (List.mem_cons_of_mem _ hb)]
  | .bound b :: t, h => by
    rw [List.flatMap_cons, h b (List.mem_cons_self ..), mapBounds,
      flatMap_eq_mapBounds hF t fun b hb => h b (List.mem_cons_of_mem _ hb)]

theorem flatMap_complementBof_eq (n : Nat) (l : List BoF) (h : AllNonzero l) :
    l.flatMap (complementBof n) = mapBounds (complementBound · n) l :=
  flatMap_eq_mapBounds (fun _ => rfl) l fun b hb => complementBof_eq_spec b n (h b hb)

theorem mapBounds_complement_nonzero (n : Nat) (l : List BoF) (h : AllNonzero l) :
    AllNonzero (mapBounds (complementBound · n) l) :=
  (complementBound_rewrites n).nonzero l h

theorem mapBounds_complement_noneMarked (n : Nat) (l : List BoF) :
    NoneMarked (mapBounds (complementBound · n) l) :=
  (complementBound_rewrites n).noneMarked l

/-- the bounds list the specification walks for a record of `n` fields: the user's, or under `-m`
    its complement -/
def specBofs (opt : Opt) (n : Nat) : List BoF :=
  if opt.complement then mapBounds (complementBound · n) opt.bounds.list else opt.bounds.list

theorem complemented_cfgOf (opt : Opt) (n : Nat) : complemented (cfgOf opt) n = specBofs opt n := rfl

theorem afterComplement_spec (opt : Opt) (n : Nat) (hz : AllNonzero opt.bounds.list)
    (hL : LastMarked opt.bounds.list) :
    ((opt.complement && countBounds (specBofs opt n) == 0) = true ∧
      (if opt.complement then complementList opt.bounds.list n else .ok opt.bounds) = .fail) ∨
    ((opt.complement && countBounds (specBofs opt n) == 0) = false ∧
      ∃ ubl, (if opt.complement then complementList opt.bounds.list n else .ok opt.bounds) = .ok ubl ∧
        ubl.list.map eraseLast = (specBofs opt n).map eraseLast ∧
        AllNonzero ubl.list ∧ LastMarked ubl.list) := by
  unfold specBofs
  cases hc : opt.complement with
  | false => exact Or.inr ⟨rfl, opt.bounds, rfl, rfl, hz, hL⟩
  | true =>
    simp only [if_true, Bool.true_and]
    unfold complementList
    simp only []
    rw [flatMap_complementBof_eq _ _ hz, boundsOnly_isEmpty_iff]
    by_cases h0 : (countBounds (mapBounds (complementBound · n) opt.bounds.list) == 0) = true
    · rw [if_pos h0]
      exact Or.inl ⟨h0, rfl⟩
    · rw [if_neg h0]
      exact Or.inr ⟨by simpa using h0, fromVec_spec _ (mapBounds_complement_nonzero _ _ hz)
        (mapBounds_complement_noneMarked _ _) (by simpa using h0)⟩

theorem unpack_eq_expand (b : UserBounds) (n : Nat) (hz : b.Nonzero) :
    b.unpack n = expandBound b n := by
  unfold UserBounds.unpack expandBound
  rw [tryIntoRange_eq_resolve b n hz]
  cases hres : resolve b n with
  | none => rfl
  | some p =>
    obtain ⟨lo, hi⟩ := p
    obtain ⟨h1, h2, _⟩ := resolve_range hres
    simp only [Option.map_some]
    rw [show hi - (lo - 1) = hi - lo + 1 by omega]
    exact List.map_congr_left fun i _ => by rw [show lo - 1 + i + 1 = lo + i by omega]

theorem flatMap_unpackBof_eq (n : Nat) (l : List BoF) (h : AllNonzero l) :
    l.flatMap (unpackBof n) = mapBounds (expandBound · n) l :=
  flatMap_eq_mapBounds (fun _ => rfl) l fun b hb =>
    congrArg (List.map BoF.bound) (unpack_eq_expand b n (h b hb))

theorem expandBound_rewrites (n : Nat) : Rewrites (expandBound · n) := by
  intro b c (hc : c ∈ expandBound b n)
  unfold expandBound at hc
  cases hres : resolve b n with
  | none =>
    simp only [hres, List.mem_singleton] at hc
    exact Or.inl hc
  | some p =>
    obtain ⟨lo, hi⟩ := p
    simp only [hres, List.mem_map, List.mem_range] at hc
    obtain ⟨i, _, rfl⟩ := hc
    have h1 := (resolve_range hres).1
    refine Or.inr ⟨?_, rfl, rfl⟩
    constructor <;> (simp only [UserBounds.single, Side.Nonzero]; omega)

theorem expandBound_length_pos (b : UserBounds) (n : Nat) : 1 ≤ (expandBound b n).length := by
  unfold expandBound
  cases resolve b n with
  | none => simp
  | some p => simp

theorem countBounds_le_expand (n : Nat) : ∀ (l : List BoF),
    countBounds l ≤ countBounds (mapBounds (expandBound · n) l)
  | [] => Nat.le_refl _
  | .filler f :: t => by simpa [mapBounds, countBounds] using countBounds_le_expand n t
  | .bound b :: t => by
    have := countBounds_le_expand n t
    have h1 := expandBound_length_pos b n
    simp only [mapBounds, countBounds, countBounds_append, countBounds_map_bound]
    omega

theorem resolve_of_single {b : UserBounds} {n lo hi : Nat} (hlr : b.l = b.r) (hnc : b.l ≠ .cont)
    (h : resolve b n = some (lo, hi)) : lo = hi ∧ 1 ≤ lo ∧ lo ≤ n := by
  obtain ⟨h1, h2, h3⟩ := resolve_range h
  refine ⟨?_, h1, by omega⟩
  obtain ⟨hl, hr, _⟩ := resolve_eq_some.1 h
  cases hb : b.l with
  | cont => exact absurd hb hnc
  | some v =>
    -- a written index resolves to the same part whatever the default
    rw [← hlr, hb] at hr
    rw [hb] at hl
    exact Option.some.inj (hl.symm.trans hr)

theorem resolve_single (k n : Nat) (h1 : 1 ≤ k) (h2 : k ≤ n) :
    resolve (UserBounds.single (k : Int)) n = some (k, k) :=
  resolve_posRange (Int.ofNat_lt.2 h1) (Int.le_refl _) (Int.ofNat_le.2 h2) false none

theorem expandBound_of_single {b : UserBounds} (n : Nat) (hlr : b.l = b.r) (hnc : b.l ≠ .cont) :
    ∃ c, expandBound b n = [c] ∧ resolve c n = resolve b n ∧
      (resolve b n = none → c.fallback = b.fallback) := by
  unfold expandBound
  cases hres : resolve b n with
  | none => exact ⟨_, rfl, hres, fun _ => rfl⟩
  | some p =>
    obtain ⟨lo, hi⟩ := p
    obtain ⟨rfl, h1, h2⟩ := resolve_of_single hlr hnc hres
    exact ⟨UserBounds.single (lo : Int), by simp, resolve_single lo _ h1 h2, nofun⟩

theorem needsUnpack_false {b : UserBounds} (h : needsUnpack (.bound b) = false) :
    b.l = b.r ∧ b.l ≠ .cont := by
  simp only [needsUnpack, Bool.or_eq_false_iff, decide_eq_false_iff_not, Decidable.not_not] at h
  exact h

/-- **where the engine skips the expansion** (no bound is a range: every bound is one written
    index) **the specification's unconditional expansion prints the same**: a resolvable index
    expands to itself (in its positive form), an unresolvable one is kept. -/
theorem sameParts_expand_of_no_unpack (n : Nat) : ∀ (l : List BoF), l.any needsUnpack = false →
    SameParts n l (mapBounds (expandBound · n) l)
  | [], _ => .nil
  | .filler f :: rest, h => by
    simp only [List.any_cons, Bool.or_eq_false_iff] at h
    exact .filler f (sameParts_expand_of_no_unpack n rest h.2)
  | .bound b :: rest, h => by
    simp only [List.any_cons, Bool.or_eq_false_iff] at h
    obtain ⟨hlr, hnc⟩ := needsUnpack_false h.1
    obtain ⟨c, hc, hr, hf⟩ := expandBound_of_single n hlr hnc
    simp only [mapBounds, hc, List.map_cons, List.map_nil, List.singleton_append]
    exact .bound hr hf (sameParts_expand_of_no_unpack n rest h.2)

theorem countBounds_pos_of_any_needsUnpack (l : List BoF) (h : l.any needsUnpack = true) :
    0 < countBounds l :=
  Nat.pos_of_ne_zero fun e => boundsOnly_ne_nil_of_any_needsUnpack l h ((countBounds_eq_zero_iff l).1 e)

/-- **`UserBoundsList::unpack` never fails on a list with a bound** (and without the index 0), and
    delivers the specification's expanded list with `is_last` set on exactly its last bound -/
theorem unpackList_spec (l : List BoF) (n : Nat) (hz : AllNonzero l) (hpos : 0 < countBounds l) :
    ∃ ubl, unpackList l n = .ok ubl ∧
      ubl.list.map eraseLast = (mapBounds (expandBound · n) l).map eraseLast ∧
      AllNonzero ubl.list ∧ LastMarked ubl.list := by
  unfold unpackList
  rw [flatMap_unpackBof_eq n _ hz]
  exact fromVec_spec _ ((expandBound_rewrites n).nonzero _ hz) ((expandBound_rewrites n).noneMarked _)
    (by have := countBounds_le_expand n l; omega)

/-- the unpack pass (cut_str.rs:385-405), entered under `x` (`--json`, or `-c` with a replacement)
    when some bound is a range -/
theorem unpackPass_spec (x : Bool) (n : Nat) (ubl : UserBoundsList)
    (hz : AllNonzero ubl.list) (hL : LastMarked ubl.list) :
    ∃ ubl', (if x && ubl.list.any needsUnpack then unpackList ubl.list n else .ok ubl) = .ok ubl' ∧
      AllNonzero ubl'.list ∧ LastMarked ubl'.list ∧
      ∀ (cfg : Cfg) (piece : Nat → Nat → Bytes) (j : Bytes),
        emitWith cfg n piece j ubl'.list =
          emitWith cfg n piece j (if x then mapBounds (expandBound · n) ubl.list else ubl.list) := by
  cases x with
  | false => exact ⟨ubl, rfl, hz, hL, fun _ _ _ => rfl⟩
  | true =>
    rw [Bool.true_and]
    by_cases hany : ubl.list.any needsUnpack = true
    · rw [if_pos hany]
      obtain ⟨ubl', hu, he, hz', hL'⟩ :=
        unpackList_spec ubl.list n hz (countBounds_pos_of_any_needsUnpack _ hany)
      exact ⟨ubl', hu, hz', hL', fun cfg piece j =>
        emitWith_sameParts cfg n piece j (sameParts_of_eraseLast_eq n he)⟩
    · rw [if_neg hany]
      exact ⟨ubl, rfl, hz, hL, fun cfg piece j =>
        (emitWith_sameParts cfg n piece j
          (sameParts_expand_of_no_unpack n ubl.list (by simpa using hany))).symm⟩

theorem loopBounds_spec (opt : Opt) (n : Nat) (hz : AllNonzero opt.bounds.list)
    (hL : LastMarked opt.bounds.list) :
    ((opt.complement && countBounds (specBofs opt n) == 0) = true ∧ loopBounds opt n = .fail) ∨
    ((opt.complement && countBounds (specBofs opt n) == 0) = false ∧
      ∃ ubl, loopBounds opt n = .ok ubl ∧ AllNonzero ubl.list ∧ LastMarked ubl.list ∧
        ∀ (cfg : Cfg) (piece : Nat → Nat → Bytes) (j : Bytes),
          emitWith cfg n piece j ubl.list =
            emitWith cfg n piece j
              (if opt.json || (opt.boundsType = .characters && opt.replaceDelimiter.isSome) then
                mapBounds (expandBound · n) (specBofs opt n)
               else specBofs opt n)) := by
  unfold loopBounds
  generalize (opt.json || (decide (opt.boundsType = .characters) && opt.replaceDelimiter.isSome)) = x
  rcases afterComplement_spec opt n hz hL with ⟨h0, hfail⟩ | ⟨h0, ubl, hok, he, hz1, hL1⟩
  · exact .inl ⟨h0, by rw [hfail]; rfl⟩
  · obtain ⟨ubl', hu, hz2, hL2, hemit⟩ := unpackPass_spec x n ubl hz1 hL1
    refine .inr ⟨h0, ubl', by rw [hok]; exact hu, hz2, hL2, fun cfg piece j => ?_⟩
    rw [hemit]
    cases x with
    | false => exact emitWith_sameParts _ _ _ _ (sameParts_of_eraseLast_eq n he)
    | true =>
      exact emitWith_sameParts _ _ _ _
        (mapBounds_sameParts expandBound_sameParts (sameParts_of_eraseLast_eq n he))

theorem mapBounds_filler_mem {g : UserBounds → List UserBounds} : ∀ {l : List BoF} {f : Bytes},
    BoF.filler f ∈ mapBounds g l → BoF.filler f ∈ l
  | [], _, h => by simp [mapBounds] at h
  | .filler f0 :: t, f, h => by
    simp only [mapBounds, List.mem_cons] at h
    rcases h with h | h
    · rw [h]; exact List.mem_cons_self ..
    · exact List.mem_cons_of_mem _ (mapBounds_filler_mem h)
  | .bound b0 :: t, f, h => by
    simp only [mapBounds, List.mem_append, List.mem_map, reduceCtorEq, and_false, exists_false,
      false_or] at h
    exact List.mem_cons_of_mem _ (mapBounds_filler_mem h)

theorem fallback_of_rewritten (cfg : Cfg) (n : Nat) (c : UserBounds) (f : Bytes)
    (hc : BoF.bound c ∈ rewritten cfg n) (hf : c.fallback = some f) :
    ∃ b, BoF.bound b ∈ cfg.bofs ∧ b.fallback = some f := by
  have hcompl : ∀ b1, BoF.bound b1 ∈ complemented cfg n → b1.fallback = some f →
      ∃ b, BoF.bound b ∈ cfg.bofs ∧ b.fallback = some f := by
    intro b1 hb1 h1
    unfold complemented at hb1
    split at hb1
    · exact (complementBound_rewrites n).fallback hb1 h1
    · exact ⟨b1, hb1, h1⟩
  unfold rewritten at hc
  split at hc
  · obtain ⟨b1, hb1, h1⟩ := (expandBound_rewrites n).fallback hc hf
    exact hcompl b1 hb1 h1
  · exact hcompl c hc hf

theorem filler_of_rewritten (cfg : Cfg) (n : Nat) (f : Bytes) (hf : BoF.filler f ∈ rewritten cfg n) :
    BoF.filler f ∈ cfg.bofs := by
  have hcompl : BoF.filler f ∈ complemented cfg n → BoF.filler f ∈ cfg.bofs := by
    intro h1
    unfold complemented at h1
    split at h1
    · exact mapBounds_filler_mem h1
    · exact h1
  unfold rewritten at hf
  split at hf
  · exact hcompl (mapBounds_filler_mem hf)
  · exact hcompl hf

end Tuc
