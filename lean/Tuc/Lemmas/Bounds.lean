import Tuc.Model.Bounds
import Tuc.Spec.Record
/-!
# `try_into_range` against the specification's `resolve`; what `markLast` and `fromVec` do to a list;
the equations of the parser's pieces (`scanStep`, `scan`, `boundsListOfString`)

`Side.Nonzero` / `UserBounds.Nonzero` (no index 0) is the hypothesis under which `try_into_range` and
`resolve` agree.  `markLast` is characterised by `markLast_eq_some` (the last bound gets the flag, nothing else changes) and
`markLast_none`; `markLast_mem`, `fromVec_all` are read off the first.  What the parser RETURNS is in `Lemmas/Grammar`.
-/
namespace Tuc
open Tuc.Spec

/-- a side the parser can produce: never the index 0 -/
def Side.Nonzero : Side → Prop
  | .some v => v ≠ 0
  | .cont => True

def UserBounds.Nonzero (b : UserBounds) : Prop := b.l.Nonzero ∧ b.r.Nonzero

theorem Side.Nonzero.ne_some_zero {s : Side} (h : s.Nonzero) : s ≠ .some 0 := by
  rintro rfl
  exact h rfl

theorem rangeEnd_eq (r : Side) (n : Nat) (h : r.Nonzero) :
    rangeEnd r n = (resolveSide r n n).map (fun (hi : Nat) => Int.ofNat hi) := by
  cases r with
  | cont => rfl
  | some v =>
    have hv : v ≠ 0 := h
    simp only [rangeEnd, resolveSide, hv, false_or]
    split
    · rfl
    · by_cases hneg : v < 0
      · rw [if_pos hneg, if_neg (by omega)]
        simp only [Option.map_some, Option.some.injEq, Int.ofNat_eq_natCast]; omega
      · rw [if_neg hneg, if_pos (by omega)]
        simp only [Option.map_some, Option.some.injEq, Int.ofNat_eq_natCast]; omega

theorem rangeStart_some (v : Int) (n : Nat) :
    rangeStart (.some v) n = (rangeEnd (.some v) n).map (· - 1) := by
  simp only [rangeStart, rangeEnd]
  split
  · rfl
  · split <;> simp only [Option.map_some, Option.some.injEq] <;> omega

theorem rangeStart_eq (l : Side) (n : Nat) (h : l.Nonzero) :
    rangeStart l n = (resolveSide l n 1).map (fun (lo : Nat) => Int.ofNat lo - 1) := by
  cases l with
  | cont => rfl
  | some v => rw [rangeStart_some, rangeEnd_eq _ n h, Option.map_map]; rfl

theorem resolveSide_some_dflt (v : Int) (n d d' : Nat) :
    resolveSide (.some v) n d = resolveSide (.some v) n d' := rfl

theorem resolveSide_bounds {s : Side} {n dflt k : Nat} (h : resolveSide s n dflt = some k) :
    (1 ≤ dflt → 1 ≤ k) ∧ (dflt ≤ n → k ≤ n) := by
  cases s with
  | cont => cases h; exact ⟨id, id⟩
  | some v =>
    simp only [resolveSide] at h
    split at h
    · cases h
    · split at h <;> cases h <;> omega

theorem resolve_eq_some {b : UserBounds} {n lo hi : Nat} :
    resolve b n = some (lo, hi) ↔
      resolveSide b.l n 1 = some lo ∧ resolveSide b.r n n = some hi ∧ lo ≤ hi ∧ 1 ≤ lo := by
  unfold resolve
  cases resolveSide b.l n 1 with
  | none => exact ⟨nofun, fun h => nomatch h.1⟩
  | some lo' =>
    cases resolveSide b.r n n with
    | none => exact ⟨nofun, fun h => nomatch h.2.1⟩
    | some hi' =>
      dsimp only
      constructor
      · intro h
        by_cases hc : lo' ≤ hi' ∧ 1 ≤ lo'
        · rw [if_pos hc] at h
          cases h
          exact ⟨rfl, rfl, hc⟩
        · rw [if_neg hc] at h
          cases h
      · rintro ⟨h1, h2, hc⟩
        cases h1
        cases h2
        exact if_pos hc

theorem resolveSide_of_pos {v : Int} (hv : 0 < v) (n d : Nat) :
    resolveSide (.some v) n d = if v ≤ n then some v.toNat else none := by
  simp only [resolveSide]
  by_cases hn : v ≤ n
  · rw [if_neg (by omega), if_pos hv, if_pos hn]
  · rw [if_pos (by omega), if_neg hn]

theorem resolveSide_of_neg {v : Int} (hv : v < 0) (n d : Nat) :
    resolveSide (.some v) n d = if -(n : Int) ≤ v then some ((n : Int) + 1 + v).toNat else none := by
  simp only [resolveSide]
  by_cases hn : -(n : Int) ≤ v
  · rw [if_neg (by omega), if_neg (by omega), if_pos hn]
  · rw [if_pos (by omega), if_neg hn]

theorem oppSign_of_pos {k : Int} (hk : 0 < k) (u : Int) : oppSign u k = decide (u < 0) := by
  have h1 : ¬ k < 0 := Int.not_lt.2 (Int.le_of_lt hk)
  simp only [oppSign, hk, h1, decide_true, decide_false, Bool.and_false, Bool.and_true,
    Bool.false_or, gt_iff_lt]

theorem resolveSide_zero (n d : Nat) : resolveSide (.some 0) n d = none := rfl

theorem rangeEnd_of_pos {v : Int} (hv : 0 < v) (n : Int) :
    rangeEnd (.some v) n = if v ≤ n then some v else none := by
  simp only [rangeEnd]
  by_cases hn : v ≤ n
  · rw [if_neg (by omega), if_neg (by omega), if_pos hn]
  · rw [if_pos (by omega), if_neg hn]

theorem rangeEnd_of_neg {v : Int} (hv : v < 0) (n : Int) :
    rangeEnd (.some v) n = if -n ≤ v then some (n + v + 1) else none := by
  simp only [rangeEnd]
  by_cases hn : -n ≤ v
  · rw [if_neg (by omega), if_pos hv, if_pos hn]
  · rw [if_pos (by omega), if_neg hn]

theorem rangeStart_of_pos {u : Int} (hu : 0 < u) (n : Int) :
    rangeStart (.some u) n = if u ≤ n then some (u - 1) else none := by
  simp only [rangeStart]
  by_cases hn : u ≤ n
  · rw [if_neg (by omega), if_neg (by omega), if_pos hn]
  · rw [if_pos (by omega), if_neg hn]

theorem resolve_congr {b c : UserBounds} {n : Nat} (hl : resolveSide c.l n 1 = resolveSide b.l n 1)
    (hr : resolveSide c.r n n = resolveSide b.r n n) : resolve c n = resolve b n := by
  unfold resolve
  rw [hl, hr]

theorem resolve_posRange {u v : Int} {n : Nat} (hu : 0 < u) (huv : u ≤ v) (hv : v ≤ n)
    (il : Bool) (fb : Option Bytes) :
    resolve ⟨.some u, .some v, il, fb⟩ n = some (u.toNat, v.toNat) :=
  resolve_eq_some.2
    ⟨by rw [resolveSide_of_pos hu, if_pos (Int.le_trans huv hv)],
     by rw [resolveSide_of_pos (Int.lt_of_lt_of_le hu huv), if_pos hv],
     Int.toNat_le_toNat huv, Int.lt_toNat.2 hu⟩

theorem Spec.resolve_range {b : UserBounds} {n lo hi : Nat} (h : resolve b n = some (lo, hi)) :
    1 ≤ lo ∧ lo ≤ hi ∧ hi ≤ n :=
  have ⟨_, hr, hle, h1⟩ := resolve_eq_some.1 h
  ⟨h1, hle, (resolveSide_bounds hr).2 (Nat.le_refl n)⟩

theorem nonzero_of_resolveSide {s : Side} {n d k : Nat} (h : resolveSide s n d = some k) :
    s.Nonzero := by
  cases s with
  | cont => trivial
  | some v =>
    intro hv
    rw [hv, resolveSide_zero] at h
    cases h

theorem nonzero_of_resolve {b : UserBounds} {n : Nat} (h : resolve b n ≠ none) : b.Nonzero := by
  cases hr : resolve b n with
  | none => exact absurd hr h
  | some p =>
    obtain ⟨hl, hr, _⟩ := resolve_eq_some.1 hr
    exact ⟨nonzero_of_resolveSide hl, nonzero_of_resolveSide hr⟩

theorem tryIntoRange_eq_resolve (b : UserBounds) (n : Nat) (h : b.Nonzero) :
    b.tryIntoRange n = (resolve b n).map fun (lo, hi) => (lo - 1, hi) := by
  unfold UserBounds.tryIntoRange resolve
  rw [rangeStart_eq b.l n h.1, rangeEnd_eq b.r n h.2]
  cases hlo : resolveSide b.l n 1 with
  | none => rfl
  | some lo =>
    cases resolveSide b.r n n with
    | none => rfl
    | some hi =>
      have hlo1 : 1 ≤ lo := (resolveSide_bounds hlo).1 (Nat.le_refl 1)
      simp only [Option.map_some, Int.ofNat_eq_natCast]
      by_cases hle : lo ≤ hi
      · rw [if_neg (by omega), if_pos ⟨hle, hlo1⟩]
        simp only [Option.map_some, Option.some.injEq, Prod.mk.injEq]
        omega
      · rw [if_pos (by omega), if_neg (fun h => hle h.1)]
        rfl

theorem rangeStart_bounds (l : Side) (n : Nat) (s : Int) (h : rangeStart l n = some s) :
    -1 ≤ s ∧ s ≤ n ∧ (l ≠ .some 0 → 0 ≤ s) := by
  cases l with
  | cont => cases h; simp
  | some v =>
    have h0 : Side.some v ≠ .some 0 → v ≠ 0 := fun h0 hv => h0 (by rw [hv])
    simp only [rangeStart] at h
    split at h
    · cases h
    · split at h <;> cases h <;> exact ⟨by omega, by omega, fun hz => by have := h0 hz; omega⟩

theorem rangeEnd_bounds (r : Side) (n : Nat) (e : Int) (h : rangeEnd r n = some e) :
    0 ≤ e ∧ e ≤ n := by
  cases r with
  | cont => cases h; simp
  | some v =>
    simp only [rangeEnd] at h
    split at h
    · cases h
    · split at h <;> cases h <;> omega

theorem tryIntoRange_some_bounds (b : UserBounds) (n s e : Nat)
    (h : b.tryIntoRange n = some (s, e)) : e ≤ n ∧ (b.l ≠ .some 0 → s < e) := by
  unfold UserBounds.tryIntoRange at h
  split at h
  · cases h
  · rename_i s' hs
    split at h
    · cases h
    · rename_i e' he
      obtain ⟨s1, s2, s3⟩ := rangeStart_bounds _ _ _ hs
      obtain ⟨e1, e2⟩ := rangeEnd_bounds _ _ _ he
      split at h
      · cases h
      · cases h
        exact ⟨by omega, fun h0 => by have := s3 h0; omega⟩

theorem tryIntoRange_bounds (b : UserBounds) (n s e : Nat) (hz : b.l ≠ .some 0)
    (h : b.tryIntoRange n = some (s, e)) :
    s < e ∧ e ≤ n :=
  ⟨(tryIntoRange_some_bounds b n s e h).2 hz, (tryIntoRange_some_bounds b n s e h).1⟩

theorem splitOnChar_ne_nil (c : Char) (s : List Char) : splitOnChar c s ≠ [] := by
  cases s with
  | nil => simp [splitOnChar]
  | cons x t =>
    unfold splitOnChar
    split
    · simp
    · split <;> simp

theorem mem_boundsOnly_iff {l : List BoF} {b : UserBounds} : b ∈ boundsOnly l ↔ BoF.bound b ∈ l := by
  induction l with
  | nil => simp [boundsOnly]
  | cons x t ih => cases x <;> simp [boundsOnly, ih]

theorem bound_mem_flatMap {P : UserBounds → Prop} (f : BoF → List BoF) (l : List BoF)
    (h : ∀ x ∈ l, ∀ b, BoF.bound b ∈ f x → P b) : ∀ b, BoF.bound b ∈ l.flatMap f → P b := by
  intro b hb
  obtain ⟨x, hx, hbx⟩ := List.mem_flatMap.1 hb
  exact h x hx b hbx

theorem boundsOnly_map_bound (bs : List UserBounds) : boundsOnly (bs.map .bound) = bs := by
  induction bs with
  | nil => rfl
  | cons b t ih => simp [boundsOnly, ih]

theorem boundsOnly_append (a b : List BoF) : boundsOnly (a ++ b) = boundsOnly a ++ boundsOnly b := by
  induction a with
  | nil => rfl
  | cons x t ih => cases x <;> simp [boundsOnly, ih]

theorem countBounds_map_bound (l : List UserBounds) : countBounds (l.map .bound) = l.length := by
  induction l with
  | nil => rfl
  | cons _ _ ih => simp [countBounds, ih]

theorem markLast_none (l : List BoF) : markLast l = none ↔ boundsOnly l = [] := by
  induction l with
  | nil => simp [markLast, boundsOnly]
  | cons x t ih =>
    cases x with
    | filler f => simp [markLast, boundsOnly, ih]
    | bound b =>
      simp only [markLast, boundsOnly]
      cases markLast t <;> simp

theorem countBounds_eq_length_boundsOnly : ∀ l : List BoF, countBounds l = (boundsOnly l).length
  | [] => rfl
  | .filler _ :: t => countBounds_eq_length_boundsOnly t
  | .bound _ :: t => congrArg (· + 1) (countBounds_eq_length_boundsOnly t)

theorem countBounds_eq_zero_iff (l : List BoF) : countBounds l = 0 ↔ boundsOnly l = [] := by
  rw [countBounds_eq_length_boundsOnly, List.length_eq_zero_iff]

theorem boundsOnly_isEmpty_iff (l : List BoF) : (boundsOnly l).isEmpty = (countBounds l == 0) := by
  rw [countBounds_eq_length_boundsOnly]; cases boundsOnly l <;> rfl

theorem countBounds_eq_zero_of_markLast_none (l : List BoF) (h : markLast l = none) :
    countBounds l = 0 := by
  rw [countBounds_eq_length_boundsOnly, (markLast_none l).1 h]; rfl

theorem markLast_eq_some {l l' : List BoF} (h : markLast l = some l') :
    ∃ a b f, l = a ++ .bound b :: f ∧ boundsOnly f = [] ∧
      l' = a ++ .bound { b with isLast := true } :: f := by
  induction l generalizing l' with
  | nil => cases h
  | cons x t ih =>
    cases hm : markLast t with
    | some t' =>
      obtain ⟨a, b, f, rfl, hf, rfl⟩ := ih hm
      refine ⟨x :: a, b, f, rfl, hf, ?_⟩
      cases x <;> simp only [markLast, hm] at h <;> cases h <;> rfl
    | none =>
      cases x with
      | filler g => simp only [markLast, hm] at h; cases h
      | bound b =>
        simp only [markLast, hm] at h
        cases h
        exact ⟨[], b, t, rfl, (markLast_none t).1 hm, rfl⟩

theorem markLast_mem (l l' : List BoF) (h : markLast l = some l') : ∀ x ∈ l',
    x ∈ l ∨ ∃ b, BoF.bound b ∈ l ∧ x = .bound { b with isLast := true } := by
  obtain ⟨a, b, f, rfl, _, rfl⟩ := markLast_eq_some h
  intro x hx
  simp only [List.mem_append, List.mem_cons] at hx ⊢
  rcases hx with hx | rfl | hx
  · exact .inl (.inl hx)
  · exact .inr ⟨b, .inr (.inl rfl), rfl⟩
  · exact .inl (.inr (.inr hx))

theorem fromVec_ok {l : List BoF} {ubl : UserBoundsList} (h : fromVec l = .ok ubl) :
    markLast l = some ubl.list ∧ ubl.lastInteresting =
      (if isSortable l then rightmostBound none (boundsOnly l) else none).getD .cont := by
  unfold fromVec at h
  cases hm : markLast l with
  | none => rw [hm] at h; cases h
  | some l' => rw [hm] at h; cases h; exact ⟨rfl, rfl⟩

theorem fromVec_panic_iff (l : List BoF) : fromVec l = .panic ↔ boundsOnly l = [] := by
  rw [← markLast_none]
  unfold fromVec
  cases markLast l <;> simp

theorem fromVec_ne_panic (l : List BoF) (h : boundsOnly l ≠ []) : fromVec l ≠ .panic :=
  fun e => h ((fromVec_panic_iff l).1 e)

theorem fromVec_ne_fail (l : List BoF) : fromVec l ≠ .fail := by
  unfold fromVec
  cases markLast l <;> simp

theorem scanStep_lbrace (st : ScanSt) :
    scanStep '{' st =
      if st.inside then none else some { inside := true, part := [], bof := st.pushFiller } := by
  rw [scanStep, if_neg (fun h => absurd h.1 (by decide)), if_pos rfl]

theorem scanStep_rbrace (st : ScanSt) :
    scanStep '}' st =
      if st.inside then
        (parseAll (splitOnChar ',' st.part.reverse)).map fun bs =>
          { inside := false, part := [], bof := (bs.map BoF.bound).reverse ++ st.bof }
      else none := by
  unfold scanStep
  cases st.inside
  · rfl
  · rw [if_neg (fun h => absurd h.2 (by decide)), if_neg (by decide), if_pos rfl, if_pos rfl]
    cases parseAll (splitOnChar ',' st.part.reverse) <;> rfl

theorem scanStep_other {w : Char} (h1 : w ≠ '{') (h2 : w ≠ '}') (st : ScanSt) :
    scanStep w st = some { st with part := w :: st.part } := by
  rw [scanStep, if_neg (fun h => h2 h.1), if_neg h1, if_neg h2]

theorem scanStep_cases (w : Char) (st : ScanSt) :
    (w = '{' ∧ scanStep w st =
      if st.inside then none else some { inside := true, part := [], bof := st.pushFiller }) ∨
    (w = '}' ∧ scanStep w st =
      if st.inside then
        (parseAll (splitOnChar ',' st.part.reverse)).map fun bs =>
          { inside := false, part := [], bof := (bs.map BoF.bound).reverse ++ st.bof }
      else none) ∨
    (w ≠ '{' ∧ w ≠ '}' ∧ scanStep w st = some { st with part := w :: st.part }) := by
  by_cases h1 : w = '{'
  · exact .inl ⟨h1, h1 ▸ scanStep_lbrace st⟩
  · by_cases h2 : w = '}'
    · exact .inr (.inl ⟨h2, h2 ▸ scanStep_rbrace st⟩)
    · exact .inr (.inr ⟨h1, h2, scanStep_other h1 h2 st⟩)

/-! at the end of the text the look-ahead of `scan` is `'x'`, which is no brace -/

theorem scan_esc (w0 : Char) (rest : List Char) (st : ScanSt) (h : w0 = '{' ∨ w0 = '}') :
    scan (w0 :: w0 :: rest) st = scan rest { st with part := w0 :: w0 :: st.part } := by
  rw [scan]
  simp only [true_and, h, if_true]

theorem scan_noesc (w0 : Char) (t : List Char) (st : ScanSt)
    (h : ¬ (w0 = t.head?.getD 'x' ∧ (w0 = '{' ∨ w0 = '}'))) :
    scan (w0 :: t) st = (scanStep w0 st).bind fun st' => scan t st' := by
  cases t with
  | nil =>
    rw [scan]
    cases scanStep w0 st with
    | none => rfl
    | some st' => rw [Option.bind_some, scan]
  | cons w1 rest =>
    rw [scan]
    simp only [List.head?_cons, Option.getD_some] at h
    rw [if_neg h]
    cases scanStep w0 st <;> rfl

theorem boundsListOfString_cases (s : List Char) :
    boundsListOfString s = .fail ∨
    ∃ l, parseBoundsList s = some l ∧ boundsOnly l ≠ [] ∧ boundsListOfString s = fromVec l := by
  unfold boundsListOfString
  by_cases hw : s.all isWhitespace = true
  · exact Or.inl (if_pos hw)
  · rw [if_neg hw]
    cases parseBoundsList s with
    | none => exact Or.inl rfl
    | some l =>
      by_cases he : (boundsOnly l).isEmpty = true
      · exact Or.inl (if_pos he)
      · exact Or.inr ⟨l, rfl, fun h => he (h ▸ rfl), if_neg he⟩

theorem boundsListOfString_ok {s : List Char} {u : UserBoundsList} (h : boundsListOfString s = .ok u) :
    ∃ l, parseBoundsList s = some l ∧ boundsOnly l ≠ [] ∧ fromVec l = .ok u := by
  rcases boundsListOfString_cases s with h' | ⟨l, hp, hne, h'⟩
  · rw [h'] at h; cases h
  · exact ⟨l, hp, hne, h' ▸ h⟩

/-- `fromVec` only sets `is_last` -/
theorem fromVec_all {P : UserBounds → Prop} (hP : ∀ b : UserBounds, P b → P { b with isLast := true })
    {l : List BoF} {u : UserBoundsList} (h : fromVec l = .ok u) (hl : ∀ b, BoF.bound b ∈ l → P b) :
    ∀ b, BoF.bound b ∈ u.list → P b := by
  intro b hb
  rcases markLast_mem l _ (fromVec_ok h).1 _ hb with h | ⟨b0, h0, e⟩
  · exact hl b h
  · cases e; exact hP b0 (hl b0 h0)

theorem parsed_fromVec (f : List Char) (u : UserBoundsList) (h : boundsListOfString f = .ok u) :
    ∃ l0, parseBoundsList f = some l0 ∧ fromVec l0 = .ok u :=
  let ⟨l0, hl0, _, hv⟩ := boundsListOfString_ok h
  ⟨l0, hl0, hv⟩

end Tuc
