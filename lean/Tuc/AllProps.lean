import Tuc.Props.C01
import Tuc.Props.EndToEnd
import Tuc.Props.TextLoops
import Tuc.Props.CutStrLit
import Tuc.Props.WholeLit
import Tuc.Props.WholeLit2
import Tuc.Props.C02
import Tuc.Props.FastLoop
import Tuc.Props.C03
import Tuc.Props.C03Refine
import Tuc.Props.C03Parsed
import Tuc.Props.C04
import Tuc.Props.StreamLoop
import Tuc.Props.C05
import Tuc.Props.C05Utf8
import Tuc.Props.C05Buffered
import Tuc.Props.LinesLoop
import Tuc.Props.C06
import Tuc.Props.ReadLoops
import Tuc.Props.C07
import Tuc.Props.C07Spec
import Tuc.Props.C08
import Tuc.Props.C08Spec
import Tuc.Props.LibLit
import Tuc.Props.C09
import Tuc.Props.C09Runs
import Tuc.Props.C10
import Tuc.Props.C10Stream
import Tuc.Props.C11
import Tuc.Props.C12
import Tuc.Props.MainLevel
import Tuc.Props.C13
import Tuc.Props.C13Runs
import Tuc.Props.C13RunsFast
import Tuc.Props.C13RunsStream
import Tuc.Props.MainLevel2
import Tuc.Props.C18Print
import Tuc.Props.C14
import Tuc.Props.StdioLit
import Tuc.Props.C15
import Tuc.Props.C15Runs
import Tuc.Props.C16
import Tuc.Props.C16Greedy
import Tuc.Props.RegexLit
import Tuc.Props.C17
import Tuc.Props.Space
import Tuc.Props.Space2
import Tuc.Props.C18
import Tuc.Props.BoundsLit
import Tuc.Props.BoundsListLit
import Tuc.Props.C19
import Tuc.Props.C19Argv
import Tuc.Props.OptLit
/-!
# Tuc.AllProps — every registered property file in ONE environment

Generated by `bin/setup` (tool/gen_audit.py `write_all_props`) from the registry above.  Importing them together shows
that no two files declare the same name (each `#print axioms` of the audits then names one theorem only) and lets
`lake build Tuc.AllProps` re-check the whole development in one go.
-/
