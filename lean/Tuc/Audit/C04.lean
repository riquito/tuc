import Tuc.Props.C04
import Tuc.Props.StreamLoop
import Tuc.Lemmas.Records
import Tuc.Lemmas.Total
/-! Axiom audit of the theorems of `Tuc.Props.C04` (generated by tool/gen_audit.py). -/
#print axioms Tuc.noAdj_tail
#print axioms Tuc.noAdj_get
#print axioms Tuc.noAdj_cons_cons
#print axioms Tuc.markLast_noAdj
#print axioms Tuc.noAdjFillers_of_noAdj
#print axioms Tuc.parseBoundsList_noAdj
#print axioms Tuc.boundsListOfString_noAdj
#print axioms Tuc.streamOptOf_noAdj
#print axioms Tuc.printBof_split
#print axioms Tuc.printBof_append
#print axioms Tuc.printBof_complete_append
#print axioms Tuc.streamStep_tag_irrel
#print axioms Tuc.streamRun_doomed
#print axioms Tuc.untag_nil
#print axioms Tuc.untag_cons
#print axioms Tuc.endOfRecord_flushed
#print axioms Tuc.streamEof_started
#print axioms Tuc.streamRun_sim
#print axioms Tuc.streamRun_untag
#print axioms Tuc.untag_eq_map
#print axioms Tuc.tag_independent
#print axioms Tuc.cutBytesStream_canonical
#print axioms Tuc.chunk_independent
#print axioms Tuc.cutBytesStream_one_read
#print axioms Tuc.chunksOfAux_flatten
#print axioms Tuc.chunksOf_flatten
#print axioms Tuc.buffer_size_irrelevant
#print axioms Tuc.short_reads_irrelevant
#print axioms Tuc.piece_empty_at_chunk_end
#print axioms Tuc.dispatch_fixedMemory_chunk_independent
#print axioms Tuc.StreamLoop.ok_nil
#print axioms Tuc.StreamLoop.printBof_at_end
#print axioms Tuc.StreamLoop.endOfRecord_at_end
#print axioms Tuc.StreamLoop.streamRun_skip_irrel
#print axioms Tuc.StreamLoop.tagSegment_append_cons
#print axioms Tuc.StreamLoop.streamRun_skip_scan_eol
#print axioms Tuc.StreamLoop.streamRun_skip_scan_none
#print axioms Tuc.StreamLoop.slice_mid
#print axioms Tuc.StreamLoop.getElem?_mid
#print axioms Tuc.StreamLoop.drop_mid
#print axioms Tuc.StreamLoop.drop_min_length
#print axioms Tuc.StreamLoop.printBofCall_mid
#print axioms Tuc.StreamLoop.matches_ne_none
#print axioms Tuc.StreamLoop.printFillerOrFallbacksLit_eq
#print axioms Tuc.StreamLoop.hasNegativeIndices_drop
#print axioms Tuc.StreamLoop.printFillerOrFallbacksCall_eq
#print axioms Tuc.StreamLoop.forBody_emptyRecord
#print axioms Tuc.StreamLoop.forBody_eol
#print axioms Tuc.StreamLoop.forBody_delim_stop_some
#print axioms Tuc.StreamLoop.forBody_delim_stop_none
#print axioms Tuc.StreamLoop.forBody_delim_cont
#print axioms Tuc.StreamLoop.remainingData_eol
#print axioms Tuc.StreamLoop.remainingData_used
#print axioms Tuc.StreamLoop.remainingData_unused
#print axioms Tuc.StreamLoop.chunkBody_eq
#print axioms Tuc.StreamLoop.chunkRest_nil
#print axioms Tuc.StreamLoop.chunkRest_break
#print axioms Tuc.StreamLoop.chunkRest_continue
#print axioms Tuc.StreamLoop.printBofCall_at_end
#print axioms Tuc.StreamLoop.chunkRest_sim
#print axioms Tuc.StreamLoop.printBof_idx
#print axioms Tuc.StreamLoop.printBofCall_idx
#print axioms Tuc.StreamLoop.Keeps.refl
#print axioms Tuc.StreamLoop.Keeps.trans
#print axioms Tuc.StreamLoop.forBody_vars
#print axioms Tuc.StreamLoop.forLoop_vars
#print axioms Tuc.StreamLoop.remainingData_vars
#print axioms Tuc.StreamLoop.chunkBody_vars
#print axioms Tuc.StreamLoop.forBody_currField
#print axioms Tuc.StreamLoop.forLoop_currField
#print axioms Tuc.StreamLoop.chunkBody_currField
#print axioms Tuc.StreamLoop.consume_cons
#print axioms Tuc.StreamLoop.tagSegments_consume
#print axioms Tuc.StreamLoop.totalBytes_consume
#print axioms Tuc.StreamLoop.consume_nonempty
#print axioms Tuc.StreamLoop.consume_all
#print axioms Tuc.StreamLoop.reader_cons
#print axioms Tuc.StreamLoop.whileStep_eof
#print axioms Tuc.StreamLoop.whileStep_chunk
#print axioms Tuc.StreamLoop.whileStep_done
#print axioms Tuc.StreamLoop.whileStep_cases
#print axioms Tuc.StreamLoop.newChunk_succ
#print axioms Tuc.StreamLoop.newChunk_after_eol
#print axioms Tuc.StreamLoop.newChunk_at_eof
#print axioms Tuc.StreamLoop.newChunk_eq
#print axioms Tuc.StreamLoop.cutBytesStreamLoop_eq
#print axioms Tuc.StreamLoop.newChunk_fuel_irrelevant
#print axioms Tuc.StreamLoop.lastBoundIdx_snoc
#print axioms Tuc.StreamLoop.lastBoundIdx_get
#print axioms Tuc.StreamLoop.getLastBound_snoc_bound
#print axioms Tuc.StreamLoop.getLastBound_snoc_filler
#print axioms Tuc.StreamLoop.lastBoundRight_snoc
#print axioms Tuc.StreamLoop.getLastBound_r_rev
#print axioms Tuc.StreamLoop.getLastBound_r
#print axioms Tuc.StreamLoop.readAndCutBytesStreamLoop_eq
#print axioms Tuc.StreamLoop.streamOptOf_noNeg
#print axioms Tuc.StreamLoop.cutBytesStreamLoop_of_opt
#print axioms Tuc.StreamLoop.readAndCutBytesStreamLoop_of_opt
#print axioms Tuc.StreamLoop.memchr_none
#print axioms Tuc.StreamLoop.memchr_some
#print axioms Tuc.StreamLoop.memchr_lt
#print axioms Tuc.dispatch_fixedMemory
