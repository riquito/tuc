import Tuc.Props.C06
import Tuc.Props.ReadLoops
/-! Axiom audit of the theorems of `Tuc.Props.C06` (generated by tool/gen_audit.py). -/
#print axioms Tuc.bytes_empty
#print axioms Tuc.cutBytesLoop_no_panic
#print axioms Tuc.joinWith_nil_singletons
#print axioms Tuc.specBytes_eq_emit
#print axioms Tuc.pieceText_bytes
#print axioms Tuc.cutBytesLoop_eq_spec
#print axioms Tuc.readAndCutBytes_eq_spec
#print axioms Tuc.ReadLoops.memchr_some_lt
#print axioms Tuc.ReadLoops.memchr_none_not_mem
#print axioms Tuc.ReadLoops.readUntil_append_none
#print axioms Tuc.ReadLoops.readUntil_append_some
#print axioms Tuc.ReadLoops.rawLines_memchr_some
#print axioms Tuc.ReadLoops.rawLines_pending
#print axioms Tuc.ReadLoops.foldState_cons
#print axioms Tuc.ReadLoops.splitAt?_of_le
#print axioms Tuc.ReadLoops.whileFindByte_succ
#print axioms Tuc.ReadLoops.whileFindByte_fold
#print axioms Tuc.ReadLoops.whileFindByte_spec
#print axioms Tuc.ReadLoops.flatten_consume
#print axioms Tuc.ReadLoops.totalBytes_consume_le
#print axioms Tuc.ReadLoops.readUntilLoop_succ
#print axioms Tuc.ReadLoops.readUntilLoop_readUntil
#print axioms Tuc.ReadLoops.readUntilLoop_spec
#print axioms Tuc.ReadLoops.outerLoop_succ
#print axioms Tuc.ReadLoops.outerLoop_spec
#print axioms Tuc.ReadLoops.trimRecordSlice_snoc
#print axioms Tuc.ReadLoops.trimRecordSlice_not_mem
#print axioms Tuc.ReadLoops.stripSuffix_not_mem
#print axioms Tuc.ReadLoops.forByteRecordLoop_eq
#print axioms Tuc.ReadLoops.records_not_mem
#print axioms Tuc.ReadLoops.trimmed_of_line
#print axioms Tuc.ReadLoops.fold_congr_map
#print axioms Tuc.ReadLoops.fold_trimmed
#print axioms Tuc.ReadLoops.cutStrClosure_not_mem
#print axioms Tuc.ReadLoops.cutRecords_cons
#print axioms Tuc.ReadLoops.foldRecords_cutStrClosure
#print axioms Tuc.ReadLoops.totalBytes_lt_fuelFor
#print axioms Tuc.ReadLoops.forByteRecordWithTerminatorLoop_eq
#print axioms Tuc.ReadLoops.forByteRecordLoop_eq_records
#print axioms Tuc.ReadLoops.outerLoop_fuel_irrelevant
#print axioms Tuc.ReadLoops.readAndCutStrLoop_eq
#print axioms Tuc.ReadLoops.readAndCutStrLoop_chunking
#print axioms Tuc.ReadLoops.readAndCutStrLoop_safe
#print axioms Tuc.ReadLoops.readToEndLoop_succ
#print axioms Tuc.ReadLoops.readToEndLoop_spec
#print axioms Tuc.ReadLoops.totalBytes_eq_length_flatten
#print axioms Tuc.ReadLoops.readBytesToEndLit_eq
#print axioms Tuc.ReadLoops.tryForEach_cutBytesBody
#print axioms Tuc.ReadLoops.cutBytesLit_eq
#print axioms Tuc.ReadLoops.readAndCutBytesLoop_eq
#print axioms Tuc.ReadLoops.readAndCutBytesLoop_chunking
#print axioms Tuc.ReadLoops.readAndCutBytesLoop_safe
