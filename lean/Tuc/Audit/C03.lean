import Tuc.Props.C03
import Tuc.Props.C03Refine
import Tuc.Props.C03Parsed
import Tuc.Lemmas.Bounds
import Tuc.Lemmas.Split
import Tuc.Lemmas.Total
/-! Axiom audit of the theorems of `Tuc.Props.C03` (generated by tool/gen_audit.py). -/
#print axioms Tuc.streamOptOf_domain
#print axioms Tuc.stream_empty_record
#print axioms Tuc.stream_skip_silent
#print axioms Tuc.lastBoundRight_bound
#print axioms Tuc.fwd_of_noBounds
#print axioms Tuc.fwd_lastR
#print axioms Tuc.matches_pos
#print axioms Tuc.matches_before
#print axioms Tuc.matches_within
#print axioms Tuc.fieldsRun_filler
#print axioms Tuc.resolve_absent
#print axioms Tuc.emitPlain_nil
#print axioms Tuc.emitPlain_filler
#print axioms Tuc.emitPlain_bound
#print axioms Tuc.joiner_flag
#print axioms Tuc.pfof_absent
#print axioms Tuc.resolve_present
#print axioms Tuc.le_hiN
#print axioms Tuc.printBof_whole_field
#print axioms Tuc.fieldsRun_jump
#print axioms Tuc.fieldsRun_jump_end
#print axioms Tuc.runText_nil
#print axioms Tuc.runText_join
#print axioms Tuc.runText_take_succ
#print axioms Tuc.lif_of_pending
#print axioms Tuc.printBof_before
#print axioms Tuc.printBof_within
#print axioms Tuc.lif_beyond
#print axioms Tuc.fields_refine
#print axioms Tuc.CfgStream.ok
#print axioms Tuc.recRun_eq_specRecord
#print axioms Tuc.splitAux_single_length
#print axioms Tuc.splitFields_single_length
#print axioms Tuc.stream_refines_spec_core
#print axioms Tuc.noSharedField_cons
#print axioms Tuc.fwd_of_checks
#print axioms Tuc.markLast_id
#print axioms Tuc.stream_refines_spec
#print axioms Tuc.stream_refines_spec_of_parsed
#print axioms Tuc.dispatch_fixedMemory_eq_spec
#print axioms Tuc.mem_boundsOnly_iff
#print axioms Tuc.countBounds_eq_zero_iff
#print axioms Tuc.drop_eq_cons
#print axioms Tuc.forwardBoundsOf_facts
#print axioms Tuc.streamOptOf_facts
