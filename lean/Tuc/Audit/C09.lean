import Tuc.Props.C09
import Tuc.Props.C09Runs
/-! Axiom audit of the theorems of `Tuc.Props.C09` (generated by tool/gen_audit.py). -/
#print axioms Tuc.rangeEnd_mirror
#print axioms Tuc.rangeStart_mirror
#print axioms Tuc.tryIntoRange_mirror
#print axioms Tuc.tryIntoRange_single
#print axioms Tuc.minus_one_is_last
#print axioms Tuc.minus_n_is_first
#print axioms Tuc.outputBof_mirror
#print axioms Tuc.outputLoop_mirror
#print axioms Tuc.fastOutputLoop_mirror
#print axioms Tuc.cutBytesLoop_mirror
#print axioms Tuc.resolveSide_mirror
#print axioms Tuc.resolve_mirror'
#print axioms Tuc.resolve_mirror
#print axioms Tuc.MirrorList.sameParts
#print axioms Tuc.emit_mirror
#print axioms Tuc.MirrorSide.nonzero
#print axioms Tuc.MirrorList.allNonzero
#print axioms Tuc.MirrorList.lastMarked
#print axioms Tuc.MirrorSide.eq_of_notNeg
#print axioms Tuc.MirrorList.eq_of_noNeg
#print axioms Tuc.mirrorSide_mirror
#print axioms Tuc.mirrorBofs_mirrorList
#print axioms Tuc.MirrorList.of_eq
#print axioms Tuc.specBody_mirror
#print axioms Tuc.specRecord_mirror
#print axioms Tuc.specRun_mirror
#print axioms Tuc.specLines_mirror
#print axioms Tuc.specBytes_mirror
#print axioms Tuc.readAndCutStr_mirror
#print axioms Tuc.fastOptOf_with_bounds
#print axioms Tuc.readAndCutFast_mirror
#print axioms Tuc.MirrorList.forwardOnly_domain
#print axioms Tuc.readAndCutLines_mirror
#print axioms Tuc.cutBytesLoop_congr
#print axioms Tuc.readAndCutBytes_mirror
#print axioms Tuc.readAndCutStr_mirror_of_parsed
#print axioms Tuc.readAndCutFast_mirror_of_parsed
