import Tuc.Props.C02
import Tuc.Props.FastLoop
import Tuc.Lemmas.FastLoop
import Tuc.Lemmas.FastScan
/-! Axiom audit of the theorems of `Tuc.Props.C02` (generated by tool/gen_audit.py). -/
#print axioms Tuc.fastOptOf_isSome_iff
#print axioms Tuc.StartsDescribe.length
#print axioms Tuc.StartsDescribe.getElem?
#print axioms Tuc.outputParts_eq_outputBof
#print axioms Tuc.startsDescribe_full
#print axioms Tuc.startsDescribe_take
#print axioms Tuc.fastScan_full
#print axioms Tuc.noStop_cases
#print axioms Tuc.fastScan_earlyStop
#print axioms Tuc.fastScan_describes
#print axioms Tuc.fastOutputLoop_eq
#print axioms Tuc.outputBof_take
#print axioms Tuc.cutStrCore_fast
#print axioms Tuc.fastAfterTrim_eq
#print axioms Tuc.cutStrFastLane_eq_cutStr
#print axioms Tuc.readAndCutFast_eq_readAndCutStr
#print axioms Tuc.cutStrFastLaneLoop_eq
#print axioms Tuc.cutStrFastLaneLoop_no_panic
#print axioms Tuc.cutStrFastLaneLoop_refines
#print axioms Tuc.cutStrFastLaneLoop_overflow
#print axioms Tuc.readAndCutTextAsBytesLoop_eq
#print axioms Tuc.readAndCutTextAsBytesLoop_no_panic
#print axioms Tuc.readAndCutTextAsBytesLoop_of_parsed
#print axioms Tuc.cutStrFastLane_safe
#print axioms Tuc.fastRecords_safe
#print axioms Tuc.cutStrFastLaneCore_eq
#print axioms Tuc.fastOptOf_facts
