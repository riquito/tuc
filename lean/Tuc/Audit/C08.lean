import Tuc.Props.C08
import Tuc.Props.C08Spec
import Tuc.Props.LibLit
import Tuc.Lemmas.Bounds
/-! Axiom audit of the theorems of `Tuc.Props.C08` (generated by tool/gen_audit.py). -/
#print axioms Tuc.jsonDecodeBody_quote
#print axioms Tuc.jsonDecodeBody_raw
#print axioms Tuc.jsonDecodeBody_simple
#print axioms Tuc.jsonDecodeBody_u
#print axioms Tuc.hexDigitLower_spec
#print axioms Tuc.jsonHex4_lower
#print axioms Tuc.utf8OfBmp_ascii
#print axioms Tuc.jsonEscapeByte_cases
#print axioms Tuc.jsonDecodeBody_escape
#print axioms Tuc.jsonDecodeBody_flatMap
#print axioms Tuc.jsonDecodeString_jsonString
#print axioms Tuc.jsonString_injective
#print axioms Tuc.Spec.joinWith_cons
#print axioms Tuc.Spec.joinWith_eq_intercalate
#print axioms Tuc.Spec.joinWith_comma_ge
#print axioms Tuc.jsonSkipWs_of_not_ws
#print axioms Tuc.jsonString_eq_cons
#print axioms Tuc.jsonSkipWs_jsonString
#print axioms Tuc.jsonDecodeElems_tail
#print axioms Tuc.jsonDecodeArray_cons
#print axioms Tuc.json_array_roundtrip_ws
#print axioms Tuc.json_array_roundtrip
#print axioms Tuc.jsonEscapeByte_ge
#print axioms Tuc.jsonString_no_raw_control
#print axioms Tuc.jsonFirstUnescapedQuote_quote
#print axioms Tuc.jsonFirstUnescapedQuote_esc
#print axioms Tuc.jsonFirstUnescapedQuote_raw
#print axioms Tuc.jsonFirstUnescapedQuote_escape
#print axioms Tuc.jsonFirstUnescapedQuote_flatMap
#print axioms Tuc.jsonString_quotes
#print axioms Tuc.outputBof_json
#print axioms Tuc.outputLoop_json
#print axioms Tuc.emitRecord_json
#print axioms Tuc.emitRecord_json_decodes
#print axioms Tuc.json_run_eq_spec
#print axioms Tuc.json_run_eq_spec_of_parsed
#print axioms Tuc.cutStr_eq_spec_any_json
#print axioms Tuc.piece_single_aux
#print axioms Tuc.pieceText_single
#print axioms Tuc.texts_expand
#print axioms Tuc.eq_map_bound_of_no_filler
#print axioms Tuc.emit_json_ok
#print axioms Tuc.json_record_decodes
#print axioms Tuc.LibLit.forall_byte
#print axioms Tuc.LibLit.getElem?_tabulate
#print axioms Tuc.LibLit.ESCAPE_length
#print axioms Tuc.LibLit.escapeOf_high
#print axioms Tuc.LibLit.ESCAPE_eq
#print axioms Tuc.LibLit.ESCAPE_getElem
#print axioms Tuc.LibLit.escapeOf_spec
#print axioms Tuc.LibLit.isUtf8CharBoundary_eq
#print axioms Tuc.LibLit.isUtf8CharBoundary_ascii
#print axioms Tuc.LibLit.indexThen_ESCAPE
#print axioms Tuc.LibLit.run_panic_seq
#print axioms Tuc.LibLit.escSafe_cons
#print axioms Tuc.LibLit.isCharBoundary_append
#print axioms Tuc.LibLit.fragment_step
#print axioms Tuc.LibLit.contentsLoop_spec
#print axioms Tuc.LibLit.lt_0x80_of
#print axioms Tuc.LibLit.charLen_head
#print axioms Tuc.LibLit.escSafe_append_of_zero
#print axioms Tuc.LibLit.escSafe_of_valid
#print axioms Tuc.LibLit.formatEscapedStrContents_spec
#print axioms Tuc.LibLit.formatEscapedStrLit_of_escSafe
#print axioms Tuc.LibLit.formatEscapedStrLit_panics
#print axioms Tuc.LibLit.formatEscapedStrLit_cases
#print axioms Tuc.LibLit.formatEscapedStrLit_eq
#print axioms Tuc.LibLit.validUtf8_ascii
#print axioms Tuc.LibLit.jsonEscapeByte_ascii
#print axioms Tuc.LibLit.jsonEscapeByte_high
#print axioms Tuc.LibLit.flatMap_high
#print axioms Tuc.LibLit.flatMap_escape_valid
#print axioms Tuc.LibLit.jsonString_valid
#print axioms Tuc.LibLit.toVecLit_eq
#print axioms Tuc.LibLit.toStringLit_eq
#print axioms Tuc.LibLit.UTF8_CHAR_WIDTH_length
#print axioms Tuc.LibLit.UTF8_CHAR_WIDTH_eq
#print axioms Tuc.LibLit.utf8CharWidth_eq
#print axioms Tuc.LibLit.notCont_eq
#print axioms Tuc.LibLit.lane_eq
#print axioms Tuc.LibLit.secondOf3_eq
#print axioms Tuc.LibLit.secondOf4_eq
#print axioms Tuc.LibLit.V.bind_ok
#print axioms Tuc.LibLit.V.bind_err
#print axioms Tuc.LibLit.next_eq
#print axioms Tuc.LibLit.readRow_spec
#print axioms Tuc.LibLit.ite_notCont
#print axioms Tuc.LibLit.charStep_spec
#print axioms Tuc.LibLit.AllAscii.refl
#print axioms Tuc.LibLit.AllAscii.trans
#print axioms Tuc.LibLit.AllAscii.single
#print axioms Tuc.LibLit.containsNonascii_false
#print axioms Tuc.LibLit.blockLoop_spec
#print axioms Tuc.LibLit.asciiTail_spec
#print axioms Tuc.LibLit.asciiStep_spec
#print axioms Tuc.LibLit.valid_take_ascii
#print axioms Tuc.LibLit.valid_up_to_unique
#print axioms Tuc.LibLit.mainLoop_spec
#print axioms Tuc.LibLit.blocksEnd_ok
#print axioms Tuc.LibLit.runUtf8ValidationLit_spec
#print axioms Tuc.LibLit.runUtf8ValidationLit_ok_iff
#print axioms Tuc.LibLit.runUtf8ValidationLit_total
#print axioms Tuc.LibLit.runUtf8ValidationLit_align
#print axioms Tuc.LibLit.runUtf8ValidationLit_isOk_align
#print axioms Tuc.LibLit.fromUtf8IsOk_eq
#print axioms Tuc.LibLit.fromUtf8Lit_ok
#print axioms Tuc.LibLit.writeAsJsonLit_eq
#print axioms Tuc.boundsOnly_append
