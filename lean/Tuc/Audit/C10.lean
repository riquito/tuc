import Tuc.Props.C10
import Tuc.Props.C10Stream
/-! Axiom audit of the theorems of `Tuc.Props.C10` (generated by tool/gen_audit.py). -/
#print axioms Tuc.cutStr_scratch_irrelevant
#print axioms Tuc.cutRecords_scratch_irrelevant
#print axioms Tuc.cutStrFastLane_scratch_irrelevant
#print axioms Tuc.fastRecords_scratch_irrelevant
#print axioms Tuc.records_append
#print axioms Tuc.cutRecords_append
#print axioms Tuc.fastRecords_append
#print axioms Tuc.readAndCutStr_append
#print axioms Tuc.readAndCutStr_append_of_fail
#print axioms Tuc.readAndCutFast_append
#print axioms Tuc.readAndCutFast_append_of_fail
#print axioms Tuc.printBof_of_none
#print axioms Tuc.printBof_of_bound
#print axioms Tuc.printBof_of_filler
#print axioms Tuc.printBof_bound_none
#print axioms Tuc.printBof_bound_ne_none
#print axioms Tuc.printBof_bound_false
#print axioms Tuc.printBof_none_indep
#print axioms Tuc.streamStep_skip
#print axioms Tuc.streamStep_eol
#print axioms Tuc.streamStep_delim_none
#print axioms Tuc.streamStep_delim_some
#print axioms Tuc.streamStep_ord_false
#print axioms Tuc.streamStep_ord_true_none
#print axioms Tuc.streamStep_ord_true_some
#print axioms Tuc.streamStep_piece
#print axioms Tuc.streamStep_eol_state
#print axioms Tuc.streamRun_cons
#print axioms Tuc.streamRun_skip_append
#print axioms Tuc.streamRun_skip_eol
#print axioms Tuc.streamEof_init
#print axioms Tuc.untagged_nil
#print axioms Tuc.untagged_cons
#print axioms Tuc.untagged_append
#print axioms Tuc.untagged_noeol
#print axioms Tuc.tagSegment_cons
#print axioms Tuc.tagSegments_cons
#print axioms Tuc.tagSegments_append
#print axioms Tuc.tagSegment_map_fst
#print axioms Tuc.tagSegments_map_fst
#print axioms Tuc.streamRun_append
#print axioms Tuc.stream_state_reset
#print axioms Tuc.streamRun_append_eol
#print axioms Tuc.cutBytesStream_append
#print axioms Tuc.cutBytesStream_append_of_fail
#print axioms Tuc.cutBytesStream_append_of_ok
#print axioms Tuc.streamRunPrefix_fail_final
