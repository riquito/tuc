import Tuc.Props.C15
import Tuc.Props.C15Runs
/-! Axiom audit of the theorems of `Tuc.Props.C15` (generated by tool/gen_audit.py). -/
#print axioms Tuc.complement_eq_spec
#print axioms Tuc.complementList_order
#print axioms Tuc.complement_full
#print axioms Tuc.complement_empty_fails
#print axioms Tuc.emitRecord_complement_empty
#print axioms Tuc.complementOf_with
#print axioms Tuc.ComplementOf.complemented
#print axioms Tuc.ComplementOf.rewritten
#print axioms Tuc.ComplementOf.specBody
#print axioms Tuc.specBody_complement
#print axioms Tuc.specRecord_complement
#print axioms Tuc.specRecord_complement_empty
#print axioms Tuc.complementBound_eq_nil_iff
#print axioms Tuc.complement_empty_iff
#print axioms Tuc.specLines_complement
#print axioms Tuc.specLines_eraseLast
#print axioms Tuc.marked_complement
#print axioms Tuc.sameButBofs_rewritten
#print axioms Tuc.specRun_complement
#print axioms Tuc.specLines_complement_marked
#print axioms Tuc.readAndCutStr_complement
#print axioms Tuc.readAndCutStr_complement_empty
#print axioms Tuc.readAndCutLines_complement
#print axioms Tuc.mapBounds_plain
#print axioms Tuc.complementBound_resolves
#print axioms Tuc.complement_plain_resolves
