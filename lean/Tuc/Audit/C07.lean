import Tuc.Props.C07
import Tuc.Props.C07Spec
/-! Axiom audit of the theorems of `Tuc.Props.C07` (generated by tool/gen_audit.py). -/
#print axioms Tuc.isCont_ge
#print axioms Tuc.charLen_eq
#print axioms Tuc.charLen_eq_some
#print axioms Tuc.second_ge
#print axioms Tuc.utf8Row_spec
#print axioms Tuc.utf8Row_of_cont
#print axioms Tuc.utf8Row_ge
#print axioms Tuc.passes_length
#print axioms Tuc.passes_append
#print axioms Tuc.passes_mem
#print axioms Tuc.charLen_bounds
#print axioms Tuc.charLen_append
#print axioms Tuc.charLen_take
#print axioms Tuc.utf8CharsFuel_fuel_eq
#print axioms Tuc.utf8CharsFuel_fuel
#print axioms Tuc.utf8Chars_cons
#print axioms Tuc.utf8Chars_nil
#print axioms Tuc.utf8CharsFuel_sound
#print axioms Tuc.utf8Chars_flatten
#print axioms Tuc.utf8Chars_each
#print axioms Tuc.utf8Chars_of_chars
#print axioms Tuc.utf8Chars_iff
#print axioms Tuc.utf8Chars_append
#print axioms Tuc.validUtf8_iff
#print axioms Tuc.validUtf8_append
#print axioms Tuc.validUtf8_flatten_of_chars
#print axioms Tuc.validUtf8_char_append
#print axioms Tuc.validUtf8_char
#print axioms Tuc.validUtf8_of_charLen
#print axioms Tuc.charLen_of_valid
#print axioms Tuc.validUtf8_induction
#print axioms Tuc.validUtf8_append_left
#print axioms Tuc.charLen_ascii
#print axioms Tuc.charLen_ascii_or_high
#print axioms Tuc.validUtf8_split_ascii
#print axioms Tuc.validUtf8_records
#print axioms Tuc.EOL.byte_ascii
#print axioms Tuc.rangesOfChars_length
#print axioms Tuc.rangesBetweenMatches_boundaries
#print axioms Tuc.fill_charMatches
#print axioms Tuc.charFields
#print axioms Tuc.rangesOfChars_gsep
#print axioms Tuc.chars_gsep
#print axioms Tuc.slice_rangesOfChars
#print axioms Tuc.piece_of_chars
#print axioms Tuc.charRange_slice
#print axioms Tuc.charRange_valid
#print axioms Tuc.boundariesFrom_head?
#print axioms Tuc.boundariesFrom_getLast?
#print axioms Tuc.trimRegex_charMatches
#print axioms Tuc.cutStrCore_chars
#print axioms Tuc.tokenizeChars_eq
#print axioms Tuc.pieceText_chars
#print axioms Tuc.refinesText_chars
#print axioms Tuc.specSep_chars
#print axioms Tuc.specLine_chars
#print axioms Tuc.specRecord_chars
#print axioms Tuc.specRecord_chars_empty
#print axioms Tuc.chars_record_eq_spec_gen
#print axioms Tuc.chars_record_eq_spec
#print axioms Tuc.chars_json_record_eq_spec
#print axioms Tuc.chars_run_eq_spec_gen
#print axioms Tuc.chars_run_eq_spec
#print axioms Tuc.chars_json_run_eq_spec
#print axioms Tuc.chars_run_eq_spec_of_parsed
#print axioms Tuc.validUtf8_nil
#print axioms Tuc.Run.valid_pre
#print axioms Tuc.Run.valid_seq
#print axioms Tuc.emit_valid
#print axioms Tuc.pieceText_chars_valid
#print axioms Tuc.validUtf8_eol
#print axioms Tuc.specRecord_chars_valid
#print axioms Tuc.chars_output_valid
