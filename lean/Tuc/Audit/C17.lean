import Tuc.Props.C17
import Tuc.Props.Space
import Tuc.Props.Space2
import Tuc.Lemmas.FastLoop
import Tuc.Lemmas.Records
/-! Axiom audit of the theorems of `Tuc.Props.C17` (generated by tool/gen_audit.py). -/
#print axioms Tuc.retained_zero_at_chunk_end
#print axioms Tuc.retained_step
#print axioms Tuc.Space.readLineWithEolI_eq
#print axioms Tuc.Space.readLineWithEolI_erase
#print axioms Tuc.Space.readWhileI_erase
#print axioms Tuc.Space.cutLinesForwardOnlyLoopI_erase
#print axioms Tuc.Space.rawLines_nil
#print axioms Tuc.Space.reader_cases
#print axioms Tuc.Space.peak_zero
#print axioms Tuc.Space.peak_nil
#print axioms Tuc.Space.peak_cons
#print axioms Tuc.Space.readWhileI_peak
#print axioms Tuc.Space.linesPeak_eq
#print axioms Tuc.Space.cutLinesForwardOnlyLoopI_peak
#print axioms Tuc.Space.execLines_le
#print axioms Tuc.Space.cutLinesForwardOnlyLoopI_peak_le
#print axioms Tuc.Space.maxLen_le
#print axioms Tuc.Space.maxLen_le_map
#print axioms Tuc.Space.longestLine_le_longestRecord
#print axioms Tuc.Space.longestLine_le_length
#print axioms Tuc.Space.cutLinesForwardOnlyLoopI_peak_le_record
#print axioms Tuc.Space.getLast?_append_of_ne_nil
#print axioms Tuc.Space.maxLen_append
#print axioms Tuc.Space.execLines_append
#print axioms Tuc.Space.rawLines_append
#print axioms Tuc.Space.split_replicate
#print axioms Tuc.Space.maxLen_replicate_le
#print axioms Tuc.Space.longestLine_replicate_le
#print axioms Tuc.Space.execLines_replicate
#print axioms Tuc.Space.cutLinesForwardOnlyLoopI_replicate
#print axioms Tuc.Space.scanForI_cons
#print axioms Tuc.Space.scanForI_spec
#print axioms Tuc.Space.scanForI_erase
#print axioms Tuc.Space.afterScan_fields
#print axioms Tuc.Space.afterScanI_eq
#print axioms Tuc.Space.afterScanI_erase
#print axioms Tuc.Space.coreI_spec
#print axioms Tuc.Space.cutStrFastLaneLoopI_eq
#print axioms Tuc.Space.cutStrFastLaneLoopI_spec
#print axioms Tuc.Space.cutStrFastLaneLoopI_erase
#print axioms Tuc.Space.cutStrFastLaneLoopI_peak
#print axioms Tuc.Space.recFields_le
#print axioms Tuc.Space.recFields_le_stop
#print axioms Tuc.Space.cutStrFastLaneLoopI_fields_le
#print axioms Tuc.Space.forByteRecordI_erase
#print axioms Tuc.Space.readAndCutTextAsBytesLoopI_eq
#print axioms Tuc.Space.readAndCutTextAsBytesLoopI_erase
#print axioms Tuc.Space.cutStrFastLaneLoop_scratch
#print axioms Tuc.Space.execMax_le_maxOf
#print axioms Tuc.Space.maxOf_le
#print axioms Tuc.Space.maxOf_mono
#print axioms Tuc.Space.maxOf_length
#print axioms Tuc.Space.forByteRecordI_peak
#print axioms Tuc.Space.readAndCutTextAsBytesLoopI_peak
#print axioms Tuc.Space.readAndCutTextAsBytesLoopI_fields_le
#print axioms Tuc.Space.maxDelims_le_longestRecord
#print axioms Tuc.Space.readAndCutTextAsBytesLoopI_fields_le_record
#print axioms Tuc.Space.readAndCutTextAsBytesLoopI_fields_le_stop
#print axioms Tuc.Space.readAndCutTextAsBytesLoopI_record_le
#print axioms Tuc.Space.exec_append
#print axioms Tuc.Space.exec_replicate
#print axioms Tuc.Space.execMax_replicate
#print axioms Tuc.Space.records_replicate
#print axioms Tuc.Space.readAndCutTextAsBytesLoopI_replicate
#print axioms Tuc.Space.chunkBody_ok
#print axioms Tuc.Space.newChunkI_erase
#print axioms Tuc.Space.cutBytesStreamLoopI_erase
#print axioms Tuc.Space.ofScalars_scalars
#print axioms Tuc.Space.scalars_ofScalars
#print axioms Tuc.Space.Obs.Ok.mono
#print axioms Tuc.Space.maxLen_consume
#print axioms Tuc.Space.fillBuf_le_maxLen
#print axioms Tuc.Space.newChunkI_ok
#print axioms Tuc.Space.cutBytesStreamLoopI_ok
#print axioms Tuc.Space2.readTurn_length_le
#print axioms Tuc.Space2.readUntilLoopI_turn
#print axioms Tuc.Space2.readUntilLoopI_spec
#print axioms Tuc.Space2.readUntilLoopI_erase
#print axioms Tuc.Space2.outerLoopI_succ
#print axioms Tuc.Space2.Sim.refl
#print axioms Tuc.Space2.whileFindByte_sim
#print axioms Tuc.Space2.outerLoopI_erase
#print axioms Tuc.Space2.forByteRecordWithTerminatorLoopI_erase
#print axioms Tuc.Space2.forByteRecordLoopI_erase
#print axioms Tuc.Space2.afterWhileI_spec
#print axioms Tuc.Space2.outerLoopI_spec
#print axioms Tuc.Space2.findIterAux_length_le
#print axioms Tuc.Space2.findIter_length_le
#print axioms Tuc.Space2.rangesBetweenGreedy_length_le
#print axioms Tuc.Space2.fillWithFieldsLocations_length_le
#print axioms Tuc.Space2.fillWithFieldsLocationsGreedy_length_le
#print axioms Tuc.Space2.fillWithFieldsLocationsUsingRegex_length_le
#print axioms Tuc.Space2.compressAux_length_le
#print axioms Tuc.Space2.compressDelimiter_length_le
#print axioms Tuc.Space2.replaceMatches_length_le
#print axioms Tuc.Space2.sortedMatches_of_matchesIn
#print axioms Tuc.Space2.le_wide
#print axioms Tuc.Space2.wide_mono
#print axioms Tuc.Space2.replaceAll_length_le
#print axioms Tuc.Space2.trimLiteral_length_le
#print axioms Tuc.Space2.trimRegex_length_le
#print axioms Tuc.Space2.trimOf_length_le
#print axioms Tuc.Space2.optBagOK_of_none
#print axioms Tuc.Space2.strictMatches_length_le
#print axioms Tuc.Space2.bagOK_of_re
#print axioms Tuc.Space2.replaceMatches_bag_le
#print axioms Tuc.Space2.maybeReplaceDelimiterLitI_spec
#print axioms Tuc.Space2.sliceBytes_length_le
#print axioms Tuc.Space2.fieldToPrintI_spec
#print axioms Tuc.Space2.tryForEachI_spec
#print axioms Tuc.Space2.RecPeak.le_def
#print axioms Tuc.Space2.RecPeak.ext'
#print axioms Tuc.Space2.RecPeak.sup_fields
#print axioms Tuc.Space2.RecPeak.sup_compressedLineBuf
#print axioms Tuc.Space2.RecPeak.sup_lineHolder
#print axioms Tuc.Space2.RecPeak.sup_complemented
#print axioms Tuc.Space2.RecPeak.sup_unpacked
#print axioms Tuc.Space2.RecPeak.sup_fieldToPrint
#print axioms Tuc.Space2.RecPeak.zero_sup
#print axioms Tuc.Space2.RecPeak.sup_zero
#print axioms Tuc.Space2.RecPeak.sup_assoc
#print axioms Tuc.Space2.RecPeak.sup_comm
#print axioms Tuc.Space2.RecPeak.sup_le
#print axioms Tuc.Space2.RecPeak.le_sup_left
#print axioms Tuc.Space2.RecPeak.le_sup_right
#print axioms Tuc.Space2.RecPeak.le_refl
#print axioms Tuc.Space2.RecPeak.le_trans
#print axioms Tuc.Space2.RecPeak.zero_le
#print axioms Tuc.Space2.RecPeak.sup_eq_left
#print axioms Tuc.Space2.recBound_mono
#print axioms Tuc.Space2.compressStageI_spec
#print axioms Tuc.Space2.drainTo_length_le
#print axioms Tuc.Space2.fieldsStageI_eq
#print axioms Tuc.Space2.fieldsStage_eq
#print axioms Tuc.Space2.fieldsStageI_erase
#print axioms Tuc.Space2.splitFields_length_le
#print axioms Tuc.Space2.fieldsStageI_le
#print axioms Tuc.Space2.fromVec_length
#print axioms Tuc.Space2.complementFlat_length_le
#print axioms Tuc.Space2.emitStageI_spec
#print axioms Tuc.Space2.cutStrLitI_erase
#print axioms Tuc.Space2.cutStrLitClosureI_sim
#print axioms Tuc.Space2.trimmed_sim
#print axioms Tuc.Space2.readAndCutStrWholeI_erase
#print axioms Tuc.Space2.incoming_nil
#print axioms Tuc.Space2.compressStageI_scratch
#print axioms Tuc.Space2.fieldsStageI_scratch
#print axioms Tuc.Space2.fieldsStageI_out_le
#print axioms Tuc.Space2.cutStrLitI_eq
#print axioms Tuc.Space2.cutStrLitI_scratch
#print axioms Tuc.Space2.emitBound_le
#print axioms Tuc.Space2.coreI_le
#print axioms Tuc.Space2.early_inr_length_le
#print axioms Tuc.Space2.cutStrLitI_peak_le
#print axioms Tuc.Space2.cutStrLitClosureI_not_mem
#print axioms Tuc.Space2.foldState_closure
#print axioms Tuc.Space2.readAndCutStrWholeI_peak
#print axioms Tuc.Space2.execSup_le
#print axioms Tuc.Space2.length_le_maxLen
#print axioms Tuc.Space2.readAndCutStrWholeI_cut_le
#print axioms Tuc.Space2.readAndCutStrWholeI_bytes_le
#print axioms Tuc.Space2.readAndCutStrWholeI_fields_le
#print axioms Tuc.Space2.readAndCutStrWholeI_fields_le_record
#print axioms Tuc.Space2.readAndCutStrWholeI_compressedLineBuf_le
#print axioms Tuc.Space2.readAndCutStrWholeI_cow_le
#print axioms Tuc.Space2.readAndCutStrWholeI_bounds_le
#print axioms Tuc.Space2.execSup_replicate
#print axioms Tuc.Space2.readAndCutStrWholeI_replicate
#print axioms Tuc.Space2.cutStrLitI_vectors_after
#print axioms Tuc.Space2.boundariesFrom_length
#print axioms Tuc.Space2.length_le_flatten_length
#print axioms Tuc.Space2.charMatches_length_le
#print axioms Tuc.Space2.bagOK_chars
#print axioms Tuc.Space2.optBagOK_of_program
#print axioms Tuc.Space2.optBagOK_of_compileBag
#print axioms Tuc.Space2.outerLoopI_single
#print axioms Tuc.Space2.readAndCutStrWholeI_bytes_single
#print axioms Tuc.FastLoop.loop_of_trimmed
#print axioms Tuc.Space.rawLines_of_noeol
#print axioms Tuc.Space.rawLines_of_eol
