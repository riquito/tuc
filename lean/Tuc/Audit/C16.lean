import Tuc.Props.C16
import Tuc.Props.C16Greedy
import Tuc.Props.RegexLit
import Tuc.Lemmas.RegexSpec
/-! Axiom audit of the theorems of `Tuc.Props.C16` (generated by tool/gen_audit.py). -/
#print axioms Tuc.regexFields_are_gaps
#print axioms Tuc.regexFields_last
#print axioms Tuc.regexFields_length
#print axioms Tuc.regexReplace_literal
#print axioms Tuc.trimRegex_left_untouched
#print axioms Tuc.compressed_not_replaced_again
#print axioms Tuc.regexMatchLen_le
#print axioms Tuc.trimRegex_spec
#print axioms Tuc.trimRegex_left
#print axioms Tuc.trimRegex_right
#print axioms Tuc.trimRegex_both
#print axioms Tuc.regexCut_eq_spec
#print axioms Tuc.regexRun_eq_spec
#print axioms Tuc.regexCut_replace_eq_spec
#print axioms Tuc.regexReplace_sep_literal
#print axioms Tuc.regexReplace_piece_literal
#print axioms Tuc.regexCompress_eq_literal
#print axioms Tuc.regexCompress_eq_spec
#print axioms Tuc.regexCut_needs_replace
#print axioms Tuc.sliceStableB_sound
#print axioms Tuc.greedyTiledListsB_sound
#print axioms Tuc.greedyTiledB_sound
#print axioms Tuc.regexCut_replace_greedy_eq_spec
#print axioms Tuc.OneByte.byte
#print axioms Tuc.OneByte.cls
#print axioms Tuc.OneByte.alt
#print axioms Tuc.OneByte.matchLen_cons
#print axioms Tuc.OneByte.findIterAux_eq
#print axioms Tuc.OneByte.run_plus
#print axioms Tuc.OneByte.matchLen_plus
#print axioms Tuc.Re.findIterAux_skip
#print axioms Tuc.singles_append
#print axioms Tuc.singles_tiles
#print axioms Tuc.singles_mem
#print axioms Tuc.OneByte.tiled
#print axioms Tuc.OneByte.greedyTiled
#print axioms Tuc.singles_shift
#print axioms Tuc.singles_middle
#print axioms Tuc.singles_slice
#print axioms Tuc.OneByte.sliceStable
#print axioms Tuc.regexCut_replace_greedy_oneByte
#print axioms Tuc.reDashComma_oneByte
#print axioms Tuc.exOpt_greedy_replace_eq_spec
#print axioms Tuc.gExample_eq_spec
#print axioms Tuc.RegexLit.fillReFor_cons
#print axioms Tuc.RegexLit.fillReFor_eq
#print axioms Tuc.RegexLit.fillWithFieldsLocationsUsingRegexLit_refines
#print axioms Tuc.RegexLit.bind_panic
#print axioms Tuc.RegexLit.sliceRange_eq
#print axioms Tuc.RegexLit.sliceFrom_eq
#print axioms Tuc.RegexLit.replacenBreak
#print axioms Tuc.RegexLit.replacenFor_eq
#print axioms Tuc.RegexLit.replaceAll_eq
#print axioms Tuc.RegexLit.replaceAll_deref
#print axioms Tuc.RegexLit.iterLast_or_first
#print axioms Tuc.RegexLit.trimRegexLit_idx
#print axioms Tuc.RegexLit.trimRegex_idx
#print axioms Tuc.RegexLit.trimIdxStart_le_iff
#print axioms Tuc.RegexLit.trimIdxEnd_ok_iff
#print axioms Tuc.RegexLit.trimIdx_ok_iff
#print axioms Tuc.RegexLit.trimRegexLit_eq
#print axioms Tuc.RegexLit.compressDelimiterWithRegexLit_deref
#print axioms Tuc.RegexLit.maybeReplaceDelimiterLit_deref
#print axioms Tuc.RegexLit.chainOK_of_sorted
#print axioms Tuc.RegexLit.trimOK_of_inRange
#print axioms Tuc.RegexLit.trimOK_of_sorted
#print axioms Tuc.RegexLit.trimRegexLit_refines
#print axioms Tuc.RegexLit.replaceAll_refines
#print axioms Tuc.RegexLit.compressDelimiterWithRegexLit_refines
#print axioms Tuc.RegexLit.bag_refines
#print axioms Tuc.RegexLit.maybeReplaceDelimiterLit_refines
#print axioms Tuc.RegexLit.replacen_limit_deref
#print axioms Tuc.SortedMatches.mem
#print axioms Tuc.replaceMatches_advance
#print axioms Tuc.replaceMatches_tiles
