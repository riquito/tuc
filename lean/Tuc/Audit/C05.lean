import Tuc.Props.C05
import Tuc.Props.C05Utf8
import Tuc.Props.C05Buffered
import Tuc.Props.LinesLoop
import Tuc.Lemmas.Bounds
import Tuc.Lemmas.Grammar
/-! Axiom audit of the theorems of `Tuc.Props.C05` (generated by tool/gen_audit.py). -/
#print axioms Tuc.fwdRemOut_false
#print axioms Tuc.FwdGood.tail
#print axioms Tuc.FwdInv.start
#print axioms Tuc.lineJoiner_map
#print axioms Tuc.fwdHeadText_started
#print axioms Tuc.fwdHeadText_cons
#print axioms Tuc.fwdLine_step
#print axioms Tuc.fwdLines_eq
#print axioms Tuc.good_of_forwardOnly
#print axioms Tuc.fwd_output
#print axioms Tuc.fwd_eq_spec
#print axioms Tuc.readAndCutLines_forwardOnly
#print axioms Tuc.readAndCutLines_eq_spec
#print axioms Tuc.markLast_plain
#print axioms Tuc.fwd_trailing_eol
#print axioms Tuc.specLines_trailing_eol
#print axioms Tuc.linesOut_noJoin
#print axioms Tuc.linesOut_join
#print axioms Tuc.fwd_no_join
#print axioms Tuc.fwd_join
#print axioms Tuc.fwd_eq_spec_utf8
#print axioms Tuc.splitFields_stripEol
#print axioms Tuc.linesTok_numFields
#print axioms Tuc.recordTok_lines
#print axioms Tuc.specLines_eq_specRecord
#print axioms Tuc.hasNFields_lines
#print axioms Tuc.Spec.SameButBofs.asLines
#print axioms Tuc.specRecord_stripEol
#print axioms Tuc.cutLines_eq_specRecord
#print axioms Tuc.cutLines_eq_specLines_all
#print axioms Tuc.cutLines_eq_specLines
#print axioms Tuc.cutLines_eq_specLines_of_parsed
#print axioms Tuc.cutLines_not_utf8
#print axioms Tuc.lines_algorithms_agree
#print axioms Tuc.readAndCutLines_buffered
#print axioms Tuc.readAndCutLines_buffered_eq_spec
#print axioms Tuc.readAndCutLines_eq_specLines
#print axioms Tuc.tracks_init
#print axioms Tuc.cutLinesForwardOnlyLoop_eq
#print axioms Tuc.cutLinesForwardOnlyLoop_eq_of_count
#print axioms Tuc.cutLinesForwardOnlyLoop_safe
#print axioms Tuc.cutLinesLit_eq
#print axioms Tuc.pastOk_of_forwardOnly
#print axioms Tuc.readAndCutLinesLoop_eq
#print axioms Tuc.readAndCutLinesLoop_eq_buffered
#print axioms Tuc.readAndCutLinesLoop_eq_of_parsed
#print axioms Tuc.cutLinesForwardOnlyLoop_eq_of_parsed
#print axioms Tuc.LinesLoop.records_count_le
#print axioms Tuc.cutLinesForwardOnlyLoop_eq_of_length
#print axioms Tuc.boundsOnly_map_bound
#print axioms Tuc.parsed_inI32
