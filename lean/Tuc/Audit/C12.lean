import Tuc.Props.C12
import Tuc.Props.MainLevel
import Tuc.Lemmas.Bounds
import Tuc.Lemmas.FastLoop
import Tuc.Lemmas.Grammar
import Tuc.Lemmas.Total
/-! Axiom audit of the theorems of `Tuc.Props.C12` (generated by tool/gen_audit.py). -/
#print axioms Tuc.parse_total
#print axioms Tuc.parsed_lnz
#print axioms Tuc.boundariesFrom_sorted
#print axioms Tuc.charMatches_sorted
#print axioms Tuc.charsBag_ok
#print axioms Tuc.bagOK_of_literal_or_chars
#print axioms Tuc.cutStrCore_no_panic
#print axioms Tuc.cutStrCore_literal_no_panic
#print axioms Tuc.cutStrCore_chars_no_panic
#print axioms Tuc.readAndCutStr_no_panic
#print axioms Tuc.readAndCutFast_no_panic
#print axioms Tuc.readAndCutBytes_no_panic
#print axioms Tuc.cutLinesForwardOnly_no_panic
#print axioms Tuc.readAndCutLines_no_panic
#print axioms Tuc.cutBytesStream_no_panic
#print axioms Tuc.dispatch_safe
#print axioms Tuc.dispatch_no_panic
#print axioms Tuc.mainModel_safe
#print axioms Tuc.mainModel_total
#print axioms Tuc.mainModel_total_regex
#print axioms Tuc.mainModel_never_panics
#print axioms Tuc.unpack_length_le
#print axioms Tuc.unpackBof_length_le
#print axioms Tuc.unpackList_length_le
#print axioms Tuc.complement_length_le
#print axioms Tuc.complementBof_length_le
#print axioms Tuc.trimStartFuel_succ
#print axioms Tuc.trimStartFuel_fuel
#print axioms Tuc.Inv.unwrap
#print axioms Tuc.parseArgv_bounds_fromParser
#print axioms Tuc.compileBag_ok
#print axioms Tuc.tucRun_safe
#print axioms Tuc.tucMain_never_panics
#print axioms Tuc.tucMain_run_status
#print axioms Tuc.tucMain_chunk_independent
#print axioms Tuc.tucMain_one_read
#print axioms Tuc.MainResult.deliver_run
#print axioms Tuc.tucMain_deliver_prefix
#print axioms Tuc.tucMain_deliver_cut_fails
#print axioms Tuc.tucMain_deliver_enough
#print axioms Tuc.tucMain_success_complete
#print axioms Tuc.dispatch_append
#print axioms Tuc.tucRun_append
#print axioms Tuc.tucMain_append
#print axioms Tuc.tucMain_append_of_fail
#print axioms Tuc.tucMain_append_of_ok
#print axioms Tuc.Canon.Accepted.eolOf
#print axioms Tuc.Canon.Accepted.fieldMode
#print axioms Tuc.tucMain_canon_append
#print axioms Tuc.tucMain_canon_append_one_read
#print axioms Tuc.exAppend_accepted
#print axioms Tuc.swap_flatten
#print axioms Tuc.dispatch_swap_fields
#print axioms Tuc.dispatch_swap_chars
#print axioms Tuc.dispatch_swap_lines
#print axioms Tuc.dispatch_swap_bytes
#print axioms Tuc.MainResult.mapOut_ofDispatch
#print axioms Tuc.Canon.optOf_toggleZ_eq
#print axioms Tuc.Canon.optOf_toggleZ
#print axioms Tuc.Canon.optOf_toggleZ_lines
#print axioms Tuc.Canon.NoLfNul.replace
#print axioms Tuc.Canon.NoLfNul.fallbackOob
#print axioms Tuc.Canon.NoLfNul.lits
#print axioms Tuc.Canon.NoLfNul.fields
#print axioms Tuc.Canon.NoLfNul.chars
#print axioms Tuc.tucRun_swap_noRegex
#print axioms Tuc.tucRun_canon_swap
#print axioms Tuc.tucMain_swap
#print axioms Tuc.Canon.NoLfNul.ofPlain
#print axioms Tuc.exSwap_accepted
#print axioms Tuc.exSwap_noLfNul
#print axioms Tuc.exSwapLines_accepted
#print axioms Tuc.exSwapLines_noLfNul
#print axioms Tuc.parsed_fromVec
#print axioms Tuc.readAndCutFast_safe
#print axioms Tuc.parsed_nonzero
#print axioms Tuc.streamOptOf_none_of_not_fields
#print axioms Tuc.dispatch_fm_not_fields
