import Tuc.Props.C01
import Tuc.Props.EndToEnd
import Tuc.Props.TextLoops
import Tuc.Props.CutStrLit
import Tuc.Props.WholeLit
import Tuc.Props.WholeLit2
import Tuc.Lemmas.Checked
import Tuc.Lemmas.Split
/-! Axiom audit of the theorems of `Tuc.Props.C01` (generated by tool/gen_audit.py). -/
#print axioms Tuc.empty_record
#print axioms Tuc.spec_empty_record
#print axioms Tuc.only_delimited_drops
#print axioms Tuc.outputLoop_append
#print axioms Tuc.outputLoop_filler
#print axioms Tuc.joiner_rule
#print axioms Tuc.plain_bound_output
#print axioms Tuc.greedy_bound_output
#print axioms Tuc.general_record_eq_spec
#print axioms Tuc.general_engine_eq_spec
#print axioms Tuc.general_engine_eq_spec_gen
#print axioms Tuc.general_record_eq_spec_gen
#print axioms Tuc.general_engine_eq_spec_of_parsed
#print axioms Tuc.general_engine_clean
#print axioms Tuc.plain_record_eq_spec
#print axioms Tuc.Canon.table_bounds
#print axioms Tuc.Canon.cfgOf_optOf
#print axioms Tuc.Canon.Accepted.main
#print axioms Tuc.dispatch_fields_eq_spec
#print axioms Tuc.Canon.optOf_bounds
#print axioms Tuc.Canon.optOf_cfg
#print axioms Tuc.Canon.memKb_none
#print axioms Tuc.Canon.memKb_isSome
#print axioms Tuc.utf8EncodeChar_ne_nil
#print axioms Tuc.utf8_ne_nil
#print axioms Tuc.Canon.fields_delimiter_ne_nil
#print axioms Tuc.Canon.parsed
#print axioms Tuc.Canon.Accepted.parsed
#print axioms Tuc.Canon.Accepted.parsed'
#print axioms Tuc.Canon.Accepted.good
#print axioms Tuc.Canon.noConflict_facts
#print axioms Tuc.tucRun_plain
#print axioms Tuc.tucRun_chars
#print axioms Tuc.Canon.compileBag_noRegex
#print axioms Tuc.tucRun_canon_noRegex
#print axioms Tuc.Canon.Accepted.main_plain
#print axioms Tuc.Canon.Accepted.main_bytes
#print axioms Tuc.Canon.Accepted.main_lines
#print axioms Tuc.Canon.Accepted.fields_eq_spec
#print axioms Tuc.tuc_fields_eq_spec
#print axioms Tuc.tuc_fields_json_eq_spec
#print axioms Tuc.admissibleB_iff
#print axioms Tuc.Canon.streamOk_facts
#print axioms Tuc.Canon.Accepted.fixedMemory_eq_spec
#print axioms Tuc.tuc_fixedMemory_eq_spec
#print axioms Tuc.Canon.Accepted.bytes_eq_spec
#print axioms Tuc.tuc_bytes_eq_spec
#print axioms Tuc.Canon.Accepted.chars_eq_spec
#print axioms Tuc.tuc_chars_eq_spec
#print axioms Tuc.Canon.lines_facts_of_noConflict
#print axioms Tuc.Canon.lines_facts
#print axioms Tuc.Canon.Accepted.lines_eq_spec
#print axioms Tuc.Canon.Accepted.lines_buffered_eq_spec
#print axioms Tuc.tuc_lines_eq_spec
#print axioms Tuc.tuc_lines_buffered_eq_spec
#print axioms Tuc.tuc_reject_iff_conflict
#print axioms Tuc.TextLoops.fillFor_cons
#print axioms Tuc.TextLoops.fillFor_eq
#print axioms Tuc.fillWithFieldsLocationsLoop_refines
#print axioms Tuc.TextLoops.compressFor_eq
#print axioms Tuc.compressDelimiterLoop_refines
#print axioms Tuc.TextLoops.cursorWhile_spec
#print axioms Tuc.TextLoops.trimLeftWhile_eq
#print axioms Tuc.TextLoops.trimBothRightWhile_eq
#print axioms Tuc.TextLoops.sliceTo_eq_sliceRange
#print axioms Tuc.TextLoops.trimRightWhile_eq_both
#print axioms Tuc.TextLoops.trimBothArm_eq
#print axioms Tuc.TextLoops.trimLeftArm_eq
#print axioms Tuc.TextLoops.trimRightArm_eq
#print axioms Tuc.trimLoop_refines
#print axioms Tuc.TextLoops.scanFrom_zero
#print axioms Tuc.TextLoops.findAux_spec
#print axioms Tuc.TextLoops.findAux_leftmost
#print axioms Tuc.TextLoops.findAux_shift
#print axioms Tuc.TextLoops.findFrom_eq
#print axioms Tuc.TextLoops.scanFrom_of_find_none
#print axioms Tuc.TextLoops.scanFrom_of_find_some
#print axioms Tuc.TextLoops.scanFrom_of_find_some'
#print axioms Tuc.TextLoops.find_of_prefix
#print axioms Tuc.TextLoops.findIterLoop_from
#print axioms Tuc.TextLoops.findIterLoop_eq_findIter
#print axioms Tuc.TextLoops.scanFrom_of_prefix
#print axioms Tuc.TextLoops.greedySkip_spec
#print axioms Tuc.TextLoops.greedyWhile_spec
#print axioms Tuc.fillWithFieldsLocationsGreedyLoop_refines
#print axioms Tuc.CutStrLitProps.writeMaybeAsJsonLit_eq
#print axioms Tuc.CutStrLitProps.maybeReplaceDelimiterLit_eq
#print axioms Tuc.CutStrLitProps.maybeReplaceDelimiter_true
#print axioms Tuc.CutStrLitProps.resolve_eq
#print axioms Tuc.CutStrLitProps.replaced_eq
#print axioms Tuc.CutStrLitProps.outputClosure_eq
#print axioms Tuc.CutStrLitProps.tryForEach_eq
#print axioms Tuc.CutStrLitProps.fromVec_boundsOk
#print axioms Tuc.CutStrLitProps.complementBof_boundsOk
#print axioms Tuc.CutStrLitProps.unpackBof_boundsOk
#print axioms Tuc.CutStrLitProps.complementList_boundsOk
#print axioms Tuc.CutStrLitProps.unpackList_boundsOk
#print axioms Tuc.CutStrLitProps.complementStep_boundsOk
#print axioms Tuc.CutStrLitProps.emitStage_eq_of
#print axioms Tuc.CutStrLitProps.emitStage_eq
#print axioms Tuc.CutStrLitProps.trimStage_eq
#print axioms Tuc.CutStrLitProps.fieldsStage_eq
#print axioms Tuc.CutStrLitProps.darOk_false
#print axioms Tuc.CutStrLitProps.compressDelimiter_buf
#print axioms Tuc.CutStrLitProps.cutStr_eq_buffersAfter
#print axioms Tuc.CutStrLitProps.compressStage_eq
#print axioms Tuc.CutStrLitProps.compressOf_some
#print axioms Tuc.CutStrLitProps.afterTrim_snd_eol
#print axioms Tuc.CutStrLitProps.cutStrCore_snd_eol
#print axioms Tuc.CutStrLitProps.fieldsFit_iff
#print axioms Tuc.CutStrLitProps.fieldsOf_eq
#print axioms Tuc.CutStrLitProps.cutStrLit_eq_of_emit
#print axioms Tuc.CutStrLitProps.cutStrLit_eq
#print axioms Tuc.CutStrLitProps.cutStrLit_run
#print axioms Tuc.CutStrLitProps.cutStrLit_fields
#print axioms Tuc.CutStrLitProps.cutStrLit_buf
#print axioms Tuc.CutStrLitProps.cutStrLit_panic_only_if_model
#print axioms Tuc.CutStrLitProps.BoundsOk.lnz
#print axioms Tuc.CutStrLitProps.cutStrLit_safe
#print axioms Tuc.CutStrLitProps.cutRecordsLit_eq
#print axioms Tuc.CutStrLitProps.readAndCutStrLit_eq
#print axioms Tuc.CutStrLitProps.readAndCutStrLit_safe
#print axioms Tuc.CutStrLitProps.boundsOk_of_parsed
#print axioms Tuc.CutStrLitProps.boundsOk_of_parseArgv
#print axioms Tuc.CutStrLitProps.boundsOk_withBag
#print axioms Tuc.CutStrLitProps.cutStrLit_eq_of_parseArgv
#print axioms Tuc.CutStrLitProps.sideFitsB_iff
#print axioms Tuc.CutStrLitProps.boundOkB_iff
#print axioms Tuc.CutStrLitProps.boundsOkB_iff
#print axioms Tuc.CutStrLitProps.darOkB_iff
#print axioms Tuc.CutStrLitProps.tryIntoRange_oneOpen
#print axioms Tuc.CutStrLitProps.boundOk_oneOpen
#print axioms Tuc.CutStrLitProps.resolve_oneOpen
#print axioms Tuc.CutStrLitProps.boundsOk_oneOpen
#print axioms Tuc.CutStrLitProps.fieldsOf_oneOpen
#print axioms Tuc.CutStrLitProps.findIterAux_tabs
#print axioms Tuc.CutStrLitProps.fields_tabs
#print axioms Tuc.CutStrLitProps.cutStrLit_eq_cutStr_oneOpen
#print axioms Tuc.CutStrLitProps.cutStrLit_eq_cutStr_on_2GiB_line
#print axioms Tuc.WholeLit.foldRecords_congr
#print axioms Tuc.WholeLit.cutStrLitClosure_eq
#print axioms Tuc.WholeLit.readAndCutStrWhole_eq
#print axioms Tuc.WholeLit.foldRecords_fastLaneClosure
#print axioms Tuc.WholeLit.readAndCutTextAsBytesWhole_loop
#print axioms Tuc.WholeLit.readAndCutTextAsBytesWhole_eq
#print axioms Tuc.WholeLit.readAndCutBytesStreamWhole_eq
#print axioms Tuc.WholeLit.readLineWithEolSeg_eq
#print axioms Tuc.WholeLit.readWhileSeg_eq
#print axioms Tuc.WholeLit.cutLinesForwardOnlyWhole_loop
#print axioms Tuc.WholeLit.cutLinesWhole_eq
#print axioms Tuc.WholeLit.readAndCutLinesWhole_eq
#print axioms Tuc.WholeLit.counterFitsB_iff
#print axioms Tuc.WholeLit.engineFitsB_iff
#print axioms Tuc.WholeLit.engineFitsB_reads
#print axioms Tuc.WholeLit.engineFitsB_input
#print axioms Tuc.WholeLit.dispatchWhole_eq
#print axioms Tuc.WholeLit.inDomain_iff_of_run
#print axioms Tuc.WholeLit.tucProgramLit_eq_tucMainLit
#print axioms Tuc.WholeLit.tucProgramLit_eq
#print axioms Tuc.WholeLit.inDomain_of_not_run
#print axioms Tuc.WholeLit.inputFitsB_of_fixedMemory
#print axioms Tuc.WholeLit.inputFitsB_of_bytes
#print axioms Tuc.WholeLit.inputFitsB_of_lines_streamed
#print axioms Tuc.WholeLit.inputFitsB_of_fast
#print axioms Tuc.WholeLit.inDomain_of_flatten
#print axioms Tuc.WholeLit.tucProgramLit_never_panics
#print axioms Tuc.WholeLit.tucProgramLit_run_status
#print axioms Tuc.WholeLit.tucProgramLit_chunk_independent
#print axioms Tuc.WholeLit.tucProgramLit_chunk_independent'
#print axioms Tuc.WholeLit.tucProgramLit_one_read
#print axioms Tuc.WholeLit.tucProgramLit_fields_eq_spec
#print axioms Tuc.WholeLit.inDomain_canon_plain
#print axioms Tuc.WholeLit.tucProgramLit_bytes_eq_spec
#print axioms Tuc.WholeLit.tucProgramLit_fixedMemory_eq_spec
#print axioms Tuc.WholeLit.records_single
#print axioms Tuc.WholeLit.readAndCutStrWhole_eq_on_long_record
#print axioms Tuc.WholeLit.readAndCutStrWhole_eq_readAndCutStr_on_2GiB_record
#print axioms Tuc.WholeLit.readAndCutTextAsBytesWhole_overflow
#print axioms Tuc.WholeLit.tucProgramLit_fast_overflow
#print axioms Tuc.WholeLit.tucProgramLit_ne_tucMain_on_2GiB_record
#print axioms Tuc.WholeLit2.ofRes_ok
#print axioms Tuc.WholeLit2.ofOutcome_ok
#print axioms Tuc.WholeLit2.bind4_ok
#print axioms Tuc.WholeLit2.ofRes_bind
#print axioms Tuc.WholeLit2.orStop4_ofRes
#print axioms Tuc.WholeLit2.findIterLit_eq
#print axioms Tuc.WholeLit2.fillWithFieldsLocationsLoop2_refines
#print axioms Tuc.WholeLit2.fillWithFieldsLocationsGreedyLoop2_refines
#print axioms Tuc.WholeLit2.compressDelimiterLoop2_refines
#print axioms Tuc.WholeLit2.writeMaybeAsJsonLit2_eq
#print axioms Tuc.WholeLit2.bind_ofOutcome_of_omap
#print axioms Tuc.WholeLit2.maybeReplace2_eq
#print axioms Tuc.WholeLit2.fieldOfRange2_eq
#print axioms Tuc.WholeLit2.fieldToPrint2_eq
#print axioms Tuc.WholeLit2.outputClosure2_eq
#print axioms Tuc.WholeLit2.tryForEach2_eq
#print axioms Tuc.WholeLit2.trimStage2_eq
#print axioms Tuc.WholeLit2.compressStage2_eq
#print axioms Tuc.WholeLit2.fieldsStage2_eq
#print axioms Tuc.WholeLit2.boundsOk_allInI32
#print axioms Tuc.WholeLit2.complementLit_eq
#print axioms Tuc.WholeLit2.unpackLit_eq
#print axioms Tuc.WholeLit2.emitStage2_eq
#print axioms Tuc.WholeLit2.cutStrLit2_eq_cutStrLit
#print axioms Tuc.WholeLit2.cutStrLitClosure2_eq
#print axioms Tuc.WholeLit2.readAndCutStrWhole2_eq
#print axioms Tuc.WholeLit2.cutLinesWhole2_eq
#print axioms Tuc.WholeLit2.matchesLit_eq
#print axioms Tuc.WholeLit2.innerBody2_eq
#print axioms Tuc.WholeLit2.innerBody_lineIdx
#print axioms Tuc.WholeLit2.LineIdxOk.of_eq
#print axioms Tuc.WholeLit2.innerWhile2_eq
#print axioms Tuc.WholeLit2.innerWhile_lineIdx
#print axioms Tuc.WholeLit2.nextLine_ok
#print axioms Tuc.WholeLit2.readLineWithEolSeg2_eq
#print axioms Tuc.WholeLit2.readWhileSeg2_eq
#print axioms Tuc.WholeLit2.cutLinesForwardOnlyWhole2_eq
#print axioms Tuc.WholeLit2.isForwardOnlyLit_eq
#print axioms Tuc.WholeLit2.readAndCutLinesWhole2_eq
#print axioms Tuc.WholeLit2.cutBytesBody2_eq_i64
#print axioms Tuc.WholeLit2.cutBytesBody2_eq
#print axioms Tuc.WholeLit2.tryForEach_eq_seqMap
#print axioms Tuc.WholeLit2.cutBytesLit2_eq_i64
#print axioms Tuc.WholeLit2.cutBytesLit2_eq
#print axioms Tuc.WholeLit2.readAndCutBytesLoop2_eq_i64
#print axioms Tuc.WholeLit2.outputOf2_eq
#print axioms Tuc.WholeLit2.outputPartsLit2_eq_i64
#print axioms Tuc.WholeLit2.fastTryForEach2_eq
#print axioms Tuc.WholeLit2.afterScan2_eq
#print axioms Tuc.WholeLit2.cutStrFastLaneLoop2_eq
#print axioms Tuc.WholeLit2.readAndCutTextAsBytesWhole2_eq
#print axioms Tuc.WholeLit2.Asc.weaken
#print axioms Tuc.WholeLit2.memchr2IterFrom_asc
#print axioms Tuc.WholeLit2.forBody2_eq
#print axioms Tuc.WholeLit2.forLoop2_eq
#print axioms Tuc.WholeLit2.remainingData2_eq
#print axioms Tuc.WholeLit2.chunkBody2_eq
#print axioms Tuc.WholeLit2.whileStep2_eq
#print axioms Tuc.WholeLit2.afterNewChunk2_eq
#print axioms Tuc.WholeLit2.newChunk2_eq
#print axioms Tuc.WholeLit2.cutBytesStreamLoop2_eq
#print axioms Tuc.WholeLit2.readAndCutBytesStreamWhole2_eq
#print axioms Tuc.WholeLit2.boundsArg2_eq
#print axioms Tuc.WholeLit2.parseWith2_eq
#print axioms Tuc.WholeLit2.parseArgv2_eq
#print axioms Tuc.WholeLit2.InDomain2.inDomain
#print axioms Tuc.WholeLit2.fastOptLit_bounds
#print axioms Tuc.WholeLit2.dispatchWhole2_eq
#print axioms Tuc.WholeLit2.inDomain2_iff_of_run
#print axioms Tuc.WholeLit2.tucProgramLit2_eq_programWith
#print axioms Tuc.WholeLit2.tucProgramLit2_eq_tucProgramLit
#print axioms Tuc.WholeLit2.tucProgramLit2_eq
#print axioms Tuc.WholeLit2.inDomain2_of_not_run
#print axioms Tuc.WholeLit2.inDomain2_of_flatten
#print axioms Tuc.WholeLit2.tucProgramLit2_never_panics
#print axioms Tuc.WholeLit2.tucProgramLit2_run_status
#print axioms Tuc.WholeLit2.tucProgramLit2_chunk_independent
#print axioms Tuc.WholeLit2.tucProgramLit2_chunk_independent'
#print axioms Tuc.WholeLit2.tucProgramLit2_align_irrelevant
#print axioms Tuc.WholeLit2.readAndCutBytesLoop2_on_large
#print axioms Tuc.WholeLit2.tucProgramLit2_bytes_on_large
#print axioms Tuc.WholeLit2.tucProgramLit2_eq_tucMain_on_2GiB_input
#print axioms Tuc.WholeLit2.outputPartsLit2_eq_on_large
#print axioms Tuc.TextLoops.bind_ok
#print axioms Tuc.TextLoops.sliceFrom_ok
#print axioms Tuc.TextLoops.sliceRange_ok
#print axioms Tuc.TextLoops.checkedSub_ok
#print axioms Tuc.TextLoops.bind_panic
#print axioms Tuc.TextLoops.sliceFrom_eq
#print axioms Tuc.TextLoops.sliceRange_eq
#print axioms Tuc.TextLoops.findIterAux_skip
