import Tuc.Props.C19
import Tuc.Props.C19Argv
import Tuc.Props.OptLit
import Tuc.Lemmas.StreamOpt
import Tuc.Lemmas.Total
/-! Axiom audit of the theorems of `Tuc.Props.C19` (generated by tool/gen_audit.py). -/
#print axioms Tuc.Flags.mode_cases
#print axioms Tuc.upFrontReject_json
#print axioms Tuc.upFrontReject_e
#print axioms Tuc.Flags.streamOk_fields
#print axioms Tuc.ite_reject_iff
#print axioms Tuc.ite_eq_iff
#print axioms Tuc.decision_reject_iff
#print axioms Tuc.reject_iff_conflict
#print axioms Tuc.accepted_iff_no_conflict
#print axioms Tuc.failFirst_iff
#print axioms Tuc.Flags.join_eq
#print axioms Tuc.implied_join
#print axioms Tuc.decision_ignores_z_fallback
#print axioms Tuc.engine_choice
#print axioms Tuc.Sim.unwrap
#print axioms Tuc.SimI.unwrap
#print axioms Tuc.FlagId.mem_all
#print axioms Tuc.ValId.mem_all
#print axioms Tuc.FlagId.keys_used
#print axioms Tuc.ValId.keys_used
#print axioms Tuc.Res.exists_ok
#print axioms Tuc.default_bounds_ok
#print axioms Tuc.strArg_ne_panic
#print axioms Tuc.usizeArg_ne_panic
#print axioms Tuc.trimArg_ne_panic
#print axioms Tuc.OptFromParser.or
#print axioms Tuc.SimE.defaultStep
#print axioms Tuc.SimE.parseWith
#print axioms Tuc.parseWith_spec
#print axioms Tuc.Hom.parseWith
#print axioms Tuc.FlagId.tok_mem
#print axioms Tuc.ValId.tok_mem
#print axioms Tuc.tokens_miss_flag
#print axioms Tuc.tokens_miss_val
#print axioms Tuc.keys_dash
#print axioms Tuc.flagIdOf_tok
#print axioms Tuc.valIdOf_tok
#print axioms Tuc.flag_tok_ne_val_key
#print axioms Tuc.val_tok_ne_flag_key
#print axioms Tuc.flagIdOf_some
#print axioms Tuc.valIdOf_some
#print axioms Tuc.valIdOf_used
#print axioms Tuc.noDash_beq
#print axioms Tuc.noDash_prefix
#print axioms Tuc.noDash_indexPredicate
#print axioms Tuc.noDash_cluster
#print axioms Tuc.clean_miss_flag
#print axioms Tuc.clean_miss_val
#print axioms Tuc.getElem?_mid
#print axioms Tuc.indexOfKey_cons
#print axioms Tuc.indexOf_cons
#print axioms Tuc.indexOf2Key_cons
#print axioms Tuc.picoContains_cons
#print axioms Tuc.picoContains_head
#print axioms Tuc.picoContains_nil
#print axioms Tuc.picoContains_append
#print axioms Tuc.picoContains_miss
#print axioms Tuc.picoOptValue_cons
#print axioms Tuc.picoOptValue_head
#print axioms Tuc.picoOptValue_nil
#print axioms Tuc.picoOptValue_append
#print axioms Tuc.render_cons
#print axioms Tuc.mem_render
#print axioms Tuc.group_miss_flag
#print axioms Tuc.group_miss_val
#print axioms Tuc.extra_head_ne
#print axioms Tuc.keys_first_ne_nil
#print axioms Tuc.head_ne_of_ne_flag
#print axioms Tuc.head_ne_of_optVal_none
#print axioms Tuc.optVal_eq_some
#print axioms Tuc.WF.tail
#print axioms Tuc.picoContains_render
#print axioms Tuc.picoOptValue_render_of
#print axioms Tuc.picoOptValue_render
#print axioms Tuc.render_isEmpty
#print axioms Tuc.Table.isEmpty_of_flag
#print axioms Tuc.Table.isEmpty_of_val
#print axioms Tuc.tableOf_append
#print axioms Tuc.findSome?_filter
#print axioms Tuc.tableOf_filter_flag
#print axioms Tuc.tableOf_filter_val
#print axioms Tuc.tableOf_isEmpty
#print axioms Tuc.hom_table_raw
#print axioms Tuc.Step.result_map
#print axioms Tuc.quietVal_miss
#print axioms Tuc.Group.cleanB_nil
#print axioms Tuc.WFB.toWF
#print axioms Tuc.WF.toWFB
#print axioms Tuc.WFB.filter
#print axioms Tuc.group_miss_valB
#print axioms Tuc.picoOptValue_renderB
#print axioms Tuc.Group.cleanB_drop
#print axioms Tuc.WFB.drop
#print axioms Tuc.WFB.drop_none
#print axioms Tuc.grpOptValue_post
#print axioms Tuc.simB_parseWith
#print axioms Tuc.parseArgv_renderB
#print axioms Tuc.parseArgv_render
#print axioms Tuc.WF.perm
#print axioms Tuc.mem_of_tableOf_val
#print axioms Tuc.tableOf_val_of_mem
#print axioms Tuc.tableOf_val_eq_some_iff
#print axioms Tuc.Table.ext'
#print axioms Tuc.tableOf_perm
#print axioms Tuc.parseArgv_perm
#print axioms Tuc.Safe.unwrap
#print axioms Tuc.parseArgv_spec
#print axioms Tuc.parseArgv_total
#print axioms Tuc.parseArgv_nil
#print axioms Tuc.parseArgv_reject_no_run
#print axioms Tuc.Table.clearFlag_flag
#print axioms Tuc.Table.clearFlag_val
#print axioms Tuc.Table.clearFlag_extra
#print axioms Tuc.Table.clearVal_val
#print axioms Tuc.Table.clearVal_flag
#print axioms Tuc.Table.clearVal_extra
#print axioms Tuc.Table.ite_val
#print axioms Tuc.Table.ite_flag
#print axioms Tuc.Table.clearVal_of_none
#print axioms Tuc.tflag_bind
#print axioms Tuc.any_refused
#print axioms Tuc.bind_toOption
#print axioms Tuc.bind_toOption_isSome
#print axioms Tuc.tvalue_bind
#print axioms Tuc.ite_tvalue_bind
#print axioms Tuc.ite_pure_tvalue_bind
#print axioms Tuc.boundsArg_ne_panic
#print axioms Tuc.any_refused_strArg
#print axioms Tuc.bind_strArg
#print axioms Tuc.unwrap_bind_any
#print axioms Tuc.ite_unwrap_bind
#print axioms Tuc.tfallback_bind
#print axioms Tuc.ttest_bind
#print axioms Tuc.exitIf_bind
#print axioms Tuc.pure_bind'
#print axioms Tuc.unwrap_bind
#print axioms Tuc.ite_bind
#print axioms Tuc.usizeArg_isOk
#print axioms Tuc.markLast_ne_nil
#print axioms Tuc.boundsListOfString_nonempty
#print axioms Tuc.widthOf_none
#print axioms Tuc.widthOf_some_ne
#print axioms Tuc.Step.result_done
#print axioms Tuc.Step.result_next
#print axioms Tuc.Step.result_ite
#print axioms Tuc.memOf_eq
#print axioms Tuc.memOf_zero
#print axioms Tuc.widthOf_ne_absent
#print axioms Tuc.Table.bounds_eq
#print axioms Tuc.ite_reject_or
#print axioms Tuc.or_isSome_ite
#print axioms Tuc.Table.boundsType_eq
#print axioms Tuc.Table.default_eq
#print axioms Tuc.Table.parsedBounds
#print axioms Tuc.upFrontReject_eq
#print axioms Tuc.parseTable_closed
#print axioms Tuc.Sensible.noBad
#print axioms Tuc.parseTable_eq
#print axioms Tuc.parseTable_reject_iff
#print axioms Tuc.parseArgv_canonB
#print axioms Tuc.parseArgv_canon
#print axioms Tuc.parseArgv_canon_reject_iff
#print axioms Tuc.trim_isSome
#print axioms Tuc.widthOf_some_ne_other
#print axioms Tuc.streamOk_order
#print axioms Tuc.streamOptOf_optOf
#print axioms Tuc.rejectsUpFront_tableAnswer
#print axioms Tuc.parseArgv_canonB_decision
#print axioms Tuc.parseArgv_canon_decision
#print axioms Tuc.sublist_ite_singleton
#print axioms Tuc.Canon.groups_heads
#print axioms Tuc.canonTokens_nodup
#print axioms Tuc.canonTokens_dash
#print axioms Tuc.Canon.wf
#print axioms Tuc.tableOf_flagG
#print axioms Tuc.tableOf_optG
#print axioms Tuc.tableOf_extraG
#print axioms Tuc.modeG_eq
#print axioms Tuc.Canon.tableOf_groups
#print axioms Tuc.Canon.table_mode
#print axioms Tuc.canonArgv_isEmpty
#print axioms Tuc.Canon.regexText_none
#print axioms Tuc.boundsTypeOf_eq_characters
#print axioms Tuc.Canon.fields_ne_c
#print axioms Tuc.Canon.optOf_boundsType
#print axioms Tuc.Canon.optOf_replaceDelimiter
#print axioms Tuc.Canon.optOf_trim
#print axioms Tuc.Canon.optOf_fallbackOob
#print axioms Tuc.Canon.table_boundsText
#print axioms Tuc.Canon.optOf_delimiter
#print axioms Tuc.optAll_iff
#print axioms Tuc.Canon.valuesOk_parts
#print axioms Tuc.Canon.table_oneMode
#print axioms Tuc.Canon.sensible
#print axioms Tuc.Canon.accepted_parts
#print axioms Tuc.parseArgv_canonArgv_decision
#print axioms Tuc.parseArgv_canonArgv
#print axioms Tuc.Canon.Accepted.of_accepted
#print axioms Tuc.Canon.Accepted.of_noRegex
#print axioms Tuc.Canon.Accepted.accepted
#print axioms Tuc.Canon.Accepted.regexOk_e
#print axioms Tuc.Canon.Accepted.parse
#print axioms Tuc.Mode.orF_eq_c
#print axioms Tuc.Canon.withBounds_boundsText
#print axioms Tuc.Canon.withM_self
#print axioms Tuc.Canon.withBounds_memKb
#print axioms Tuc.Canon.withBounds_regexText
#print axioms Tuc.Flags.isFields_orF
#print axioms Tuc.upFrontReject_mono
#print axioms Tuc.Canon.withBounds_nonempty
#print axioms Tuc.Canon.Accepted.withM_withBounds
#print axioms Tuc.Canon.toggleZ_toggleZ
#print axioms Tuc.Canon.toggleZ_mode
#print axioms Tuc.Canon.toggleZ_memKb
#print axioms Tuc.Canon.toggleZ_regexText
#print axioms Tuc.Canon.Accepted.toggleZ
#print axioms Tuc.parseTable_badBounds
#print axioms Tuc.parseTable_help
#print axioms Tuc.parseArgv_canonB_badBounds
#print axioms Tuc.parseArgv_canonB_help
#print axioms Tuc.parseArgv_canonB_ne_help
#print axioms Tuc.Table.boundsText_parse
#print axioms Tuc.parseTable_congr
#print axioms Tuc.tableOf_swap_flag
#print axioms Tuc.tableOf_swap_extra
#print axioms Tuc.tableOf_swap_val
#print axioms Tuc.parseArgv_bounds_letters
#print axioms Tuc.boundsArg_lastOrHello
#print axioms Tuc.parseArgv_dash_value_f
#print axioms Tuc.parseArgv_dash_value_f_first
#print axioms Tuc.parseArgv_dash_value_b
#print axioms Tuc.parseArgv_dash_value_l
#print axioms Tuc.parseArgv_dash_value_c
#print axioms Tuc.parseArgv_h
#print axioms Tuc.parseArgv_help
#print axioms Tuc.parseArgv_d_h
#print axioms Tuc.parseArgv_f_h
#print axioms Tuc.parseArgv_gh
#print axioms Tuc.parseArgv_f0_h
#print axioms Tuc.parseArgv_h_f
#print axioms Tuc.OptLit.eolIntoU8_eq
#print axioms Tuc.OptLit.trimFromStrLit_eq
#print axioms Tuc.OptLit.optDefaultLit_ok
#print axioms Tuc.OptLit.tryForEach_eq
#print axioms Tuc.OptLit.anyRev_eq
#print axioms Tuc.OptLit.hasBoundOrEmpty_of_bound
#print axioms Tuc.OptLit.lastBoundIdx_of_hasBound
#print axioms Tuc.OptLit.tryFrom_nf
#print axioms Tuc.OptLit.fromVec_cases
#print axioms Tuc.OptLit.tryFrom_ok
#print axioms Tuc.OptLit.tryFrom_panic_iff
#print axioms Tuc.OptLit.tryFrom_eq
#print axioms Tuc.OptLit.getLastBound_of_tryFrom
#print axioms Tuc.OptLit.tryFrom_toOption
#print axioms Tuc.OptLit.forwardBoundsOf_of_tryFrom
#print axioms Tuc.OptLit.tryFrom_l62_dead
#print axioms Tuc.OptLit.fromStr_eq
#print axioms Tuc.OptLit.tryFrom_fillers_only
#print axioms Tuc.OptLit.replaceDelimiterNotOneByte_eq
#print axioms Tuc.OptLit.replaceDelimiterFirst_eq
#print axioms Tuc.OptLit.head?_of_length_one
#print axioms Tuc.OptLit.StreamOptLit.tryFrom_nf
#print axioms Tuc.OptLit.streamOptOfLit_toOption
#print axioms Tuc.OptLit.StreamOptLit.tryFrom_panic_iff
#print axioms Tuc.OptLit.StreamOptLit.tryFrom_ok
#print axioms Tuc.OptLit.streamOptOfLit_eq
#print axioms Tuc.OptLit.streamOpt_fillers_only
#print axioms Tuc.OptLit.printFieldLit_eq
#print axioms Tuc.OptLit.getD_eq_joiner
#print axioms Tuc.OptLit.printBof_eq
#print axioms Tuc.OptLit.printBofBound_spec
#print axioms Tuc.OptLit.printBofLit_spec
#print axioms Tuc.OptLit.printBofLit_eq
#print axioms Tuc.OptLit.printBof_ne_none_of_noNeg
#print axioms Tuc.OptLit.printBofLit_eq_of_noNeg
#print axioms Tuc.OptLit.printBofLit_panic
#print axioms Tuc.OptLit.printBof_slice_witness
#print axioms Tuc.OptLit.printBof_match_witness
#print axioms Tuc.OptLit.FastOptLit.tryFrom_eq
#print axioms Tuc.OptLit.FastOptLit.tryFrom_ne_panic
#print axioms Tuc.OptLit.parseArgv_run
#print axioms Tuc.OptLit.dispatchLit_eq_of_ne_panic
#print axioms Tuc.OptLit.dispatchLit_eq
#print axioms Tuc.OptLit.dispatchLit_eq_iff
#print axioms Tuc.OptLit.dispatch_fillers_only
#print axioms Tuc.OptLit.tucMainLit_eq
#print axioms Tuc.OptLit.parsed_no_panic
#print axioms Tuc.OptLit.printBofLit_eq_of_opt
#print axioms Tuc.OptLit.readAndCutBytesStreamLit_loop
#print axioms Tuc.OptLit.printFillerOrFallbacksOf_eq
#print axioms Tuc.OptLit.forwardBoundsOf_nf
#print axioms Tuc.OptLit.streamOptOf_nf
#print axioms Tuc.lastBoundRight_isSome
#print axioms Tuc.forwardBoundsOf_last
#print axioms Tuc.streamOptOf_isSome
#print axioms Tuc.dispatch_bytes
#print axioms Tuc.dispatch_lines
#print axioms Tuc.dispatch_chars
#print axioms Tuc.dispatch_none_iff
