import Tuc.Props.C14
import Tuc.Props.StdioLit
import Tuc.Lemmas.Run
import Tuc.Lemmas.Total
/-! Axiom audit of the theorems of `Tuc.Props.C14` (generated by tool/gen_audit.py). -/
#print axioms Tuc.deliver_prefix
#print axioms Tuc.deliver_cut_fails
#print axioms Tuc.success_complete
#print axioms Tuc.deliver_status
#print axioms Tuc.deliver_safe
#print axioms Tuc.thenReadError_not_ok
#print axioms Tuc.thenReadError_out
#print axioms Tuc.completeRecords_def
#print axioms Tuc.completeRecords_of_noeol
#print axioms Tuc.completeRecords_of_eol
#print axioms Tuc.completeRecords_prefix
#print axioms Tuc.cutRecords_prefix
#print axioms Tuc.fastRecords_prefix
#print axioms Tuc.streamRunOpen_fst
#print axioms Tuc.stream_monotone
#print axioms Tuc.fwdLinesOpen_spec
#print axioms Tuc.dispatchReadFault_fixedMemory
#print axioms Tuc.dispatchReadFault_of_bytes
#print axioms Tuc.dispatchReadFault_of_lines
#print axioms Tuc.dispatchReadFault_of_fields
#print axioms Tuc.readFault_cases
#print axioms Tuc.read_fault_not_ok
#print axioms Tuc.read_fault_served
#print axioms Tuc.read_fault_prefix
#print axioms Tuc.read_fault_prefix_any_segmentation
#print axioms Tuc.read_fault_rejected_iff
#print axioms Tuc.failing_record
#print axioms Tuc.failing_record_fast
#print axioms Tuc.failing_record_status
#print axioms Tuc.StdioLit.Snap.faultFree.toSticky
#print axioms Tuc.StdioLit.Adv.refl
#print axioms Tuc.StdioLit.Adv.trans
#print axioms Tuc.StdioLit.Adv.faultFree
#print axioms Tuc.StdioLit.Adv.sticky
#print axioms Tuc.StdioLit.Adv.oracle_le
#print axioms Tuc.StdioLit.Adv.cast
#print axioms Tuc.StdioLit.IoRes.ok_or_err
#print axioms Tuc.StdioLit.andThen_eq
#print axioms Tuc.StdioLit.mapState_eq
#print axioms Tuc.StdioLit.WriteSpec.ofOk
#print axioms Tuc.StdioLit.WriteSpec.ofPrefix
#print axioms Tuc.StdioLit.WriteSpec.after
#print axioms Tuc.StdioLit.WriteAllSpec.append
#print axioms Tuc.StdioLit.WriteAllSpec.errLeft
#print axioms Tuc.StdioLit.WriteAllSpec.after
#print axioms Tuc.StdioLit.StepSpec.refl
#print axioms Tuc.StdioLit.StepSpec.after
#print axioms Tuc.StdioLit.StepSpec.writeErr
#print axioms Tuc.StdioLit.StepSpec.writeAll
#print axioms Tuc.StdioLit.StepSpec.flush
#print axioms Tuc.StdioLit.FlushSpec.step
#print axioms Tuc.StdioLit.FlushSpec.after
#print axioms Tuc.StdioLit.WriteAllSpec.andThen
#print axioms Tuc.StdioLit.Sink.adv_write
#print axioms Tuc.StdioLit.Sink.write_spec
#print axioms Tuc.StdioLit.sliceFrom_some
#print axioms Tuc.StdioLit.sliceTo_some
#print axioms Tuc.StdioLit.Adv.lift
#print axioms Tuc.StdioLit.flushBufLoop_spec
#print axioms Tuc.StdioLit.defaultWriteAll_eq
#print axioms Tuc.StdioLit.defaultWriteAll_spec
#print axioms Tuc.StdioLit.Sink.spec
#print axioms Tuc.StdioLit.FlushBufSpec.writeAll
#print axioms Tuc.StdioLit.flushBuf_spec
#print axioms Tuc.StdioLit.flushBufIf_spec
#print axioms Tuc.StdioLit.andThen_spec
#print axioms Tuc.StdioLit.buffered_adv
#print axioms Tuc.StdioLit.write_buffered
#print axioms Tuc.StdioLit.writeAll_buffered
#print axioms Tuc.StdioLit.snap_of_empty
#print axioms Tuc.StdioLit.liftEmpty
#print axioms Tuc.StdioLit.wf_buffered
#print axioms Tuc.StdioLit.BufWriter.writeWith_spec
#print axioms Tuc.StdioLit.BufWriter.write_spec
#print axioms Tuc.StdioLit.BufWriter.writeAll_spec
#print axioms Tuc.StdioLit.BufWriter.flush_spec
#print axioms Tuc.StdioLit.BufWriter.spec
#print axioms Tuc.StdioLit.memrchr_lt
#print axioms Tuc.StdioLit.flushIfCompletedLine_spec
#print axioms Tuc.StdioLit.writeToBuf_eq
#print axioms Tuc.StdioLit.tailOf_spec
#print axioms Tuc.StdioLit.take_of_prefix
#print axioms Tuc.StdioLit.writeToBuf_spec
#print axioms Tuc.StdioLit.Shim.write_spec
#print axioms Tuc.StdioLit.writeLines_spec
#print axioms Tuc.StdioLit.Shim.writeAll_spec
#print axioms Tuc.StdioLit.LineWriter.spec
#print axioms Tuc.StdioLit.lineWriter_spec
#print axioms Tuc.StdioLit.stdout_spec
#print axioms Tuc.StdioLit.writeAlls_spec
#print axioms Tuc.StdioLit.session_spec
#print axioms Tuc.StdioLit.sessionSkippingEmpty_spec
#print axioms Tuc.StdioLit.Drops.trans
#print axioms Tuc.StdioLit.BufWriter.drop_spec
#print axioms Tuc.StdioLit.Stdout.new_wf
#print axioms Tuc.StdioLit.Stdout.new_snap
#print axioms Tuc.StdioLit.finalSink_spec
#print axioms Tuc.StdioLit.run_then_drops
#print axioms Tuc.StdioLit.mainWrites_eq
#print axioms Tuc.StdioLit.main_session_spec
#print axioms Tuc.StdioLit.mainWrites_spec
#print axioms Tuc.StdioLit.W1_fault_free
#print axioms Tuc.StdioLit.W1_session
#print axioms Tuc.StdioLit.stdout_never_hangs_or_panics
#print axioms Tuc.StdioLit.W2_prefix_and_no_silent_loss
#print axioms Tuc.StdioLit.W2_deliver
#print axioms Tuc.StdioLit.mainWritesThenErr_eq
#print axioms Tuc.StdioLit.mainWritesThenErr_spec
#print axioms Tuc.StdioLit.memrchr_none
#print axioms Tuc.StdioLit.memrchr_last
#print axioms Tuc.StdioLit.take_through
#print axioms Tuc.StdioLit.drop_through
#print axioms Tuc.StdioLit.flushBuf_nil
#print axioms Tuc.StdioLit.BufWriter.writeWith_bypass
#print axioms Tuc.StdioLit.Sink.write_whole
#print axioms Tuc.StdioLit.Sink.writeAll_whole
#print axioms Tuc.StdioLit.Shim.writeAll_lines_tail
#print axioms Tuc.StdioLit.Shim.write_lines_refused
#print axioms Tuc.StdioLit.mainWritesSkippingEmpty_eq
#print axioms Tuc.StdioLit.big_write_leaves_tail_in_LineWriter
#print axioms Tuc.StdioLit.flushBuf_err
#print axioms Tuc.StdioLit.skipped_flush_silent_loss
#print axioms Tuc.StdioLit.real_main_reports
#print axioms Tuc.StdioLit.skipped_flush_hidden_when_fault_free
#print axioms Tuc.StdioLit.write_is_short
#print axioms Tuc.StdioLit.write_small_never_short
#print axioms Tuc.StdioLit.stdout_write_small
#print axioms Tuc.StdioLit.Src.read_ok
#print axioms Tuc.StdioLit.Src.spec
#print axioms Tuc.StdioLit.buffer_eq
#print axioms Tuc.StdioLit.stream_used_up
#print axioms Tuc.StdioLit.fillBuf_spec
#print axioms Tuc.StdioLit.consume_stream
#print axioms Tuc.StdioLit.consume_of_le
#print axioms Tuc.StdioLit.consume_of_ge
#print axioms Tuc.StdioLit.BufReader.readBuf_spec
#print axioms Tuc.StdioLit.BufReader.spec
#print axioms Tuc.StdioLit.fillBufRetryLoop_spec
#print axioms Tuc.StdioLit.fillBufRetry_spec
#print axioms Tuc.StdioLit.FillRetrySpec.chunk
#print axioms Tuc.StdioLit.drainLoop_chunk
#print axioms Tuc.StdioLit.drainLoop_eof
#print axioms Tuc.StdioLit.drainLoop_err
#print axioms Tuc.StdioLit.drainLoop_spec
#print axioms Tuc.StdioLit.stdinLock_spec
#print axioms Tuc.StdioLit.Stdin.new_wf
#print axioms Tuc.StdioLit.Stdin.new_stream
#print axioms Tuc.StdioLit.R1_fill_buf_empty_only_at_eof
#print axioms Tuc.StdioLit.capacity_zero_reads_nothing
#print axioms Tuc.StdioLit.R1_chunks
#print axioms Tuc.StdioLit.R1_chunks_any_oracle
#print axioms Tuc.StdioLit.drainLoop_fuel
#print axioms Tuc.StdioLit.segsOf_nonempty
#print axioms Tuc.StdioLit.segsOf_flatten
#print axioms Tuc.StdioLit.segsOf_eof
#print axioms Tuc.StdioLit.segsOf_chunk
#print axioms Tuc.StdioLit.segsOf_cons
#print axioms Tuc.StdioLit.sim_fillBuf
#print axioms Tuc.StdioLit.sim_consume
#print axioms Tuc.StdioLit.R1_initial_segs
#print axioms Tuc.Run.seq_out_prefix
#print axioms Tuc.Run.pre_out_prefix
#print axioms Tuc.dispatch_of_fields
#print axioms Tuc.dispatch_flatten
