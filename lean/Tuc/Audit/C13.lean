import Tuc.Props.C13
import Tuc.Props.C13Runs
import Tuc.Props.C13RunsFast
import Tuc.Props.C13RunsStream
import Tuc.Props.MainLevel2
import Tuc.Props.C18Print
/-! Axiom audit of the theorems of `Tuc.Props.C13` (generated by tool/gen_audit.py). -/
#print axioms Tuc.general_own_fallback
#print axioms Tuc.general_generic_fallback
#print axioms Tuc.general_no_fallback_fails
#print axioms Tuc.general_resolvable
#print axioms Tuc.general_loop_fails
#print axioms Tuc.fast_rule
#print axioms Tuc.bytes_rule
#print axioms Tuc.stream_rule
#print axioms Tuc.lines_rule
#print axioms Tuc.lines_straddling_fails
#print axioms Tuc.unresolvable_iff
#print axioms Tuc.unpack_keeps_unresolvable
#print axioms Tuc.complement_keeps_unresolvable
#print axioms Tuc.emit_rule
#print axioms Tuc.emit_resolved
#print axioms Tuc.Spec.Tok.window_length
#print axioms Tuc.Spec.Tok.window_getElem?
#print axioms Tuc.piece_exact
#print axioms Tuc.restrict_numFields
#print axioms Tuc.resolveSide_eq
#print axioms Tuc.resolve_none_iff
#print axioms Tuc.emit_unresolved_at
#print axioms Tuc.emit_fails_at
#print axioms Tuc.emit_never_silent
#print axioms Tuc.complementTest_of_unresolved
#print axioms Tuc.specBody_unresolved
#print axioms Tuc.specBody_fails_at
#print axioms Tuc.specRunRecords_fails_at
#print axioms Tuc.specRun_fails_at
#print axioms Tuc.emit_fallback_at
#print axioms Tuc.specRecord_fallback_at
#print axioms Tuc.emitText_verbatim
#print axioms Tuc.specLines_unresolved
#print axioms Tuc.specLines_fails_at
#print axioms Tuc.specBytes_fails_at
#print axioms Tuc.readAndCutStr_never_silent
#print axioms Tuc.readAndCutStr_never_silent_single
#print axioms Tuc.readAndCutLines_never_silent
#print axioms Tuc.readAndCutBytes_never_silent
#print axioms Tuc.blocked_of_unresolvable
#print axioms Tuc.fwdLine_keeps
#print axioms Tuc.fwdEnd_fails
#print axioms Tuc.fwdLines_fails
#print axioms Tuc.fwd_never_silent
#print axioms Tuc.readAndCutLines_never_silent_status
#print axioms Tuc.readAndCutFast_never_silent
#print axioms Tuc.stream_never_silent
#print axioms Tuc.Canon.sameButBofs_withBounds
#print axioms Tuc.hasNFieldsB_iff
#print axioms Tuc.Canon.cfg_of_m
#print axioms Tuc.Canon.sameButBofs_rewrittenAs
#print axioms Tuc.tucMain_complement_fields
#print axioms Tuc.tucMain_complement_empty_fields
#print axioms Tuc.tucMain_complement_lines
#print axioms Tuc.tucMain_complement_lines_plain
#print axioms Tuc.exCompl_accepted
#print axioms Tuc.Canon.cfg_fallback_none
#print axioms Tuc.tucMain_never_silent_fields
#print axioms Tuc.tucMain_fallback_fields
#print axioms Tuc.tucMain_never_silent_fixedMemory_admissible
#print axioms Tuc.tucMain_fallback_fixedMemory_admissible
#print axioms Tuc.tucMain_never_silent_lines
#print axioms Tuc.tucMain_never_silent_lines_buffered
#print axioms Tuc.tucMain_fallback_lines_buffered
#print axioms Tuc.tucMain_never_silent_bytes
#print axioms Tuc.tucMain_fallback_bytes
#print axioms Tuc.tucMain_mirror_fields
#print axioms Tuc.tucMain_mirror_lines
#print axioms Tuc.tucMain_mirror_bytes
#print axioms Tuc.exMirror_accepted
#print axioms Tuc.exMirrorLines_accepted
#print axioms Tuc.exMirrorBytes_accepted
#print axioms Tuc.Canon.Accepted.withM_printed
#print axioms Tuc.Canon.Accepted.mirrored_eq
#print axioms Tuc.Canon.Accepted.mirrored
#print axioms Tuc.tucMain_mirrored_fields
#print axioms Tuc.tucMain_mirrored_bytes
#print axioms Tuc.tucMain_mirrored_lines
#print axioms Tuc.tucMain_complement_fields_printed
#print axioms Tuc.digitChar_value
#print axioms Tuc.digitChars_facts
#print axioms Tuc.isDigit_digitChar
#print axioms Tuc.natToTextFuel_spec
#print axioms Tuc.natToText_digits
#print axioms Tuc.natToText_ne_nil
#print axioms Tuc.specNat_natToText
#print axioms Tuc.specInt_intToText
#print axioms Tuc.intToText_ne_nil
#print axioms Tuc.intToText_chars
#print axioms Tuc.specIndex_intToText
#print axioms Tuc.sideToText_chars
#print axioms Tuc.UserBounds.Printable.wf
#print axioms Tuc.colon_not_mem_sideToText
#print axioms Tuc.specSide_sideToText
#print axioms Tuc.specRange_sides
#print axioms Tuc.cutAtFirst_of_not_mem
#print axioms Tuc.boundToText_chars
#print axioms Tuc.specBound_boundToText
#print axioms Tuc.boundToText_ne_nil
#print axioms Tuc.allBounds_boundToText
#print axioms Tuc.joinComma_chars
#print axioms Tuc.joinComma_ne_nil
#print axioms Tuc.pieces_joinComma
#print axioms Tuc.textChars_noWhitespace
#print axioms Tuc.eq_map_boundsOnly
#print axioms Tuc.PrintableList.eq_map
#print axioms Tuc.PrintableList.bounds
#print axioms Tuc.PrintableList.boundsOnly_ne_nil
#print axioms Tuc.flagLast_erase
#print axioms Tuc.specParse_boundsToText
#print axioms Tuc.boundsListOfString_boundsToText
#print axioms Tuc.sideOkB_spec
#print axioms Tuc.UserBounds.printable_of_B
#print axioms Tuc.printableList_of_B
#print axioms Tuc.printableList_noFiller
