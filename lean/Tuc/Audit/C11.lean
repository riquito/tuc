import Tuc.Props.C11
import Tuc.Lemmas.Run
/-! Axiom audit of the theorems of `Tuc.Props.C11` (generated by tool/gen_audit.py). -/
#print axioms Tuc.swapByte_swapByte
#print axioms Tuc.swapByte_injective
#print axioms Tuc.swap_swap
#print axioms Tuc.EOL.swap_swap
#print axioms Tuc.EOL.swap_byte
#print axioms Tuc.swapByte_of_ne
#print axioms Tuc.swap_of_noLfNul
#print axioms Tuc.swap_length
#print axioms Tuc.fallbackRule_map
#print axioms Tuc.Opt.mapLit_delimiter
#print axioms Tuc.Opt.mapLit_eol
#print axioms Tuc.Opt.mapLit_bounds
#print axioms Tuc.Opt.mapLit_boundsType
#print axioms Tuc.Opt.mapLit_onlyDelimited
#print axioms Tuc.Opt.mapLit_greedyDelimiter
#print axioms Tuc.Opt.mapLit_compressDelimiter
#print axioms Tuc.Opt.mapLit_replaceDelimiter
#print axioms Tuc.Opt.mapLit_trim
#print axioms Tuc.Opt.mapLit_complement
#print axioms Tuc.Opt.mapLit_join
#print axioms Tuc.Opt.mapLit_json
#print axioms Tuc.Opt.mapLit_fallbackOob
#print axioms Tuc.Opt.mapLit_regexBag
#print axioms Tuc.maybeReplaceDelimiter_map
#print axioms Tuc.joiner_fixed
#print axioms Tuc.outputBof_map
#print axioms Tuc.outputLoop_map
#print axioms Tuc.markLast_fixed
#print axioms Tuc.fromVec_fixed
#print axioms Tuc.complementBof_fixed
#print axioms Tuc.complementList_fixed
#print axioms Tuc.unpackBof_fixed
#print axioms Tuc.unpackList_fixed
#print axioms Tuc.emitRecord_map
#print axioms Tuc.trimOf_map
#print axioms Tuc.engineFields_map
#print axioms Tuc.compressOf_map
#print axioms Tuc.afterTrim_map
#print axioms Tuc.cutStrCore_map
#print axioms Tuc.readAndCutStr_map
#print axioms Tuc.NoLfNulOpt.lits
#print axioms Tuc.boFFixed_of_noLfNul
#print axioms Tuc.NoLfNulLits.fixed
#print axioms Tuc.Opt.swappedAll_eq
#print axioms Tuc.Opt.swappedAll_eq_swapped
#print axioms Tuc.readAndCutStr_swapAll
#print axioms Tuc.readAndCutStr_swap
#print axioms Tuc.dropWhileEq_map
#print axioms Tuc.fastTrim_map
#print axioms Tuc.fastScan_map
#print axioms Tuc.outputParts_map
#print axioms Tuc.fastOutputLoop_map
#print axioms Tuc.fastTrimmed_map
#print axioms Tuc.fastAfterTrim_map
#print axioms Tuc.cutStrFastLaneCore_map
#print axioms Tuc.readAndCutFast_map
#print axioms Tuc.NoLfNulFast.fixed
#print axioms Tuc.readAndCutFast_swap
#print axioms Tuc.StreamFixed.joiner
#print axioms Tuc.StreamFixed.joiner_ite
#print axioms Tuc.printBof_eq
#print axioms Tuc.printBofPre_map
#print axioms Tuc.printBofPost_map
#print axioms Tuc.printBof_map
#print axioms Tuc.printFillerOrFallbacks_map
#print axioms Tuc.drop_fixed
#print axioms Tuc.endOfRecord_map
#print axioms Tuc.streamStep_map
#print axioms Tuc.streamEof_map
#print axioms Tuc.streamRun_map
#print axioms Tuc.tagSegment_map
#print axioms Tuc.tagSegments_map
#print axioms Tuc.cutBytesStream_map
#print axioms Tuc.NoLfNulStream.fixed
#print axioms Tuc.cutBytesStream_swap_of_fixed
#print axioms Tuc.cutBytesStream_swap
#print axioms Tuc.swapByte_eq_or_le
#print axioms Tuc.range_swapByte
#print axioms Tuc.isCont_swapByte
#print axioms Tuc.passes_swap
#print axioms Tuc.charLen_swap
#print axioms Tuc.utf8Chars_swap_some
#print axioms Tuc.utf8Chars_swap
#print axioms Tuc.validUtf8_swap
#print axioms Tuc.boundariesFrom_map_swap
#print axioms Tuc.charMatches_swap
#print axioms Tuc.NoLfNulChars.lits
#print axioms Tuc.readAndCutStr_swap_chars
#print axioms Tuc.lineJoiner_mapLit
#print axioms Tuc.fwdLine_map
#print axioms Tuc.fwdLine_rest_mem
#print axioms Tuc.fwdEnd_map
#print axioms Tuc.stripEol_map
#print axioms Tuc.fwdLines_map
#print axioms Tuc.cutLinesForwardOnly_map
#print axioms Tuc.cutLines_map
#print axioms Tuc.readAndCutLines_map
#print axioms Tuc.readAndCutLines_swap
#print axioms Tuc.readAndCutLines_swap_buffered
#print axioms Tuc.cutBytesLoop_map
#print axioms Tuc.readAndCutBytes_map
#print axioms Tuc.readAndCutBytes_swap
#print axioms Tuc.fastOptOf_swapped
#print axioms Tuc.NoLfNulOpt.fast
#print axioms Tuc.streamOptOf_swapped
#print axioms Tuc.NoLfNulOpt.streamFixed
#print axioms Tuc.fieldMode_fast_swap
#print axioms Tuc.fieldMode_stream_swap
#print axioms Tuc.ite_map
#print axioms Tuc.Run.mapOut_ok
#print axioms Tuc.Run.mapOut_empty
#print axioms Tuc.Run.mapOut_fail
#print axioms Tuc.Run.mapOut_panic
#print axioms Tuc.Run.mapOut_hang
#print axioms Tuc.Run.mapOut_seq
#print axioms Tuc.Run.mapOut_pre
#print axioms Tuc.Run.mapOut_seqMap
