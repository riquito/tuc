import Tuc.Props.C18
import Tuc.Props.BoundsLit
import Tuc.Props.BoundsListLit
import Tuc.Lemmas.Bounds
import Tuc.Lemmas.Grammar
/-! Axiom audit of the theorems of `Tuc.Props.C18` (generated by tool/gen_audit.py). -/
#print axioms Tuc.BoundsLit.I32.ext
#print axioms Tuc.BoundsLit.I32.eq_iff
#print axioms Tuc.BoundsLit.I32.wrap_val
#print axioms Tuc.BoundsLit.I32.wrap_self
#print axioms Tuc.BoundsLit.I32.checked_ok
#print axioms Tuc.BoundsLit.I32.checked_panic
#print axioms Tuc.BoundsLit.I32.lt_iff
#print axioms Tuc.BoundsLit.I32.le_iff
#print axioms Tuc.BoundsLit.I32.gt_iff
#print axioms Tuc.BoundsLit.bind_ok
#print axioms Tuc.BoundsLit.bind_fail
#print axioms Tuc.BoundsLit.bind_panic
#print axioms Tuc.BoundsLit.someOrFail_some
#print axioms Tuc.BoundsLit.someOrFail_none
#print axioms Tuc.BoundsLit.someOrPanic_some
#print axioms Tuc.BoundsLit.someOrPanic_none
#print axioms Tuc.BoundsLit.resMap_eq_ok
#print axioms Tuc.BoundsLit.resMap_eq_ofOption
#print axioms Tuc.BoundsLit.ne_panic_of_ofOption
#print axioms Tuc.BoundsLit.bind_resMap
#print axioms Tuc.BoundsLit.resMap_bind
#print axioms Tuc.BoundsLit.resMap_bind_ok
#print axioms Tuc.BoundsLit.resMapM_ok
#print axioms Tuc.BoundsLit.i32_val
#print axioms Tuc.BoundsLit.I32.checkedOpt_some
#print axioms Tuc.BoundsLit.I32.checkedOpt_none
#print axioms Tuc.BoundsLit.sameSign_iff
#print axioms Tuc.BoundsLit.oppSign_iff
#print axioms Tuc.BoundsLit.signum_val
#print axioms Tuc.BoundsLit.mul_of_signs
#print axioms Tuc.BoundsLit.signum_mul
#print axioms Tuc.BoundsLit.toDigit10_eq
#print axioms Tuc.BoundsLit.digitVal_le
#print axioms Tuc.BoundsLit.toDigit10_none
#print axioms Tuc.BoundsLit.usizeTryIntoI32_some
#print axioms Tuc.BoundsLit.usizeTryIntoI32_none
#print axioms Tuc.BoundsLit.usizeAsI32_mod
#print axioms Tuc.BoundsLit.usizeAsI32_val
#print axioms Tuc.BoundsLit.usizeAsI32_val_of_mod
#print axioms Tuc.BoundsLit.usizeAsI32_neg_of_mod
#print axioms Tuc.BoundsLit.I64.ext
#print axioms Tuc.BoundsLit.I64.eq_iff
#print axioms Tuc.BoundsLit.I64.wrap_val
#print axioms Tuc.BoundsLit.I64.wrap_self
#print axioms Tuc.BoundsLit.I64.checked_ok
#print axioms Tuc.BoundsLit.I64.lt_iff
#print axioms Tuc.BoundsLit.I64.le_iff
#print axioms Tuc.BoundsLit.i64_val
#print axioms Tuc.BoundsLit.i64FromI32_val
#print axioms Tuc.BoundsLit.partsLength_val
#print axioms Tuc.BoundsLit.partsLength_sat
#print axioms Tuc.BoundsLit.i64AsUsize_neg
#print axioms Tuc.BoundsLit.outOfBounds_eq
#print axioms Tuc.BoundsLit.rangeStartLit_eq
#print axioms Tuc.BoundsLit.rangeEndLit_eq
#print axioms Tuc.BoundsLit.i64AsUsize_wrap
#print axioms Tuc.BoundsLit.some_eq_zero_iff
#print axioms Tuc.BoundsLit.toModel_eq_zero_iff
#print axioms Tuc.BoundsLit.tryIntoRange_lit
#print axioms Tuc.BoundsLit.tryIntoRange_eq_i64
#print axioms Tuc.BoundsLit.tryIntoRange_eq
#print axioms Tuc.BoundsLit.signMismatch_some
#print axioms Tuc.BoundsLit.signMismatch_cont
#print axioms Tuc.BoundsLit.guard_step
#print axioms Tuc.BoundsLit.ok_ite
#print axioms Tuc.BoundsLit.ok_bool
#print axioms Tuc.BoundsLit.matches_eq
#print axioms Tuc.BoundsLit.SideL.partialCmp_eq
#print axioms Tuc.BoundsLit.SideL.gt_eq
#print axioms Tuc.BoundsLit.partialCmp_eq
#print axioms Tuc.BoundsLit.parseDigits_mono
#print axioms Tuc.BoundsLit.parseDigits_cons_some
#print axioms Tuc.BoundsLit.parseDigits_cons_none
#print axioms Tuc.BoundsLit.toDigit10_some
#print axioms Tuc.BoundsLit.radixAsI32_val
#print axioms Tuc.BoundsLit.signed_mul
#print axioms Tuc.BoundsLit.signed_add
#print axioms Tuc.BoundsLit.signed_inRange_of_le
#print axioms Tuc.BoundsLit.signed_inRange
#print axioms Tuc.BoundsLit.addOrSub_eq
#print axioms Tuc.BoundsLit.I32.checkedOpt_val
#print axioms Tuc.BoundsLit.someOrFail_ok
#print axioms Tuc.BoundsLit.signedResult_none
#print axioms Tuc.BoundsLit.signedResult_some
#print axioms Tuc.BoundsLit.signedResult_big
#print axioms Tuc.BoundsLit.checkedBody_none
#print axioms Tuc.BoundsLit.checkedBody_some
#print axioms Tuc.BoundsLit.checkedLoop_eq
#print axioms Tuc.BoundsLit.uncheckedBody_eq
#print axioms Tuc.BoundsLit.pow10_step
#print axioms Tuc.BoundsLit.uncheckedLoop_eq
#print axioms Tuc.BoundsLit.uncheckedLoop_eq_checkedLoop
#print axioms Tuc.BoundsLit.parseMag_eq_magOf
#print axioms Tuc.BoundsLit.magOf_some
#print axioms Tuc.BoundsLit.signedResult_val
#print axioms Tuc.BoundsLit.splitSign_cons
#print axioms Tuc.BoundsLit.digitsLoop_eq
#print axioms Tuc.BoundsLit.parseI32Lit_eq
#print axioms Tuc.BoundsLit.SideL.fromStr_eq
#print axioms Tuc.BoundsLit.fromStrSides_eq
#print axioms Tuc.BoundsLit.fromStrCheck_eq
#print axioms Tuc.BoundsLit.UserBoundsL.fromStr_unfold
#print axioms Tuc.BoundsLit.fromStrRange_eq
#print axioms Tuc.BoundsLit.UserBoundsL.fromStr_eq
#print axioms Tuc.BoundsLit.unpackSlot_ok
#print axioms Tuc.BoundsLit.unpack_eq
#print axioms Tuc.BoundsLit.complementStdRangeLit_eq
#print axioms Tuc.BoundsLit.ofRange_ok
#print axioms Tuc.BoundsLit.complementStdRange_bounds
#print axioms Tuc.BoundsLit.complement_eq
#print axioms Tuc.BoundsLit.tryIntoRange_eq_of_large
#print axioms Tuc.BoundsLit.tryIntoRange_saturates
#print axioms Tuc.BoundsLit.tryIntoRange_left_zero
#print axioms Tuc.BoundsLit.tryIntoRange_no_panic
#print axioms Tuc.BoundsLit.model_one_open
#print axioms Tuc.BoundsLit.tryIntoRange_i64_necessary
#print axioms Tuc.BoundsLit.SideL.toModel_inI32
#print axioms Tuc.BoundsLit.sideOfModel_toModel
#print axioms Tuc.BoundsLit.inI32_iff_exists
#print axioms Tuc.BoundsLit.boundsOfModel_toModel
#print axioms Tuc.BoundsLit.boundsOfModel_l_ne_zero
#print axioms Tuc.BoundsLit.tryIntoRange_model_i64
#print axioms Tuc.BoundsLit.tryIntoRange_model
#print axioms Tuc.BoundsLit.matches_model
#print axioms Tuc.BoundsLit.unpack_model
#print axioms Tuc.BoundsLit.complement_model
#print axioms Tuc.BoundsLit.partialCmp_model
#print axioms Tuc.BoundsLit.parsed_bound
#print axioms Tuc.BoundsListLit.sideOfModel_of_toModel
#print axioms Tuc.BoundsListLit.boundsOfModel_of_toModel
#print axioms Tuc.BoundsListLit.bofOfModel_of_toModel
#print axioms Tuc.BoundsListLit.map_bofOfModel_of_toModel
#print axioms Tuc.BoundsListLit.listOfModel_of_toModel
#print axioms Tuc.BoundsListLit.eq_resMap_of_toModel
#print axioms Tuc.BoundsListLit.getUserboundsOnly_eq
#print axioms Tuc.BoundsListLit.isPositive_eq
#print axioms Tuc.BoundsListLit.isNegative_eq
#print axioms Tuc.BoundsListLit.flagStep
#print axioms Tuc.BoundsListLit.decide_nonpos
#print axioms Tuc.BoundsListLit.isSortableLoop_eq
#print axioms Tuc.BoundsListLit.isSortable_eq
#print axioms Tuc.BoundsListLit.optionLe_some
#print axioms Tuc.BoundsListLit.isSortedLoop_eq
#print axioms Tuc.BoundsListLit.isSorted_eq
#print axioms Tuc.BoundsListLit.hasNegativeClosure_eq
#print axioms Tuc.BoundsListLit.hasNegativeIndices_eq
#print axioms Tuc.BoundsListLit.isForwardOnly_eq
#print axioms Tuc.BoundsListLit.setIsLast_zero
#print axioms Tuc.BoundsListLit.setIsLast_succ
#print axioms Tuc.BoundsListLit.setIsLast_cons
#print axioms Tuc.BoundsListLit.fromLoop_guard
#print axioms Tuc.BoundsListLit.fromLoop_eq
#print axioms Tuc.BoundsListLit.fromVec_eq
#print axioms Tuc.BoundsListLit.leftNonzero_cons_bound
#print axioms Tuc.BoundsListLit.leftNonzero_cons_filler
#print axioms Tuc.BoundsListLit.resFlatMapM_eq
#print axioms Tuc.BoundsListLit.unpackClosure_eq
#print axioms Tuc.BoundsListLit.leftNonzero_mem
#print axioms Tuc.BoundsListLit.unpack_eq
#print axioms Tuc.BoundsListLit.complementClosure_eq
#print axioms Tuc.BoundsListLit.any_isBound_eq
#print axioms Tuc.BoundsListLit.fromVecLit_guarded
#print axioms Tuc.BoundsListLit.complement_eq
#print axioms Tuc.BoundsListLit.strLen_append
#print axioms Tuc.BoundsListLit.usizeSub_strLen
#print axioms Tuc.BoundsListLit.strLen_pos
#print axioms Tuc.BoundsListLit.strLen_eq_zero
#print axioms Tuc.BoundsListLit.isCharBoundary_zero
#print axioms Tuc.BoundsListLit.isCharBoundary_prefix
#print axioms Tuc.BoundsListLit.takeBytes_prefix
#print axioms Tuc.BoundsListLit.dropBytes_prefix
#print axioms Tuc.BoundsListLit.strSlice_mid
#print axioms Tuc.BoundsListLit.strSliceFrom_suffix
#print axioms Tuc.BoundsListLit.head_charIndicesFrom
#print axioms Tuc.BoundsListLit.fillerOf_eq
#print axioms Tuc.BoundsListLit.parseAll_cons
#print axioms Tuc.BoundsListLit.pushBoundsLoop_eq
#print axioms Tuc.BoundsListLit.pushFillerLit_eq
#print axioms Tuc.BoundsListLit.lbrace_size
#print axioms Tuc.BoundsListLit.rbrace_size
#print axioms Tuc.BoundsListLit.scanBody_eq
#print axioms Tuc.BoundsListLit.scanLoop_esc
#print axioms Tuc.BoundsListLit.scanLoop_noesc
#print axioms Tuc.BoundsListLit.scanFinish_eq
#print axioms Tuc.BoundsListLit.optBind_eq_match
#print axioms Tuc.BoundsListLit.scanLoop_eq
#print axioms Tuc.BoundsListLit.parseBoundsListLit_unfold
#print axioms Tuc.BoundsListLit.plainList_eq
#print axioms Tuc.BoundsListLit.parseBoundsListLit_toModel
#print axioms Tuc.BoundsListLit.parseBoundsListLit_eq
#print axioms Tuc.BoundsListLit.parseBoundsListLit_never_panics
#print axioms Tuc.BoundsListLit.dropWhile_eq_nil
#print axioms Tuc.BoundsListLit.all_dropWhile
#print axioms Tuc.BoundsListLit.strTrim_isEmpty
#print axioms Tuc.BoundsListLit.fromStrLit_toModel
#print axioms Tuc.BoundsListLit.fromStrLit_eq
#print axioms Tuc.BoundsListLit.fromStrLit_never_panics
#print axioms Tuc.BoundsListLit.parsed_leftNonzero
#print axioms Tuc.BoundsListLit.parsed_list
#print axioms Tuc.BoundsListLit.toModel_allInI32
#print axioms Tuc.BoundsListLit.map_toModel_bofOfModel
#print axioms Tuc.BoundsListLit.allInI32_iff_exists
#print axioms Tuc.BoundsListLit.parseBoundsList_allInI32
#print axioms Tuc.BoundsListLit.fromVec_model
#print axioms Tuc.BoundsListLit.isSortable_model
#print axioms Tuc.BoundsListLit.isSorted_model
#print axioms Tuc.BoundsListLit.hasNegativeIndices_model
#print axioms Tuc.BoundsListLit.isForwardOnly_model
#print axioms Tuc.BoundsListLit.leftNonzero_of_model
#print axioms Tuc.BoundsListLit.unpack_model
#print axioms Tuc.BoundsListLit.complement_model
#print axioms Tuc.char_le_iff
#print axioms Tuc.digitVal_eq
#print axioms Tuc.parseDigits_eq
#print axioms Tuc.parseMag_eq
#print axioms Tuc.parseI32_unfold
#print axioms Tuc.parseI32_eq_spec
#print axioms Tuc.cutAtFirst_eq
#print axioms Tuc.findChar_of_not_mem
#print axioms Tuc.findChar_first
#print axioms Tuc.piecesFrom_of_not_mem
#print axioms Tuc.piecesFrom_append
#print axioms Tuc.piecesFrom_eq
#print axioms Tuc.pieces_eq
#print axioms Tuc.findChar_some_split
#print axioms Tuc.specNat_none_of_mem
#print axioms Tuc.specInt_none_of_mem
#print axioms Tuc.parseSide_cons
#print axioms Tuc.parseSide_none_of_mem
#print axioms Tuc.specIndex_eq
#print axioms Tuc.parseUserBounds_unfold
#print axioms Tuc.sameSign_eq
#print axioms Tuc.decreasing_self
#print axioms Tuc.specRange_of_not_mem
#print axioms Tuc.specRange_append
#print axioms Tuc.specRange_append_of_mem
#print axioms Tuc.specSide_eq
#print axioms Tuc.finishBound_some
#print axioms Tuc.sidesOf_append
#print axioms Tuc.finishBound_sides
#print axioms Tuc.rangeOf_eq
#print axioms Tuc.parseUserBounds_eq_spec
#print axioms Tuc.inI32_filter
#print axioms Tuc.specInt_inI32
#print axioms Tuc.specIndex_some
#print axioms Tuc.specSide_some
#print axioms Tuc.specRange_wf
#print axioms Tuc.WfSides.not_decreasing
#print axioms Tuc.parseUserBounds_some
#print axioms Tuc.parseUserBounds_wf
#print axioms Tuc.accepted_wellformed
#print axioms Tuc.accepted_isLast_false
#print axioms Tuc.markLast_some_bounds
#print axioms Tuc.boundsListOfString_never_panics
#print axioms Tuc.boundsListOfString_ok_has_bound
#print axioms Tuc.isWhitespace_eq
#print axioms Tuc.all_isWhitespace_eq
#print axioms Tuc.hasBrace_eq
#print axioms Tuc.boundsOnly_isEmpty
#print axioms Tuc.markLast_eq
#print axioms Tuc.parseAll_eq
#print axioms Tuc.specCommaList_eq
#print axioms Tuc.tokOfChar_cases
#print axioms Tuc.rawOf_lex
#print axioms Tuc.replace2_cons_ne
#print axioms Tuc.replace2_eq_substEscape
#print axioms Tuc.replace_lbrace2
#print axioms Tuc.replace_rbrace2
#print axioms Tuc.sequentialReplace_eq_unescape
#print axioms Tuc.rawOf_eq_nil
#print axioms Tuc.pushFiller_lit
#print axioms Tuc.parseOutside_lit
#print axioms Tuc.parseBody_lit
#print axioms Tuc.ScanSim.congr
#print axioms Tuc.ScanSim.nil
#print axioms Tuc.ScanSim.lit
#print axioms Tuc.ScanSim.step
#print axioms Tuc.scan_sim
#print axioms Tuc.scan_eq_parseToks
#print axioms Tuc.parseBoundsList_eq
#print axioms Tuc.parse_eq_spec
#print axioms Tuc.accepted_iff_spec
#print axioms Tuc.items_nil
#print axioms Tuc.items_bounds_append
#print axioms Tuc.items_fillerOf_append
#print axioms Tuc.allBounds_some
#print axioms Tuc.specCommaList_shape
#print axioms Tuc.parseToks_items
#print axioms Tuc.parseBoundsList_items
#print axioms Tuc.parseBoundsList_all
#print axioms Tuc.parse_noAdjFillers
#print axioms Tuc.boundsListOfString_wf
#print axioms Tuc.parsed_nonzero
#print axioms Tuc.parsed_inI32
#print axioms Tuc.markLast_none
#print axioms Tuc.splitOnChar_ne_nil
#print axioms Tuc.boundsListOfString_cases
