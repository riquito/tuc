import Tuc.Model.CutStr
import Tuc.Model.BoundsLit
/-!
# Tuc.Model.CutStrLit — the body of `cut_str` (`src/cut_str.rs:260-456`), statement by statement

`Tuc.Model.CutStr` models the per-record function of the general engine in *normal form* (a
pipeline of passes; the two scratch buffers come back as `Option`s; the places that can panic are
folded into one test).  This file follows the Rust text of

* `maybe_replace_delimiter`  (cut_str.rs:149-163)  → `maybeReplaceDelimiterLit`
* `write_maybe_as_json!`     (cut_str.rs:247-258)  → `writeMaybeAsJsonLit`
* `cut_str`                  (cut_str.rs:260-456)  → `cutStrLit`
    - l.280-291 `trimStage`, l.300-330 `compressStage`, l.332-355 `fieldsStage`,
      l.357-455 `emitStage`, the closure of `try_for_each` l.407-446 `outputClosure`

statement by statement (the numbers in the comments are the lines of `cut_str.rs` at commit
9782769 of `/repo`).  `Tuc.Props.CutStrLit` proves that `cutStrLit = cutStr` (bytes written,
status, and the two buffers as the function leaves them) and states the hypotheses.

Conventions (those of `Tuc.Model.LinesLoop` / `Tuc.Model.FastLoop` / `Tuc.Model.BoundsLit`)

* local variables keep their Rust names (camelCase); a `let mut` that is assigned again is a
  shadowing `let` or a field of `Locals` (what l.300-330 leave behind);
* `stdout: &mut W` is a fault-free writer: a statement that writes yields the `Run` of what it
  wrote; `a.seq b` is "`a`, then — unless `a` ended the run — `b`" (the `?` operator); `Err` is
  `Run.fail`, a Rust panic is `Run.panic`;
* the two scratch buffers `fields: &mut Vec<Range<usize>>` and `compressed_line_buf: &mut Vec<u8>`
  are threaded: the function takes them as the previous record left them and returns them as it
  leaves them.  After a panic their content is of no interest (the process is gone): the model
  returns them as they were on entry;
* every operation that can panic is CHECKED and yields `Res.panic`: `option.unwrap()`
  (`unwrap`: l.286, 316, 319, 338, 340, 429), `fields[i]` (`indexRange`: l.420, 421), `r.end - 1` on `usize`
  (`BoundsLit.usizeSub`, l.421), `&line[a..b]` (`sliceBytes`: l.423, 425), `fields.drain(..1)`
  (`drainTo`, l.354);
* **`b.try_into_range(num_fields)`** (l.416) is the MACHINE-INTEGER transcription
  `BoundsLit.UserBoundsL.tryIntoRange` of `Tuc.Model.BoundsLit` (`resolve`): `num_fields =
  fields.len()` becomes `parts_length: i64` (`try_into().unwrap_or(i64::MAX)`), the `i64` sums are
  checked.  The bounds of `Opt` are the model's (`Int` sides); `resolve` stores them in `i32`s first
  (`boundsOfModel`: faithful exactly when the sides fit, which parsing guarantees).  A `Res.panic` of
  `try_into_range` would be a panic of `cut_str`; there is none (`BoundsLit.tryIntoRange_no_panic`);
* callees that have their own statement-level models are called through the existing model:
  `trim` → `trimLiteral`, `fill_with_fields_locations[_greedy]` → `fillWithFieldsLocations[Greedy]`,
  `compress_delimiter` → `compressDelimiter` (all four tied to the Rust text by
  `Tuc.Props.TextLoops`), `trim_regex` → `trimRegex`, `fill_with_fields_locations_using_regex`
  → `fillWithFieldsLocationsUsingRegex`, `UserBoundsList::complement` / `unpack` →
  `complementList` / `unpackList` (`Tuc.Model.Bounds`; per bound they are tied to the Rust
  arithmetic by `BoundsLit.complement_eq` / `unpack_eq`);
* library calls are modelled by what they compute: `Regex::find_iter` is the function stored in
  `RegexBag` (the project's abstraction of a compiled regex), `Regex::replace_all(text,
  NoExpand(r))` and `compress_delimiter_with_regex` are `replaceMatches text r 0 (re text)`,
  bstr's `text.replace(d, r)` is `replaceAll`, `std::str::from_utf8` is `validUtf8`,
  `serde_json::to_string` is `jsonString`, `Vec::pop` is `List.dropLast`;
* `cfg!(feature = "regex")` is `true` (the build the project verifies).
-/

namespace Tuc
namespace CutStrLit
open BoundsLit

/-! ## the vocabulary of the Rust text -/

/-- `option.unwrap()` / `option.as_ref().unwrap()` -/
def unwrap {α : Type} (o : Option α) : Res α :=
  match o with
  | Option.some a => .ok a
  | Option.none => .panic

/-- `v[i]` on a `Vec<Range<usize>>`: panics when `i >= v.len()` -/
def indexRange (v : List Range) (i : Nat) : Res Range :=
  match v[i]? with
  | Option.some x => .ok x
  | Option.none => .panic

/-- `&l[a..b]`: panics when `a > b` or `b > l.len()` -/
def sliceBytes (l : Bytes) (a b : Nat) : Res Bytes :=
  if a ≤ b ∧ b ≤ l.length then .ok (slice l a b) else .panic

/-- `v.drain(..k)` (the drained elements are dropped): panics when `k > v.len()` -/
def drainTo (v : List Range) (k : Nat) : Res (List Range) :=
  if k ≤ v.length then .ok (v.drop k) else .panic

/-- a computation that can fail or panic, inside a function that writes -/
def orStop {α : Type} (x : Res α) (k : α → Run) : Run :=
  match x with
  | .ok a => k a
  | .fail => Run.fail
  | .panic => Run.panic

/-- `b.try_into_range(num_fields)` (l.416) with the Rust integer types: the bound of the model is
    stored in `i32`s, then `Tuc.Model.BoundsLit` -/
def resolve (b : UserBounds) (numFields : Nat) : Res (Nat × Nat) :=
  (boundsOfModel b).tryIntoRange numFields

/-! ## `maybe_replace_delimiter`, `write_maybe_as_json!` -/

/-- `maybe_replace_delimiter(text, opt)` (cut_str.rs:149-163, feature "regex") -/
def maybeReplaceDelimiterLit (text : Bytes) (opt : Opt) : Bytes :=
  if opt.boundsType = .characters then                                 -- 150
    text                                                               -- 151 Cow::Borrowed(text)
  else
    match opt.replaceDelimiter with                                    -- 152 if let Some(new_delimiter)
    | Option.some newDelimiter =>
      match opt.regexBag with                                          -- 153 if let Some(re_bag)
      | Option.some reBag =>
        replaceMatches text newDelimiter 0 (reBag.normal text)         -- 154-156 .normal.replace_all(text, NoExpand(..))
      | Option.none =>
        replaceAll text opt.delimiter newDelimiter                     -- 158 text.replace(&opt.delimiter, new_delimiter)
    | Option.none => text                                              -- 161 Cow::Borrowed(text)

/-- `write_maybe_as_json!(writer, to_print, as_json)` (cut_str.rs:247-258) -/
def writeMaybeAsJsonLit (toPrint : Bytes) (asJson : Bool) : Run :=
  if asJson then                                                       -- 249
    -- JSON strings must be valid UTF-8: anything else is an error
    if validUtf8 toPrint then                                          -- 253 std::str::from_utf8(&to_print)?
      Run.ok (jsonString toPrint)                                      -- 252-253 write_all(to_string(..)?.as_bytes())?
    else Run.fail
  else
    Run.ok toPrint                                                     -- 255 write_all(&to_print)?

/-! ## the closure of `bounds.iter().try_for_each(..)` (l.407-446) -/

/-- l.416-434: `let field_to_print = if r.is_ok() { … } else if … { … } else { return Err(..) };`
    (`.fail` = the `return Err(r.unwrap_err())`) -/
def fieldToPrint (line : Bytes) (fields : List Range) (numFields : Nat) (opt : Opt)
    (delimiterAlreadyReplaced : Bool) (b : UserBounds) : Res Bytes :=
  match resolve b numFields with                                       -- 416 let r = b.try_into_range(num_fields);
  | .panic => .panic                                                   --     (overflow inside try_into_range)
  | .ok r =>                                                           -- 418-419 r.is_ok(), r.unwrap()
    (indexRange fields r.1).bind fun fStart =>                         -- 420 fields[r.start]
    let idxStart := fStart.start                                       -- 420 .start
    (usizeSub r.2 1).bind fun rEndM1 =>                                -- 421 r.end - 1
    (indexRange fields rEndM1).bind fun fEnd =>                        -- 421 fields[..]
    let idxEnd := fEnd.stop                                            -- 421 .end
    (sliceBytes line idxStart idxEnd).bind fun s =>                    -- 423 / 425 &line[idx_start..idx_end]
    if delimiterAlreadyReplaced then                                   -- 422
      .ok s                                                            -- 423 Cow::Borrowed(..)
    else
      .ok (maybeReplaceDelimiterLit s opt)                             -- 425
  | .fail =>
    if b.fallback.isSome then                                          -- 427 b.fallback_oob.is_some()
      -- fallbacks are printed verbatim
      unwrap b.fallback                                                -- 429 .as_ref().unwrap().as_slice()
    else
      match opt.fallbackOob with                                       -- 430 if let Some(generic_fallback)
      | Option.some genericFallback => .ok genericFallback             -- 431
      | Option.none => .fail                                           -- 433 return Err(r.unwrap_err())

/-- the closure (l.407-446) -/
def outputClosure (line : Bytes) (fields : List Range) (numFields : Nat) (opt : Opt)
    (delimiterAlreadyReplaced : Bool) (bof : BoF) : Run :=
  match bof with                                                       -- 408
  | .filler f =>                                                       -- 409
    (Run.ok f).seq Run.empty                                           -- 410-411 write_all(f)?; return Ok(())
  | .bound b =>                                                        -- 413
    orStop (fieldToPrint line fields numFields opt delimiterAlreadyReplaced b) fun fieldToPrint =>   -- 416-434
    (writeMaybeAsJsonLit fieldToPrint opt.json).seq <|                 -- 435
    (if opt.join && !b.isLast then                                     -- 437
      Run.ok (opt.replaceDelimiter.getD opt.delimiter)                 -- 438-443 replace_delimiter.unwrap_or(&delimiter)
     else Run.empty).seq
    Run.empty                                                          -- 446 Ok(())

/-- `bounds.iter().try_for_each(closure)`: stops at the first `Err` -/
def tryForEach (line : Bytes) (fields : List Range) (numFields : Nat) (opt : Opt)
    (delimiterAlreadyReplaced : Bool) : List BoF → Run
  | [] => Run.empty
  | bof :: rest =>
    (outputClosure line fields numFields opt delimiterAlreadyReplaced bof).seq
      (tryForEach line fields numFields opt delimiterAlreadyReplaced rest)

/-! ## the stages of `cut_str` -/

/-- l.280-291: `line` after the trim -/
def trimStage (line : Bytes) (opt : Opt) : Res Bytes :=
  match opt.trim with                                                  -- 282 if let Some(trim_kind) = opt.trim
  | Option.some trimKind =>
    if opt.regexBag.isSome then                                        -- 283
      (unwrap opt.regexBag).bind fun bag =>                            -- 286 opt.regex_bag.as_ref().unwrap()
      .ok (trimRegex line trimKind (bag.greedy line))                  -- 286 trim_regex(line, &trim_kind, &….greedy)
    else
      .ok (trimLiteral line trimKind opt.delimiter)                    -- 289 trim(line, &trim_kind, &opt.delimiter)
  | Option.none => .ok line

/-- what l.300-330 leave behind -/
structure Locals where
  /-- l.280 (`let mut line`), reassigned l.322, 328 -/
  line : Bytes
  /-- l.305, reassigned l.316 -/
  delimiter : Bytes
  /-- l.303, reassigned l.323 -/
  shouldBuildRangesUsingRegex : Bool
  /-- l.310, reassigned l.324 -/
  delimiterAlreadyReplaced : Bool
  /-- the scratch buffer (written l.327) -/
  compressedLineBuf : Bytes
  deriving DecidableEq, Repr

/-- l.300-330 -/
def compressStage (line : Bytes) (opt : Opt) (compressedLineBuf : Bytes) : Res Locals :=
  let shouldBuildRangesUsingRegex := opt.regexBag.isSome && true       -- 303 … && cfg!(feature = "regex")
  let delimiter := opt.delimiter                                       -- 305
  let shouldCompressDelimiter := opt.compressDelimiter                 -- 306-307
    && (opt.boundsType = .fields || opt.boundsType = .lines)
  -- Compressing with a regex rewrites the delimiters into their replacement
  let delimiterAlreadyReplaced := false                                -- 310
  if shouldCompressDelimiter then                                      -- 312
    if opt.regexBag.isSome && true then                                -- 313
      (unwrap opt.replaceDelimiter).bind fun delimiter =>              -- 316 we checked earlier the invariant
      (unwrap opt.regexBag).bind fun bag =>                            -- 319 opt.regex_bag.as_ref().unwrap()
      let lineHolder := replaceMatches line delimiter 0 (bag.greedy line)   -- 317-321 compress_delimiter_with_regex
      .ok { line := lineHolder,                                        -- 322 line = &line_holder
            delimiter := delimiter,
            shouldBuildRangesUsingRegex := false,                      -- 323
            delimiterAlreadyReplaced := true,                          -- 324
            compressedLineBuf := compressedLineBuf }
    else
      let compressedLineBuf :=
        compressDelimiter line opt.delimiter compressedLineBuf         -- 327 compress_delimiter(line, &opt.delimiter, buf)
      .ok { line := compressedLineBuf,                                 -- 328 line = compressed_line_buf
            delimiter := delimiter,
            shouldBuildRangesUsingRegex := shouldBuildRangesUsingRegex,
            delimiterAlreadyReplaced := delimiterAlreadyReplaced,
            compressedLineBuf := compressedLineBuf }
  else
    .ok { line := line, delimiter := delimiter,
          shouldBuildRangesUsingRegex := shouldBuildRangesUsingRegex,
          delimiterAlreadyReplaced := delimiterAlreadyReplaced,
          compressedLineBuf := compressedLineBuf }

/-- l.332-355: the vector `fields` after the split -/
def fieldsStage (loc : Locals) (opt : Opt) (fields : List Range) : Res (List Range) :=
  (if loc.shouldBuildRangesUsingRegex then                             -- 332
    (unwrap opt.regexBag).bind fun bag =>                              -- 338 / 340 opt.regex_bag.as_ref().unwrap()
    .ok (fillWithFieldsLocationsUsingRegex fields loc.line             -- 334-342
      ((if opt.greedyDelimiter then bag.greedy else bag.normal) loc.line))
   else if opt.greedyDelimiter then                                    -- 343
    .ok (fillWithFieldsLocationsGreedy fields loc.line loc.delimiter)  -- 344
   else
    .ok (fillWithFieldsLocations fields loc.line loc.delimiter)).bind fun fields =>   -- 346
  if opt.boundsType = .characters && decide (fields.length > 2) then   -- 349
    -- the empty-string delimiter generated ranges alongside each character, plus one at each
    -- boundary, e.g. _f_o_o_. We drop them.
    let fields := fields.dropLast                                      -- 353 fields.pop()
    drainTo fields 1                                                   -- 354 fields.drain(..1)
  else .ok fields

/-- l.357-455: everything after the fields are known -/
def emitStage (line : Bytes) (fields : List Range) (opt : Opt) (delimiterAlreadyReplaced : Bool)
    (eol : Bytes) : Run :=
  let numFields := fields.length                                       -- 357
  if opt.onlyDelimited && numFields == 1 then                          -- 359
    -- there were no delimiters: with `only_delimited` we must skip the line
    Run.empty                                                          -- 362 return Ok(())
  else
    (if opt.json then Run.ok [0x5B] else Run.empty).seq <|             -- 365-367 stdout.write_all(b"[")?
    let bounds := opt.bounds                                           -- 370
    orStop (if opt.complement then                                     -- 372
              complementList bounds.list numFields                     -- 373 bounds.complement(num_fields)?
            else .ok bounds) fun bounds =>
    if opt.complement && bounds.list.isEmpty then                      -- 376 bounds.is_empty()
      -- If the original bounds matched all the fields, the complement is empty
      (if !opt.onlyDelimited then Run.ok eol else Run.empty).seq       -- 378-380
      Run.empty                                                        -- 381 return Ok(())
    else
      orStop (if (opt.json || (opt.boundsType = .characters && opt.replaceDelimiter.isSome))   -- 385
                  && bounds.list.any needsUnpack then                  -- 391-401
                unpackList bounds.list numFields                       -- 402 bounds.unpack(num_fields)
              else .ok bounds) fun bounds =>
      (tryForEach line fields numFields opt delimiterAlreadyReplaced bounds.list).seq <|   -- 407-447
      (if opt.json then Run.ok [0x5D] else Run.empty).seq <|           -- 449-451 stdout.write_all(b"]")?
      (Run.ok eol).seq                                                 -- 453 stdout.write_all(eol)?
      Run.empty                                                        -- 455 Ok(())

/-- `cut_str(line, opt, stdout, fields, compressed_line_buf, eol)` (cut_str.rs:260-456): the run,
    `fields` and `compressed_line_buf` afterwards -/
def cutStrLit (line : Bytes) (opt : Opt) (fields : List Range) (compressedLineBuf : Bytes)
    (eol : Bytes) : Run × List Range × Bytes :=
  if opt.regexBag.isSome && (opt.compressDelimiter && opt.replaceDelimiter.isNone) then   -- 268-269
    (Run.fail, fields, compressedLineBuf)                              -- 271 bail!
  else if opt.regexBag.isSome && (opt.join && opt.replaceDelimiter.isNone) then   -- 268, 274
    (Run.fail, fields, compressedLineBuf)                              -- 276 bail!
  else
    match trimStage line opt with                                      -- 280-291
    | .fail => (Run.fail, fields, compressedLineBuf)
    | .panic => (Run.panic, fields, compressedLineBuf)
    | .ok line =>
      if line.isEmpty then                                             -- 293
        ((if !opt.onlyDelimited then Run.ok eol else Run.empty).seq    -- 294-296
          Run.empty, fields, compressedLineBuf)                        -- 297 return Ok(())
      else
        match compressStage line opt compressedLineBuf with            -- 300-330
        | .fail => (Run.fail, fields, compressedLineBuf)
        | .panic => (Run.panic, fields, compressedLineBuf)
        | .ok loc =>
          match fieldsStage loc opt fields with                        -- 332-355
          | .fail => (Run.fail, fields, compressedLineBuf)
          | .panic => (Run.panic, fields, compressedLineBuf)
          | .ok fields =>
            (emitStage loc.line fields opt loc.delimiterAlreadyReplaced eol,   -- 357-455
              fields, loc.compressedLineBuf)

end CutStrLit
end Tuc
