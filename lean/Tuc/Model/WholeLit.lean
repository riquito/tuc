import Tuc.Model.OptLit
import Tuc.Model.ReadLoops
import Tuc.Model.CutStrLit
import Tuc.Model.FastLoop
import Tuc.Model.StreamLoop
import Tuc.Model.LinesLoop
/-!
# Tuc.Model.WholeLit — the whole program, assembled ONLY from the statement-level transcriptions

Every Rust function of `tuc` has a statement-by-statement transcription ("literal model") in its
own file, each proved equal to the normal-form model that the property theorems speak about.  But
each of those literal models CALLS the normal-form model of its callees: `OptLit.dispatchLit` calls
the normal-form engines on the concatenated input, `ReadLoops.readAndCutStrLoop` calls the
normal-form `cutStr`, `LinesLoop.cutLinesLit` calls `cutStr` and reads a byte string, …  This file
is the CAPSTONE: one definition

    tucProgramLit (regexOk : Arg → Bool) (argv : List Arg) (segs : List Bytes) : MainResult

in which every call goes to the LITERAL transcription of the callee, over the SEGMENTED reader
(`segs` = the chunks that the successive `fill_buf()` calls of the `BufReader` hand out):

| Rust | here | built from |
|---|---|---|
| `main` l.259 `parse_args()?` (tuc.rs) | `tucProgramLit` | `parseArgv` (`Tuc.Model.Argv`: pico_args + `parse_args`) |
| regex compilation inside `parse_args` (tuc.rs:170-185) | `tucRunWhole` | `compileBag` (as `tucRun`) |
| `main` l.261-289 | `dispatchWhole` | the text of `OptLit.dispatchLit`; `OptLit.StreamOptLit.tryFrom`, `OptLit.FastOptLit.tryFrom` |
| `read_and_cut_str` (cut_str.rs:458-503) | `readAndCutStrWhole` | `ReadLoops.forByteRecordLoop` (bstr `for_byte_record`, `for_byte_record_with_terminator`, std `read_until`) with the closure `cutStrLitClosure` = l.472-485 calling **`CutStrLit.cutStrLit`** (machine-integer `try_into_range`), the two scratch buffers threaded as captured state |
| `read_and_cut_text_as_bytes` (fast_lane.rs:173-198) | `readAndCutTextAsBytesWhole` | `ReadLoops.forByteRecordLoop` with the closure `fastLaneClosure` = l.183-188 calling **`cutStrFastLaneLoop`** (`Tuc.Model.FastLoop`; `i32` field counter), the vector `fields` as captured state |
| `read_and_cut_bytes_stream` (stream.rs:161-169) | `readAndCutBytesStreamWhole` | `OptLit.ForwardBoundsLit.getLastBound`, then **`StreamLoop.cutBytesStreamLoop`** |
| `read_line_with_eol` (read_utils.rs:16-45) | `readLineWithEolSeg` | `LinesLoop.readLineWithEol` with `read_until` = **`ReadLoops.readUntilLoop`** (std's loop over `fill_buf` / `consume`) |
| `cut_lines_forward_only` (cut_lines.rs:10-127) | `cutLinesForwardOnlyWhole` | `readWhileSeg` = `LinesLoop.readWhile` over the segmented reader; `LinesLoop.nextLine`, `innerWhile`, `epilogueWhile` (they do not touch the reader) |
| `cut_lines` (cut_lines.rs:129-149) | `cutLinesWhole` | **`ReadLoops.readToEndLoop`**, then **`CutStrLit.cutStrLit`** |
| `read_and_cut_lines` (cut_lines.rs:151-169) | `readAndCutLinesWhole` | the text of `readAndCutLinesLoop` |
| `read_and_cut_bytes` (cut_bytes.rs:38-49) | `ReadLoops.readAndCutBytesLoop` | (is fully literal already: `read_bytes_to_end`, `read_to_end`, `cut_bytes`) |

`Tuc.Props.WholeLit` proves `tucProgramLit_eq : … → tucProgramLit regexOk argv segs = tucMain
regexOk argv segs` for every argument vector, every input and every segmentation into non-empty
reads, states the hypotheses (non-empty reads; fewer than 2³¹ fields per record where `cut_str`
runs; the `i32` counter of the fast lane) as one decidable predicate,
and transports totality, chunk independence and an end-to-end specification to `tucProgramLit`.

What is still called through a normal-form model INSIDE the literal pieces (each with its own
refinement theorem, so nothing is lost — but it is not "text" in this file):

* inside `CutStrLit.cutStrLit`: `trim` / `fill_with_fields_locations*` / `compress_delimiter`
  (`Tuc.Props.TextLoops` ties them to `Tuc.Model.TextLoops`), the list-level `complement` / `unpack`
  (`BoundsLit.complement_eq` / `unpack_eq` per bound);
* inside `cutStrFastLaneLoop` and `ReadLoops.cutBytesBody`: `UserBounds::try_into_range` is the
  unbounded `UserBounds.tryIntoRange` (`BoundsLit.tryIntoRange_model` is its refinement);
* inside `StreamLoop.cutBytesStreamLoop`: `print_bof` is called through `StreamLoop.printBofCall`
  (`OptLit.printBofLit_eq_of_opt` ties it to the statement-level `OptLit.printBofLit`);
* inside `parseArgv`: `UserBoundsList::from_str` is `boundsListOfString`
  (`Tuc.Props.BoundsListLit` ties it to `Tuc.Model.BoundsListLit`).

Conventions: those of `Tuc.Model.ReadLoops` (the reader `stdin : List Bytes`, `fillBuf`,
`consume`; an empty `fill_buf()` is EOF; `stdout` fault-free: a statement that writes yields the
`Run` of what it wrote, `a.seq b` = the `?` operator; every panicking operation is checked; loops
whose progress is not structural take fuel and yield `hang`).  The numbers in the trailing comments
are the lines of the Rust file named in the section title (`/repo` at commit 9782769).
-/

namespace Tuc
namespace WholeLit

open StreamLoop (fillBuf consume totalBytes fuelFor)
open ReadLoops (Closure forByteRecordLoop readUntilLoop readToEndLoop stripSuffix)
open OptLit

/-! ## `read_and_cut_str` (cut_str.rs:458-503) -/

/-- the closure of l.472-485 (and, word for word, of l.486-499): it captured `bounds_as_ranges` and
    `compressed_line_buf` by `&mut`; the callee is the statement-level `cut_str` -/
def cutStrLitClosure (opt : Opt) : Closure (List Range × Bytes) := fun line st =>
  let line := (stripSuffix line [opt.eol.byte]).getD line               -- 473 line.strip_suffix(&[opt.eol as u8]).unwrap_or(line)
  let r := CutStrLit.cutStrLit line opt st.1 st.2 [opt.eol.byte]        -- 474-481 cut_str(line, &opt, stdout, &mut …, &mut …, &[opt.eol as u8])
  (r.1, true, (r.2.1, r.2.2))                                           -- 483 .map_err(…) 484 .and(Ok(true))

/-- `read_and_cut_str(stdin, stdout, opt)` on a fault-free reader that hands out the chunks `stdin` -/
def readAndCutStrWhole (opt : Opt) (stdin : List Bytes) : Run :=
  -- 463 line_buf is only asked for its capacity
  let boundsAsRanges : List Range := []                                 -- 464
  let compressedLineBuf : Bytes := []                                   -- 465-469 (both arms: an empty Vec)
  -- 471 match opt.eol: the two arms have the same text
  let r := forByteRecordLoop opt.eol.byte (cutStrLitClosure opt) stdin  -- 472 / 486 stdin.for_byte_record(opt.eol.into(), |line| …)
             (boundsAsRanges, compressedLineBuf)
  r.1.seq Run.empty                                                     -- 485 / 499 `?`; 502 Ok(())

/-! ## `read_and_cut_text_as_bytes` (fast_lane.rs:173-198) -/

/-- the closure of l.183-188 (and of l.189-194): it captured `fields` by `&mut` -/
def fastLaneClosure (opt : FastOpt) (lastInterestingField : Side) : Closure (List Nat) := fun line fields =>
  let r := cutStrFastLaneLoop line opt fields lastInterestingField      -- 184 / 190 cut_str_fast_lane(line, opt, stdout, &mut fields, last_interesting_field)
  (r.1, true, r.2)                                                      -- 186-187 .map_err(…).and(Ok(true))

/-- `read_and_cut_text_as_bytes(stdin, stdout, opt)` on a fault-free reader that hands out the
    chunks `stdin` -/
def readAndCutTextAsBytesWhole (opt : FastOpt) (stdin : List Bytes) : Run :=
  let fields : List Nat := []                                           -- 178 Vec::with_capacity(16)
  let lastInterestingField := opt.bounds.lastInteresting                -- 180
  match opt.eol with                                                    -- 182
  | .newline =>
    (forByteRecordLoop opt.eol.byte                                     -- 183 stdin.for_byte_record(opt.eol.into(), |line| …)
      (fastLaneClosure opt lastInterestingField) stdin fields).1.seq    -- 188 `?`
      Run.empty                                                         -- 197 Ok(())
  | .zero =>
    (forByteRecordLoop opt.eol.byte                                     -- 189
      (fastLaneClosure opt lastInterestingField) stdin fields).1.seq    -- 194 `?`
      Run.empty                                                         -- 197 Ok(())

/-! ## `read_and_cut_bytes_stream` (stream.rs:161-169) -/

/-- `read_and_cut_bytes_stream(stdin, stdout, opt)`: `OptLit.readAndCutBytesStreamLit` with the
    callee `cut_bytes_stream` = the statement-level `StreamLoop.cutBytesStreamLoop` -/
def readAndCutBytesStreamWhole (opt : StreamOptLit) (stdin : List Bytes) : Run :=
  match opt.bounds.getLastBound with                                    -- 166 opt.bounds.get_last_bound()
  | Option.none => Run.panic                                            -- l.95 panic!
  | Option.some b =>
    let lastInterestingField := b.r                                     -- 166 .r
    (StreamLoop.cutBytesStreamLoop (opt.toModel lastInterestingField) stdin).seq   -- 167 cut_bytes_stream(..)?
      Run.empty                                                         -- 168 Ok(())

/-! ## `read_line_with_eol` (read_utils.rs:16-45) over the segmented reader -/

/-- `read_line_with_eol(reader, buffer, eol)`: the text of `LinesLoop.readLineWithEol`, with
    `read_until` / `read_line` = std's loop `ReadLoops.readUntilLoop` over `fill_buf` / `consume`
    (entered with `totalBytes reader + 1` units of fuel, as in `ReadLoops.outerLoop`).  The result
    and the reader afterwards; `panic` / `hang` are those of `read_until` (the checked slice
    `&available[..=i]`, the fuel). -/
def readLineWithEolSeg (reader : List Bytes) (eol : EOL) : Outcome (LinesLoop.LineRead × List Bytes) :=
  let buffer : Bytes := []                                              -- 21 buffer.clear()
  let m : Outcome (Option Nat × Bytes × List Bytes) :=                  -- (result, buffer, reader)
    match eol with                                                      -- 23
    | .newline =>
      -- 25 reader.read_line(buffer): read_until(b'\n') into the string, checked as UTF-8
      match readUntilLoop 10 (totalBytes reader + 1) reader [] 0 with
      | .hang => .hang
      | .panic => .panic
      | .ok (n, bytes, reader) =>
        if validUtf8 bytes then .ok (Option.some n, buffer ++ bytes, reader)
        else .ok (Option.none, buffer, reader)
    | .zero =>
      let bytes := buffer                                               -- 29 take(buffer).into_bytes()
      match readUntilLoop eol.byte (totalBytes reader + 1) reader bytes 0 with   -- 30 read_until(eol as u8, &mut bytes)
      | .hang => .hang
      | .panic => .panic
      | .ok (res, bytes, reader) =>
        if validUtf8 bytes then                                         -- 31 String::from_utf8(bytes)
          .ok (Option.some res, bytes, reader)                          -- 32-35 *buffer = s; res
        else
          .ok (Option.none, [], reader)                                 -- 36-39 Err(InvalidData)
  -- 43-44 .map(|u| if u == 0 { None } else { Some(buffer) }).transpose()
  match m with
  | .hang => .hang
  | .panic => .panic
  | .ok m =>
    match m.1 with
    | Option.none => .ok (.someErr, m.2.2)
    | Option.some u => if u == 0 then .ok (.none, m.2.2) else .ok (.someOk m.2.1, m.2.2)

/-! ## `cut_lines_forward_only` (cut_lines.rs:10-127) over the segmented reader -/

/-- `while let Some(line) = read_line_with_eol(stdin, &mut line_buf, opt.eol)` (l.22-87): the text of
    `LinesLoop.readWhile`; only the reader differs -/
def readWhileSeg (opt : Opt) : Nat → List Bytes → LinesLoop.Vars → Run × LinesLoop.Vars
  | 0, _, v => (Run.hang, v)
  | fuel + 1, stdin, v =>
    match readLineWithEolSeg stdin opt.eol with                         -- 22
    | .hang => (Run.hang, v)                                            -- inside read_until
    | .panic => (Run.panic, v)                                          -- inside read_until
    | .ok (.none, _) => (Run.empty, v)                                  -- the loop ends
    | .ok (line, stdin) =>
      let v := LinesLoop.nextLine v                                     -- 23-26
      match line with                                                   -- 28 let line = line?;
      | .none => (Run.empty, v)                                         -- (not reached: matched above)
      | .someErr => (Run.fail, v)                                       -- 28 `?`
      | .someOk line =>
        let line := stripEol opt.eol.byte line                          -- 30 strip_suffix(eol).unwrap_or(line)
        let w := LinesLoop.innerWhile opt line (opt.bounds.list.length + 1) v     -- 35-81
        let v := w.2
        if v.boundsIdx == opt.bounds.list.length then                   -- 83
          (w.1, v)                                                      -- 85 break
        else
          let l := readWhileSeg opt fuel stdin v
          (w.1.seq l.1, l.2)

/-- `cut_lines_forward_only(stdin, stdout, opt)`: the text of `cutLinesForwardOnlyLoop` -/
def cutLinesForwardOnlyWhole (opt : Opt) (stdin : List Bytes) : Run :=
  let v : LinesLoop.Vars :=
    { lineIdx := 0, pastLastIndex := false, boundsIdx := 0, addNewlineNext := false }   -- 18-21
  let w := readWhileSeg opt (totalBytes stdin + 1) stdin v              -- 22-87
  let e := LinesLoop.epilogueWhile opt (opt.bounds.list.length + 1) w.2 -- 90-122
  (w.1.seq e.1).seq (Run.ok [opt.eol.byte])                             -- 124 stdout.write_all(&[opt.eol as u8])?

/-! ## `cut_lines`, `read_and_cut_lines` (cut_lines.rs:129-169) -/

/-- `cut_lines(stdin, stdout, opt)`: `read_to_end` is std's loop `ReadLoops.readToEndLoop`, the
    callee is the statement-level `cut_str` -/
def cutLinesWhole (opt : Opt) (stdin : List Bytes) : Run :=
  let buffer : Bytes := []                                              -- 130 Vec::with_capacity(32 * 1024)
  match readToEndLoop (fuelFor stdin) stdin buffer 0 with               -- 131 stdin.read_to_end(&mut buffer)?
  | .hang => Run.hang
  | .panic => Run.panic
  | .ok (_, buffer, _) =>
    if !validUtf8 buffer then Run.fail                                  -- 132 std::str::from_utf8(&buffer)?
    else
      let bufferAsStr := buffer
      let boundsAsRanges : List Range := []                             -- 133
      let compressedLineBuf : Bytes := []                               -- 134
      let bufferAsStr := stripEol opt.eol.byte bufferAsStr              -- 136-138
      -- 140 Just use cut_str, we're cutting a (big) string whose delimiter is newline
      (CutStrLit.cutStrLit bufferAsStr opt boundsAsRanges compressedLineBuf [opt.eol.byte]).1   -- 141-148

/-- `read_and_cut_lines(stdin, stdout, opt)` -/
def readAndCutLinesWhole (opt : Opt) (stdin : List Bytes) : Run :=
  let canBeStreamed :=
    !opt.complement && !opt.compressDelimiter && isForwardOnly opt.bounds.list   -- 159-160
  if canBeStreamed then                                                 -- 162
    (cutLinesForwardOnlyWhole opt stdin).seq Run.empty                  -- 163 …?; 168 Ok(())
  else
    (cutLinesWhole opt stdin).seq Run.empty                             -- 165 …?; 168 Ok(())

/-! ## `main` (bin/tuc.rs:258-290) -/

/-- `main` from l.261 on, `opt` being what `parse_args()?` returned: the text of
    `OptLit.dispatchLit`, every engine being the statement-level one over the reader `segs`.
    `Option.none` = the `std::process::exit(1)` of l.267; a panic is `Option.some Run.panic`. -/
def dispatchWhole (opt : Opt) (segs : List Bytes) : Option Run :=
  if opt.fixedMemory.isSome then                                        -- 264
    match StreamOptLit.tryFrom opt with                                 -- 265 StreamOpt::try_from(&opt).unwrap_or_else(..)
    | .fail => Option.none                                              -- 266-267 eprintln!(..); exit(1)
    | .panic => Option.some Run.panic
    | .ok streamOpt =>
      Option.some (readAndCutBytesStreamWhole streamOpt segs)           -- 270 read_and_cut_bytes_stream(..)?; 272; 274
  else if opt.boundsType = .bytes then                                  -- 277
    Option.some (ReadLoops.readAndCutBytesLoop opt segs)                -- 278 read_and_cut_bytes(..)?
  else if opt.boundsType = .lines then                                  -- 279
    Option.some (readAndCutLinesWhole opt segs)                         -- 280 read_and_cut_lines(..)?
  else
    match FastOptLit.tryFrom opt with                                   -- 281 else if let Ok(fast_opt) = FastOpt::try_from(&opt)
    | .ok fastOpt => Option.some (readAndCutTextAsBytesWhole fastOpt segs)   -- 282 read_and_cut_text_as_bytes(..)?
    | .fail => Option.some (readAndCutStrWhole opt segs)                -- 283-284 read_and_cut_str(..)?
    | .panic => Option.some Run.panic
                                                                        -- 287 stdout.flush()?; 289 Ok(())

/-- `tucRun` of `Tuc.Model.Main` with the statement-level dispatch (the regex bag is compiled as
    `tucRun` compiles it: tuc.rs:170-185) -/
def tucRunWhole (o : Opt) (regexText : Option Arg) (segs : List Bytes) : MainResult :=
  match compileBag o regexText with
  | Option.none => .unmodelled
  | Option.some bag =>
    let o := { o with regexBag := bag }
    if o.boundsType = .characters && !validUtf8 segs.flatten then .unmodelled
    else MainResult.ofDispatch (dispatchWhole o segs)

/-- **the whole program, from the argument vector to the bytes on stdout, made of the
    statement-level transcriptions only**: `parse_args()?` (tuc.rs:259, `parseArgv`), then the rest
    of `main` on a stdin that delivers `segs.flatten` in the pieces `segs` -/
def tucProgramLit (regexOk : Arg → Bool) (argv : List Arg) (segs : List Bytes) : MainResult :=
  match parseArgv regexOk argv with                                     -- 259
  | .help => .help
  | .version => .version
  | .reject => .reject
  | .panic => .panic
  | .run o _ regexText => tucRunWhole o regexText segs                  -- 261-289

end WholeLit
end Tuc
