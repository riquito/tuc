import Tuc.Model.Bounds
/-!
# Tuc.Model.BoundsLit — `src/bounds/side.rs` and `src/bounds/userbounds.rs` with MACHINE INTEGERS

`Tuc.Model.Bounds` models the bounds code over the unbounded integers (`Int` indexes, `Nat`
counts).  This file follows the Rust text of the same functions statement by statement with the
Rust integer types made explicit (the numbers in the comments are the lines of `side.rs` /
`userbounds.rs` at commit 9782769 of `/repo`, EXCEPT the body of `try_into_range`, which is the
REPAIRED text — the arithmetic in `i64` instead of `parts_length as i32` — numbered from its
unchanged first line 220 as `rustfmt` lays it out: 220-264, four lines more than before; the numbers
quoted for the items after it are still those of commit 9782769):

* `<i32 as FromStr>::from_str`  (core `from_ascii_radix`, radix 10)        → `parseI32Lit`
* `Side::from_str`              (side.rs:15-23)                            → `SideL.fromStr`
* `impl PartialOrd for Side`    (side.rs:36-49)                            → `SideL.partialCmp`, `SideL.gt`
* `UserBounds::from_str`        (userbounds.rs:37-86)                      → `UserBoundsL.fromStr`
* `From<Range<usize>>`          (userbounds.rs:90-102)                     → `UserBoundsL.ofRange`
* `impl PartialOrd for UserBounds` (userbounds.rs:110-117)                 → `UserBoundsL.partialCmp`
* `UserBounds::matches`         (userbounds.rs:170-192)                    → `UserBoundsL.matches`
* `UserBounds::try_into_range`  (userbounds.rs:220-264, repaired text)     → `UserBoundsL.tryIntoRange`
* `UserBounds::unpack`          (userbounds.rs:264-281)                    → `UserBoundsL.unpack`
* `UserBounds::complement`      (userbounds.rs:284-288)                    → `UserBoundsL.complement`
* `complement_std_range`        (userbounds.rs:291-304)                    → `complementStdRangeLit`

`Tuc.Props.BoundsLit` proves that each of them agrees with `Tuc.Model.Bounds` — for every argument
where no width is involved; `try_into_range` for every `parts_length ≤ i64::MAX` (every length a
Rust slice can have) and "the left side is not the literal 0" (which the parser guarantees: `-1 as
usize`); `unpack` / `complement`, which still go through `i as i32 + 1` and
`usize::try_into::<i32>().expect(..)`, under `num_fields < 2³¹` — and shows by concrete values that
these hypotheses cannot be dropped.

History: until the repair `try_into_range` began with `let parts_length = parts_length as i32;` and
computed in `i32`; the transcription of that text (`usizeAsI32 partsLength`, `I32` arithmetic,
`i32AsUsize`) and the witnesses of the defect it had (`tuc -b 1:3` on a 2 GiB input: "Out of
bounds: 1") are in the commit history of this file and of `Tuc.Props.BoundsLit`.

Conventions

* **`i32`** is `I32`: an `Int` TOGETHER WITH the proof that it lies in `[-2³¹, 2³¹ - 1]`.  A value
  outside the range cannot be written down, exactly as in Rust.
* every `+`, `-`, `*` and unary `-` on `i32` is a CHECKED operation (`I32.add`, `I32.sub`,
  `I32.mul`, `I32.neg`): when the mathematical result does not fit, the outcome is `Res.panic` —
  the behaviour of the debug build and of the test harness, which are compiled with overflow checks
  (`attempt to add with overflow`).  (The release build wraps instead; it is not modelled here.)
  `checked_add` / `checked_sub` / `checked_mul` (used by the number parser of `core`) yield `None`.
* **`i64`** is `I64`, in the same way (`[-2⁶³, 2⁶³ - 1]`); `+`, `-` and unary `-` on it are checked
  (`I64.add`, `I64.sub`, `I64.neg`).  `Tuc.Props.BoundsLit` PROVES that none of them can overflow in
  `try_into_range` (`tryIntoRange_no_panic`: sides are `i32` values; every `parts_length`).
* every cast is a named function that does what `as` does: `usizeAsI32` (`x as i32`: the low 32 bits,
  read as two's complement), `i64AsUsize` (`x as usize`: the same 64 bits read as unsigned, so
  `-1 as usize = 2⁶⁴ - 1`), `u32AsI32`; `i64::from(v)` for `v: i32`
  is `i64FromI32` (lossless); `usize::try_into::<i32>()` is `usizeTryIntoI32` (`None` above
  `i32::MAX`), its `.expect(..)` is checked (`Res.panic`); `usize::try_into::<i64>()` is
  `usizeTryIntoI64` (`None` above `i64::MAX`), `.unwrap_or(d)` is `unwrapOr`.
* **`usize`** is `Nat` (project convention: a slice of 2⁶⁴ bytes does not exist, so `usize`
  arithmetic is unbounded; the only places where the width of `usize` shows are `i64AsUsize` and
  `usizeTryIntoI64`).
  `s.len() - 1` is checked all the same (`usizeSub`).
* `Result<T>` is `Res T`: `.ok`, `.fail` (= `Err`, every `bail!` and every `?`), `.panic`
  (overflow, `expect`, slicing out of range).  `a.bind f` is "`a?`, then `f`";
  `someOrFail o k` is `match o { Some(v) => k(v), None => return Err(..) }` (the macro
  `unwrap_or_PIE!` of `core`), `someOrPanic o k` is `o.expect(..)` followed by `k`.  (Combinators
  rather than nested `match`es: their equations are propositional lemmas, so that no proof step
  asks the kernel to evaluate a `match` on `I32.wrap ↑n` — see the note in `Tuc.Props.BoundsLit`.)
* `&&` and `||` evaluate their right operand only when needed, as in Rust: an operand that can
  overflow is sequenced accordingly (`v > parts_length || v < -parts_length`, l.229/244: the
  negation is computed only if the first test is false).
* a `match` with guards is an `if` chain in the order of the arms.
* `&str` is `List Char` (argv text, as everywhere in the model) and offsets into it count
  characters: `s.find(':')`, `s.len()`, `&s[a..]`, `&s[..b]` are `findChar`, `List.length`,
  `strFrom`, `strTo` (checked: `Res.panic` beyond the end).  The Rust offsets count bytes; the only
  characters whose offsets are used are `:` and `=` (ASCII), and the only arithmetic on them is
  `idx_colon + 1` and `s.len() - 1`.  `str::parse::<i32>` walks over `src.as_bytes()`: here it
  walks over the characters (`*c as char` is the character itself; a non-ASCII character is one
  non-digit instead of two to four non-digit bytes — what differs is the length seen by
  `can_not_overflow`, which only chooses between two loops that agree:
  `uncheckedLoop_eq_checkedLoop` in `Tuc.Props.BoundsLit`, and both fail on a non-digit).
  `char::to_digit` computes in `u32` = `UInt32` (`wrapping_sub`).
* `Vec<u8>` fallbacks: `fallback.into()` is `utf8`.
* `Range<usize>` is `Nat × Nat` (`start`, `end`), as in `Tuc.Model.Bounds`; iterating over it
  (`r.map(..).collect()`, l.266-271) is a walk over `List.range' start (end - start)` — empty when
  `end ≤ start`, as `Range::next` is.
-/

namespace Tuc
namespace BoundsLit

/-! ## `Result` plumbing -/

/-- `r.map(f)` on `Result` (a panic stays a panic) -/
def resMap {α β : Type} (f : α → β) : Res α → Res β
  | .ok a => .ok (f a)
  | .fail => .fail
  | .panic => .panic

/-- `Option` read as `Result`: `None` is `Err` -/
def resOfOption {α : Type} : Option α → Res α
  | Option.some a => .ok a
  | Option.none => .fail

/-- `iter.map(f).collect()` where `f` can fail or panic: stops at the first one that does -/
def resMapM {α β : Type} (f : α → Res β) : List α → Res (List β)
  | [] => .ok []
  | a :: t => (f a).bind fun b => (resMapM f t).bind fun bs => .ok (b :: bs)

/-- `match option { Some(value) => …, None => return Err(..) }` — the macro `unwrap_or_PIE!` of
    the number parser, `ok_or(..)?` -/
def someOrFail {α β : Type} (o : Option α) (k : α → Res β) : Res β :=
  match o with
  | Option.some a => k a
  | Option.none => .fail

/-- `option.expect(..)` / `.unwrap()`, then the rest: `None` panics -/
def someOrPanic {α β : Type} (o : Option α) (k : α → Res β) : Res β :=
  match o with
  | Option.some a => k a
  | Option.none => .panic

/-! ## `i32` -/

/-- `i32`: an integer together with the proof that it fits -/
structure I32 where
  val : Int
  lo : -2147483648 ≤ val
  hi : val ≤ 2147483647
  deriving DecidableEq

instance : Repr I32 := ⟨fun x n => reprPrec x.val n⟩

/-- an `i32` literal -/
def i32 (v : Int) (lo : -2147483648 ≤ v := by decide) (hi : v ≤ 2147483647 := by decide) : I32 :=
  ⟨v, lo, hi⟩

namespace I32

/-- `i32::MIN` -/
def MIN : I32 := i32 (-2147483648)
/-- `i32::MAX` -/
def MAX : I32 := i32 2147483647

instance : Inhabited I32 := ⟨i32 0⟩

/-- the low 32 bits of an integer, read as two's complement: every `as i32` from a wider type -/
def wrap (v : Int) : I32 :=
  ⟨(v + 2147483648) % 4294967296 - 2147483648, by omega, by omega⟩

/-- the result of an arithmetic operation with the overflow check of the debug build -/
def checked (v : Int) : Res I32 :=
  if h : -2147483648 ≤ v ∧ v ≤ 2147483647 then .ok ⟨v, h.1, h.2⟩ else .panic

/-- the result of a `checked_*` operation -/
def checkedOpt (v : Int) : Option I32 :=
  if h : -2147483648 ≤ v ∧ v ≤ 2147483647 then Option.some ⟨v, h.1, h.2⟩ else Option.none

/-- `a + b` -/
def add (a b : I32) : Res I32 := checked (a.val + b.val)
/-- `a - b` -/
def sub (a b : I32) : Res I32 := checked (a.val - b.val)
/-- `a * b` -/
def mul (a b : I32) : Res I32 := checked (a.val * b.val)
/-- `-a` -/
def neg (a : I32) : Res I32 := checked (-a.val)

/-- `a.checked_add(b)` -/
def checkedAdd (a b : I32) : Option I32 := checkedOpt (a.val + b.val)
/-- `a.checked_sub(b)` -/
def checkedSub (a b : I32) : Option I32 := checkedOpt (a.val - b.val)
/-- `a.checked_mul(b)` -/
def checkedMul (a b : I32) : Option I32 := checkedOpt (a.val * b.val)

/-- `a.signum()`: `three_way_compare(a, 0) as i32` -/
def signum (a : I32) : I32 :=
  if a.val < 0 then i32 (-1) else if a.val = 0 then i32 0 else i32 1

instance : LT I32 := ⟨fun a b => a.val < b.val⟩
instance : LE I32 := ⟨fun a b => a.val ≤ b.val⟩
instance (a b : I32) : Decidable (a < b) := inferInstanceAs (Decidable (a.val < b.val))
instance (a b : I32) : Decidable (a ≤ b) := inferInstanceAs (Decidable (a.val ≤ b.val))

/-- `a.cmp(&b)` -/
def cmp (a b : I32) : Ordering := compare a.val b.val

end I32

/-! ## `i64` -/

/-- `i64`: an integer together with the proof that it fits -/
structure I64 where
  val : Int
  lo : -9223372036854775808 ≤ val
  hi : val ≤ 9223372036854775807
  deriving DecidableEq

instance : Repr I64 := ⟨fun x n => reprPrec x.val n⟩

/-- an `i64` literal -/
def i64 (v : Int) (lo : -9223372036854775808 ≤ v := by decide) (hi : v ≤ 9223372036854775807 := by decide) :
    I64 :=
  ⟨v, lo, hi⟩

namespace I64

/-- `i64::MIN` -/
def MIN : I64 := i64 (-9223372036854775808)
/-- `i64::MAX` -/
def MAX : I64 := i64 9223372036854775807

instance : Inhabited I64 := ⟨i64 0⟩

/-- the result of an arithmetic operation with the overflow check of the debug build -/
def checked (v : Int) : Res I64 :=
  if h : -9223372036854775808 ≤ v ∧ v ≤ 9223372036854775807 then .ok ⟨v, h.1, h.2⟩ else .panic

/-- `a + b` -/
def add (a b : I64) : Res I64 := checked (a.val + b.val)
/-- `a - b` -/
def sub (a b : I64) : Res I64 := checked (a.val - b.val)
/-- `-a` -/
def neg (a : I64) : Res I64 := checked (-a.val)

instance : LT I64 := ⟨fun a b => a.val < b.val⟩
instance : LE I64 := ⟨fun a b => a.val ≤ b.val⟩
instance (a b : I64) : Decidable (a < b) := inferInstanceAs (Decidable (a.val < b.val))
instance (a b : I64) : Decidable (a ≤ b) := inferInstanceAs (Decidable (a.val ≤ b.val))

end I64

/-! ## casts -/

/-- `x as i32` for `x: usize`: truncation to 32 bits, two's complement -/
def usizeAsI32 (x : Nat) : I32 := I32.wrap x

/-- `x as i32` for `x: u32` -/
def u32AsI32 (x : UInt32) : I32 := I32.wrap x.toNat

/-- `usize::try_into::<i32>()`: `None` (= `Err(TryFromIntError)`) above `i32::MAX` -/
def usizeTryIntoI32 (x : Nat) : Option I32 :=
  if h : (x : Int) ≤ 2147483647 then Option.some ⟨x, by omega, h⟩ else Option.none

/-- `i64::from(x)` for `x: i32`: every `i32` is an `i64` -/
def i64FromI32 (x : I32) : I64 :=
  ⟨x.val, by have := x.lo; omega, by have := x.hi; omega⟩

/-- `usize::try_into::<i64>()`: `None` (= `Err(TryFromIntError)`) above `i64::MAX` -/
def usizeTryIntoI64 (x : Nat) : Option I64 :=
  if h : (x : Int) ≤ 9223372036854775807 then Option.some ⟨x, by omega, h⟩ else Option.none

/-- `r.unwrap_or(d)` (on the `Result` of `try_into`, read as an `Option`) -/
def unwrapOr {α : Type} (o : Option α) (d : α) : α :=
  match o with
  | Option.some a => a
  | Option.none => d

/-- `x as usize` for `x: i64` on a 64-bit target: the same 64 bits read as unsigned -/
def i64AsUsize (x : I64) : Nat := (x.val % 18446744073709551616).toNat

/-- `x - y` on `usize` with the overflow check of the debug build -/
def usizeSub (x y : Nat) : Res Nat := if y ≤ x then .ok (x - y) else .panic

/-! ## `str` -/

/-- `&s[a..]`: panics when `a` is beyond the end -/
def strFrom (s : List Char) (a : Nat) : Res (List Char) :=
  if a ≤ s.length then .ok (s.drop a) else .panic

/-- `&s[..b]`: panics when `b` is beyond the end -/
def strTo (s : List Char) (b : Nat) : Res (List Char) :=
  if b ≤ s.length then .ok (s.take b) else .panic

/-! ## `str::parse::<i32>()`

`<i32 as FromStr>::from_str(src)` is `i32::from_str_radix(src, 10)`, which is
`i32::from_ascii_radix(src.as_bytes(), 10)` (library/core/src/num/mod.rs, macro
`from_str_int_impl!`).  The line numbers below are those of the macro body, counted from
`pub const fn from_ascii_radix` = 1. -/

/-- `(c as char).to_digit(10)`: `let value = (self as u32).wrapping_sub('0' as u32);
    if value < radix { Some(value) } else { None }` (the letter branch needs `radix > 10`).
    `UInt32` subtraction wraps. -/
def toDigit10 (c : Char) : Option UInt32 :=
  let value : UInt32 := c.val - 48                            -- (self as u32).wrapping_sub('0' as u32)
  if value < 10 then Option.some value else Option.none

/-- `radix as i32`, for `radix = 10` -/
def radixAsI32 : I32 := i32 10

/-- the body of the `while let` of `run_unchecked_loop!` (l.48-50): plain `*`, `+` / `-`.  The
    plain operators are modelled as checked ones: `Tuc.Props.BoundsLit` proves that they cannot
    overflow on at most 7 digits (`.fail` = `return Err(InvalidDigit)`). -/
def uncheckedBody (isPositive : Bool) (c : Char) (result : I32) : Res I32 :=
  (I32.mul result radixAsI32).bind fun result =>                       -- 48 result = result * (radix as i32)
  someOrFail (toDigit10 c) fun x =>                                    -- 49 unwrap_or_PIE!(to_digit, InvalidDigit)
  if isPositive then I32.add result (u32AsI32 x)                       -- 50 result = result + (x as i32)
  else I32.sub result (u32AsI32 x)                                     --    result = result - (x as i32)

/-- `run_unchecked_loop!` (l.46-53) -/
def uncheckedLoop (isPositive : Bool) : List Char → I32 → Res I32
  | [], result => .ok result                                           -- the `while let` ends
  | c :: rest, result =>                                               -- 47 while let [c, rest @ ..] = digits
    (uncheckedBody isPositive c result).bind fun result =>             -- 48-50
    uncheckedLoop isPositive rest result                               -- 51 digits = rest

/-- the body of the `while let` of `run_checked_loop!` (l.76-79); `.fail` = `return Err(..)`
    (`InvalidDigit`, `PosOverflow` or `NegOverflow`) -/
def checkedBody (isPositive : Bool) (c : Char) (result : I32) : Res I32 :=
  let mul := I32.checkedMul result radixAsI32                          -- 76 result.checked_mul(radix as i32)
  someOrFail (toDigit10 c) fun x =>                                    -- 77 unwrap_or_PIE!(to_digit, InvalidDigit)
  let x := u32AsI32 x                                                  -- 77 as i32
  someOrFail mul fun result =>                                         -- 78 unwrap_or_PIE!(mul, overflow)
  someOrFail (if isPositive then I32.checkedAdd result x               -- 79 checked_add / checked_sub
              else I32.checkedSub result x) fun result =>
  .ok result

/-- `run_checked_loop!` (l.62-82) -/
def checkedLoop (isPositive : Bool) : List Char → I32 → Res I32
  | [], result => .ok result
  | c :: rest, result =>                                               -- 64 while let [c, rest @ ..] = digits
    (checkedBody isPositive c result).bind fun result =>               -- 76-79
    checkedLoop isPositive rest result                                 -- 80 digits = rest

/-- l.18-26: the sign.  `Option.none` = `return Err(InvalidDigit)` -/
def splitSign (src : List Char) : Option (Bool × List Char) :=
  match src with
  | ['+'] => Option.none                                               -- 19-21 [b'+' | b'-'] => Err
  | ['-'] => Option.none
  | '+' :: rest => Option.some (true, rest)                            -- 22
  | '-' :: rest => Option.some (false, rest)                           -- 23 (is_signed_ty)
  | _ => Option.some (true, src)                                       -- 24

/-- `can_not_overflow::<i32>(10, true, digits)`: `radix <= 16 && digits.len() <= size_of::<i32>() * 2
    - is_signed_ty as usize` -/
def canNotOverflow (digits : List Char) : Bool := decide (digits.length ≤ 4 * 2 - 1)

/-- `src.parse::<i32>()`.  `.fail` = `Err(ParseIntError)`. -/
def parseI32Lit (src : List Char) : Res I32 :=
  if src.isEmpty then .fail                                            -- 10-12 Err(Empty)
  else
    someOrFail (splitSign src) fun p =>                                -- 18-26 (is_positive, digits)
    let isPositive := p.1
    let digits := p.2
    let result := i32 0                                                -- 28
    if canNotOverflow digits then                                      -- 39
      uncheckedLoop isPositive digits result                           -- 54-58
    else
      checkedLoop isPositive digits result                             -- 84-88
                                                                       -- 90 Ok(result)

/-! ## `side.rs` -/

/-- `enum Side { Some(i32), Continue }` (side.rs:7-10) -/
inductive SideL where
  | some (v : I32)
  | cont
  deriving DecidableEq, Repr, Inhabited

/-- `Side::from_str` (side.rs:15-23) -/
def SideL.fromStr (s : List Char) : Res SideL :=
  match s with                                                         -- 16
  | [] => .ok SideL.cont                                               -- 17 "" => Side::Continue
  | _ => (parseI32Lit s).bind fun v => .ok (SideL.some v)              -- 18-21 parse::<i32>().or_else(bail!)?

/-- `impl PartialOrd for Side`: `partial_cmp` (side.rs:36-49) -/
def SideL.partialCmp (self other : SideL) : Res (Option Ordering) :=
  match self, other with                                               -- 37
  | .some s, .some o =>                                                -- 38
    (I32.mul s.signum o.signum).bind fun p =>                          -- 39 s.signum() * o.signum()
    if p ≠ i32 1 then                                                  -- 39 != 1
      -- We can't compare two sides with different sign
      .ok Option.none                                                  -- 41
    else .ok (Option.some (I32.cmp s o))                               -- 43 Some(s.cmp(o))
  | .cont, .some _ => .ok (Option.some Ordering.gt)                    -- 45
  | .some _, .cont => .ok (Option.some Ordering.lt)                    -- 46
  | .cont, .cont => .ok (Option.some Ordering.eq)                      -- 47

/-- `a > b` on sides: the provided method `PartialOrd::gt`, `partial_cmp == Some(Greater)` -/
def SideL.gt (a b : SideL) : Res Bool :=
  (a.partialCmp b).bind fun o => .ok (o == Option.some Ordering.gt)

/-! ## `userbounds.rs` -/

/-- `struct UserBounds` (userbounds.rs:11-16) -/
structure UserBoundsL where
  l : SideL
  r : SideL
  isLast : Bool
  fallbackOob : Option Bytes
  deriving DecidableEq, Repr, Inhabited

/-- `UserBounds::new` (userbounds.rs:142-149) -/
def UserBoundsL.new (l r : SideL) : UserBoundsL :=
  { l := l, r := r, isLast := false, fallbackOob := Option.none }

/-- `UserBounds::with_fallback` (userbounds.rs:151-158) -/
def UserBoundsL.withFallback (l r : SideL) (fallbackOob : Option Bytes) : UserBoundsL :=
  { l := l, r := r, isLast := false, fallbackOob := fallbackOob }

/-- l.51-66: the two sides -/
def fromStrSides (s : List Char) : Res (SideL × SideL) :=
  match findChar ':' s with                                            -- 51 s.find(':')
  | Option.none =>                                                     -- 52
    (SideL.fromStr s).bind fun side =>                                 -- 53
    .ok (side, side)                                                   -- 54
  | Option.some idxColon =>
    if idxColon == 0 then                                              -- 56
      (strFrom s (idxColon + 1)).bind fun t =>                         -- 57 &s[idx_colon + 1..]
      (SideL.fromStr t).bind fun r => .ok (SideL.cont, r)
    else
      (usizeSub s.length 1).bind fun lenM1 =>                          -- 59 s.len() - 1
      if idxColon == lenM1 then
        (strTo s idxColon).bind fun t =>                               -- 60 &s[..idx_colon]
        (SideL.fromStr t).bind fun l => .ok (l, SideL.cont)
      else                                                             -- 62
        (strTo s idxColon).bind fun t =>                               -- 63
        (SideL.fromStr t).bind fun l =>
        (strFrom s (idxColon + 1)).bind fun t =>                       -- 64
        (SideL.fromStr t).bind fun r => .ok (l, r)

/-- l.68-81: `Ok(())` when the pair of sides is accepted -/
def fromStrCheck (l r : SideL) : Res Unit :=
  if l = SideL.some (i32 0) then .fail                                 -- 69-71 (Side::Some(0), _)
  else if r = SideL.some (i32 0) then .fail                            -- 72-74 (_, Side::Some(0))
  else
    match l, r with
    | .some left, .some right =>                                       -- 75
      -- 76 if right < left && right.signum() * left.signum() == 1
      (if right < left then
        (I32.mul right.signum left.signum).bind fun p => .ok (decide (p = i32 1))
       else .ok false).bind fun guard =>
      if guard then .fail                                              -- 78
      else .ok ()                                                      -- 80 _ => ()
    | _, _ => .ok ()                                                   -- 80

/-- `UserBounds::from_str` (userbounds.rs:37-86) -/
def UserBoundsL.fromStr (s : List Char) : Res UserBoundsL :=
  let fallbackOob : Option Bytes := Option.none                        -- 38
  let p : List Char × Option Bytes :=
    match splitOnce '=' s with                                         -- 40 s.split_once('=')
    | Option.some (rangePart, fallback) =>
      (rangePart, Option.some (utf8 fallback))                         -- 41-42
    | Option.none => (s, fallbackOob)
  let s := p.1
  let fallbackOob := p.2
  if s.isEmpty then .fail                                              -- 45-46
  else if s = [':'] then .fail                                         -- 47-48
  else
    (fromStrSides s).bind fun lr =>                                    -- 51-66
    (fromStrCheck lr.1 lr.2).bind fun _ =>                             -- 68-81
    let b := UserBoundsL.new lr.1 lr.2                                 -- 83
    let b := { b with fallbackOob := fallbackOob }                     -- 84
    .ok b                                                              -- 85

/-- `impl From<Range<usize>> for UserBounds` (userbounds.rs:90-102) -/
def UserBoundsL.ofRange (value : Nat × Nat) : Res UserBoundsL :=
  someOrPanic (usizeTryIntoI32 value.1) fun start =>                   -- 91-94 start.try_into().expect(..)
  someOrPanic (usizeTryIntoI32 value.2) fun end_ =>                    -- 96-99 end.try_into().expect(..)
  (I32.add start (i32 1)).bind fun startP1 =>                          -- 101 start + 1
  .ok (UserBoundsL.new (SideL.some startP1) (SideL.some end_))

/-- `impl PartialOrd for UserBounds`: `partial_cmp` (userbounds.rs:110-117) -/
def UserBoundsL.partialCmp (self other : UserBoundsL) : Res (Option Ordering) :=
  -- an open left side starts from the first part
  let otherL : SideL :=
    match other.l with                                                 -- 112
    | .cont => SideL.some (i32 1)                                      -- 113
    | l => l                                                           -- 114
  self.r.partialCmp otherL                                             -- 116

/-- the guard of l.172 / l.179: `x.signum() * idx.signum() == -1` for a written side -/
def signMismatch (side : SideL) (idx : I32) : Res Bool :=
  match side with
  | .some x => (I32.mul x.signum idx.signum).bind fun p => .ok (decide (p = i32 (-1)))
  | .cont => .ok false

/-- `UserBounds::matches` (userbounds.rs:170-192).  `.fail` = "sign mismatch". -/
def UserBoundsL.matches (self : UserBoundsL) (idx : I32) : Res Bool :=
  (signMismatch self.l idx).bind fun g1 =>                             -- 172 (Side::Some(left), _) if …
  if g1 then .fail                                                     -- 173-177 bail!
  else
    (signMismatch self.r idx).bind fun g2 =>                           -- 179 (_, Side::Some(right)) if …
    if g2 then .fail                                                   -- 180-184 bail!
    else
      match self.l, self.r with
      | .cont, .cont => .ok true                                       -- 186
      | .some left, .some right =>
        if left ≤ idx && idx ≤ right then .ok true                     -- 187
        else .ok false                                                 -- 190
      | .cont, .some right =>
        if idx ≤ right then .ok true                                   -- 188
        else .ok false                                                 -- 190
      | .some left, .cont =>
        if left ≤ idx then .ok true                                    -- 189
        else .ok false                                                 -- 190

/-- l.229 / l.244: `v > parts_length || v < -parts_length` -/
def outOfBounds (v partsLength : I64) : Res Bool :=
  if v > partsLength then .ok true                                     -- `||`: the rest is not evaluated
  else (I64.neg partsLength).bind fun m => .ok (decide (v < m))

/-- l.225-238: `let start: i64 = match self.l { … }` -/
def rangeStartLit (l : SideL) (partsLength : I64) : Res I64 :=
  match l with                                                         -- 225
  | .cont => .ok (i64 0)                                               -- 226
  | .some v =>                                                         -- 227
    let v : I64 := i64FromI32 v                                        -- 228 let v = i64::from(v);
    (outOfBounds v partsLength).bind fun oob =>                        -- 229
    if oob then .fail                                                  -- 230 bail!("Out of bounds: {}", v)
    else if v < i64 0 then                                             -- 232
      I64.add partsLength v                                            -- 233 parts_length + v
    else
      I64.sub v (i64 1)                                                -- 235 v - 1

/-- l.240-253: `let end: i64 = match self.r { … }` -/
def rangeEndLit (r : SideL) (partsLength : I64) : Res I64 :=
  match r with                                                         -- 240
  | .cont => .ok partsLength                                           -- 241
  | .some v =>                                                         -- 242
    let v : I64 := i64FromI32 v                                        -- 243 let v = i64::from(v);
    (outOfBounds v partsLength).bind fun oob =>                        -- 244
    if oob then .fail                                                  -- 245 bail!("Out of bounds: {}", v)
    else if v < i64 0 then                                             -- 247
      (I64.add partsLength v).bind fun t => I64.add t (i64 1)          -- 248 parts_length + v + 1
    else
      .ok v                                                            -- 250

/-- `UserBounds::try_into_range` (userbounds.rs:220-264, the repaired text) -/
def UserBoundsL.tryIntoRange (self : UserBoundsL) (partsLength : Nat) : Res (Nat × Nat) :=
  -- The number of parts is a byte count in --bytes mode: an input of 2 GiB
  -- does not fit an i32 (indexes do, lengths do not)
  let partsLength : I64 :=                                             -- 223 parts_length.try_into()
    unwrapOr (usizeTryIntoI64 partsLength) I64.MAX                     --       .unwrap_or(i64::MAX)
  (rangeStartLit self.l partsLength).bind fun start =>                 -- 225-238
  (rangeEndLit self.r partsLength).bind fun end_ =>                    -- 240-253
  if end_ ≤ start then                                                 -- 255
    -- `end` must always be 1 or more greater than start
    .fail                                                              -- 257 bail!
  else
    .ok (i64AsUsize start, i64AsUsize end_)                            -- 260-263 start as usize, end as usize

/-- the closure of l.267-270 -/
def unpackSlot (i : Nat) : Res UserBoundsL :=
  (I32.add (usizeAsI32 i) (i32 1)).bind fun x =>                       -- 268 i as i32 + 1
  let idx := SideL.some x
  .ok (UserBoundsL.new idx idx)                                        -- 269

/-- `UserBounds::unpack` (userbounds.rs:264-281) -/
def UserBoundsL.unpack (self : UserBoundsL) (numFields : Nat) : Res (List UserBoundsL) :=
  match self.tryIntoRange numFields with                               -- 265
  | .ok r => resMapM unpackSlot (List.range' r.1 (r.2 - r.1))          -- 266-271 r.map(|i| …).collect()
  -- A bound that can't be resolved has no slots to enumerate: it is kept as it is
  | .fail => .ok [UserBoundsL.withFallback self.l self.r self.fallbackOob]  -- 275-279
  | .panic => .panic

/-- `complement_std_range` (userbounds.rs:291-304) -/
def complementStdRangeLit (partsLength : Nat) (r : Nat × Nat) : List (Nat × Nat) :=
  if r.1 = 0 ∧ r.2 = partsLength then []                               -- 294 (0, end) if end == parts_length
  else if r.1 = 0 then [(r.2, partsLength)]                            -- 297 (0, right)
  else if r.2 = partsLength then [(0, r.1)]                            -- 300 (left, end) if end == parts_length
  else [(0, r.1), (r.2, partsLength)]                                  -- 302 (left, right)

/-- `UserBounds::complement` (userbounds.rs:284-288) -/
def UserBoundsL.complement (self : UserBoundsL) (numFields : Nat) : Res (List UserBoundsL) :=
  (self.tryIntoRange numFields).bind fun r =>                          -- 285 …?
  let rComplement := complementStdRangeLit numFields r                 -- 286
  resMapM UserBoundsL.ofRange rComplement                              -- 287 .map(|x| x.into()).collect()

/-! ## literal values ↔ model values -/

def SideL.toModel : SideL → Side
  | .some v => Side.some v.val
  | .cont => Side.cont

def UserBoundsL.toModel (b : UserBoundsL) : UserBounds :=
  { l := b.l.toModel, r := b.r.toModel, isLast := b.isLast, fallback := b.fallbackOob }

/-- a model side as a Rust value: an index that does not fit is truncated (there is no other way
    to store it), so this is faithful exactly on `Side.InI32` -/
def sideOfModel : Side → SideL
  | .some v => SideL.some (I32.wrap v)
  | .cont => SideL.cont

def boundsOfModel (b : UserBounds) : UserBoundsL :=
  { l := sideOfModel b.l, r := sideOfModel b.r, isLast := b.isLast, fallbackOob := b.fallback }

end BoundsLit
end Tuc
