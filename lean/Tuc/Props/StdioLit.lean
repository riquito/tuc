import Tuc.Model.StdioLit
import Tuc.Model.Args
import Tuc.Model.StreamLoop

/-!
# Tuc.Props.StdioLit — the std buffering under `main` does what `deliver` and the chunk-list readers say (C14)

`Tuc.Model.StdioLit` transcribes `BufWriter`, `LineWriterShim` / `LineWriter`, the default `write_all` and
`BufReader` over an operating system that is an ORACLE (a finite list of answers: short counts, `Ok(0)`, `EINTR`,
transient and sticky errors; full service once the list is used up).  Here the behaviour that
`Tuc.Model.Args.deliver` and the readers of `Tuc.Model.StreamLoop` / `ReadLoops` / `WholeLit` ASSUME is proved: for the
writers for every oracle and all capacities (the equality of the two statuses: for `hard` oracles); for the readers
for positive capacity and read oracles without `err`, `EINTR` being retried by the caller (hypotheses below).

A writer is observed through a `Snap` (`fd`: the bytes on the descriptor; `all`: everything accepted so far, in
order = `fd ++` the buffers; the unused `oracle`; the sticky-error flag).  `Adv s s' x` ("accepted `x`") is what
EVERY operation does; `Spec W V` is the `Write` contract: fd 1 keeps it, `BufWriter<W>` and `LineWriter<W>` keep it if
`W` does, hence `BufWriter<StdoutLock>`.  A step that accepts nothing is a `StepSpec`; the `?` operator is two rules
(`andThen_spec`, `WriteAllSpec.andThen`), so that a session is a `write_all` too.  Each spec says: no checked
operation fails and no retry loop runs out of the fuel `budget + len + 1` (`budget` = unused answers: an `EINTR`
uses one up, a successful `write` makes progress — the fairness hypothesis "finitely many `EINTR` in a row" is the
finiteness of the oracle list); `write_all` / `flush` never return `Interrupted`; on a fault-free OS (`benign`: short
writes and `EINTR` only) `write_all` / `flush` give `Ok` and a single `write` gives `Ok` or `Interrupted`; when the
oracle has neither a transient error nor an `Ok(0)` (`hard`) an `Err` means the sink is dead and something
accepted or offered did not arrive.  Readers: `RSpec` (an empty read into a non-empty destination means END OF INPUT).
`wf` (`buf.len() ≤ capacity`, `pos ≤ filled ≤ capacity`) is an invariant (every spec returns it, `Stdout.new_wf`,
`Stdin.new_wf`), not an input condition.

## Hypotheses, and why they cannot be dropped

* `∀ a ∈ oracle, a.hard` in the last clause of `W2_deliver`: with a TRANSIENT error (or `Ok(0)`) `flush` fails, then
  `Drop for BufWriter` delivers: status 1 although fd 1 is complete (`#guard mainWrites 4 2 [.err false] …`).
  `deliver` cannot express "complete and failed".  The real program can reach it (`EAGAIN` on a non-blocking
  stdout); it errs on the safe side (C14 is about status 0 ⇒ complete, which holds for every oracle).
* `buf.length < bw.cap` in `write_small_never_short`: `write_is_short`.
* `0 < capacity` in R1: `capacity_zero_reads_nothing`.  `main` passes the literal `64 * 1024`.
* `RAns.err ∉ oracle` in `R1_chunks` / the simulation: a read error ends the run (`R1_chunks_any_oracle`;
  `Tuc.Props.C14` `read_fault_*`).  `EINTR` is allowed when the caller retries (`fillBufRetry`, what
  `std::io::read_until` does).  NOTE: `fill_buf` itself does not retry (`buffer.rs:157 result?`), and `stream.rs:295` /
  bstr `for_byte_record_with_terminator` use `fill_buf()?`: an `EINTR` on fd 0 would end tuc with status 1.  tuc
  installs no signal handler, so `read(2)` is restarted by the kernel; not a defect, a dependency.
* `Filled` in `sim_consume` (`consume` only after a `fill_buf`, as the `BufRead` contract demands and every engine
  does): the `#guard` on `segsOf … (consume 1)`.
-/

namespace Tuc
namespace StdioLit

/-- what can be observed of a writer: the bytes on the descriptor, everything accepted so far in order
    (`fd ++` what sits in the buffers), the unused answers of the OS, the sticky-error flag -/
structure Snap where
  fd : Bytes
  all : Bytes
  oracle : List WAns
  dead : Bool

def WAns.benign : WAns → Bool
  | .accept _ => true
  | .intr => true
  | _ => false

def WAns.hard : WAns → Bool
  | .zero => false
  | .err false => false
  | _ => true

/-- the OS never fails: short writes and `EINTR` only -/
def Snap.faultFree (s : Snap) : Prop := s.dead = false ∧ ∀ a ∈ s.oracle, a.benign = true

/-- the only faults are `EINTR` and STICKY errors: no transient error and no `Ok(0)` -/
def Snap.sticky (s : Snap) : Prop := ∀ a ∈ s.oracle, a.hard = true

theorem Snap.faultFree.toSticky {s : Snap} (h : s.faultFree) : s.sticky := by
  intro a ha
  have := h.2 a ha
  cases a <;> simp_all [WAns.benign, WAns.hard]

/-- what EVERY operation does to the observable state: it accepts `x` -/
structure Adv (s s' : Snap) (x : Bytes) : Prop where
  all : s'.all = s.all ++ x
  fd : s.fd <+: s'.fd
  oracle : s'.oracle <:+ s.oracle
  dead : s.dead = true → s'.dead = true ∧ s'.fd = s.fd
  born : s'.dead = true → s.dead = true ∨ WAns.err true ∈ s.oracle

theorem Adv.refl (s : Snap) : Adv s s [] :=
  ⟨by simp, List.prefix_refl _, List.suffix_refl _, fun h => ⟨h, rfl⟩, fun h => .inl h⟩

theorem Adv.trans {s s' s'' : Snap} {x y : Bytes} (h : Adv s s' x) (h' : Adv s' s'' y) :
    Adv s s'' (x ++ y) where
  all := by rw [h'.all, h.all, List.append_assoc]
  fd := h.fd.trans h'.fd
  oracle := h'.oracle.trans h.oracle
  dead := fun hd => by
    obtain ⟨a, b⟩ := h.dead hd
    obtain ⟨c, d⟩ := h'.dead a
    exact ⟨c, d.trans b⟩
  born := fun hd => by
    rcases h'.born hd with a | a
    · exact h.born a
    · exact .inr (h.oracle.subset a)

theorem Adv.faultFree {s s' : Snap} {x : Bytes} (h : Adv s s' x) (hf : s.faultFree) : s'.faultFree := by
  refine ⟨?_, fun a ha => hf.2 a (h.oracle.subset ha)⟩
  cases hd : s'.dead
  · rfl
  · rcases h.born hd with a | a
    · simp [hf.1] at a
    · have := hf.2 _ a
      simp [WAns.benign] at this

theorem Adv.sticky {s s' : Snap} {x : Bytes} (h : Adv s s' x) (hf : s.sticky) : s'.sticky :=
  fun a ha => hf a (h.oracle.subset ha)

theorem Adv.oracle_le {s s' : Snap} {x : Bytes} (h : Adv s s' x) : s'.oracle.length ≤ s.oracle.length :=
  h.oracle.length_le

theorem Adv.cast {s s' : Snap} {x y : Bytes} (h : Adv s s' x) (e : x = y) : Adv s s' y := e ▸ h

theorem IoRes.ok_or_err {α : Type} {r : IoRes α} (h : r ≠ .panic ∧ r ≠ .hang) : (∃ a, r = .ok a) ∨ ∃ e, r = .err e := by
  cases r with
  | ok a => exact .inl ⟨a, rfl⟩
  | err e => exact .inr ⟨e, rfl⟩
  | panic => exact absurd rfl h.1
  | hang => exact absurd rfl h.2

theorem andThen_eq {α β σ τ : Type} {a : IoRes α × σ} {f : α → σ → IoRes β × τ} {g : σ → τ} {r : IoRes β} {t : τ}
    (hs : ∀ r0 s0, a = (r0, s0) → r0 ≠ .panic ∧ r0 ≠ .hang) (h : andThen a f g = (r, t)) :
    (∃ x s0, a = (.ok x, s0) ∧ f x s0 = (r, t)) ∨ ∃ e s0, a = (.err e, s0) ∧ r = .err e ∧ t = g s0 := by
  obtain ⟨r0, s0⟩ := a
  rcases IoRes.ok_or_err (hs _ _ rfl) with ⟨x, rfl⟩ | ⟨e, rfl⟩
  · exact .inl ⟨x, s0, rfl, h⟩
  · exact .inr ⟨e, s0, rfl, (Prod.mk.inj h).1.symm, (Prod.mk.inj h).2.symm⟩

theorem mapState_eq {α σ τ : Type} {f : σ → τ} {a : IoRes α × σ} {r : IoRes α} {t : τ} (h : mapState f a = (r, t)) :
    ∃ s, a = (r, s) ∧ t = f s :=
  ⟨a.2, Prod.ext (Prod.mk.inj h).1 rfl, (Prod.mk.inj h).2.symm⟩

def IoRes.count : IoRes Nat → Nat
  | .ok n => n
  | _ => 0

/-- `write(buf)` returned `r` -/
structure WriteSpec (s s' : Snap) (buf : Bytes) (r : IoRes Nat) : Prop where
  adv : Adv s s' (buf.take (IoRes.count r))
  le : IoRes.count r ≤ buf.length
  safe : r ≠ .panic ∧ r ≠ .hang
  intr : r = .err .interrupted → s'.oracle.length < s.oracle.length
  clean : s.faultFree → (∃ n, r = .ok n) ∨ r = .err .interrupted
  sticky : s.sticky → buf ≠ [] → (∀ n, r = .ok n → 1 ≤ n) ∧ (∀ e, r = .err e → e ≠ .interrupted → s'.dead = true)

/-- `write_all(buf)` returned `r` -/
structure WriteAllSpec (s s' : Snap) (buf : Bytes) (r : IoRes Unit) : Prop where
  adv : ∃ k, k ≤ buf.length ∧ Adv s s' (buf.take k) ∧ (r = .ok () → k = buf.length) ∧
    (s.sticky → ∀ e, r = .err e → s'.dead = true ∧ (s'.fd.length < s'.all.length ∨ k < buf.length))
  safe : r ≠ .panic ∧ r ≠ .hang
  noIntr : r ≠ .err .interrupted
  clean : s.faultFree → r = .ok ()

/-- `flush()` returned `r` -/
structure FlushSpec (s s' : Snap) (r : IoRes Unit) : Prop where
  adv : Adv s s' []
  safe : r ≠ .panic ∧ r ≠ .hang
  noIntr : r ≠ .err .interrupted
  clean : s.faultFree → r = .ok ()
  done : r = .ok () → s'.fd = s'.all
  sticky : s.sticky → ∀ e, r = .err e → s'.dead = true ∧ s'.fd.length < s'.all.length

theorem WriteSpec.ofOk {s s' : Snap} {buf : Bytes} {n : Nat} (adv : Adv s s' (buf.take n)) (le : n ≤ buf.length)
    (pos : s.sticky → buf ≠ [] → 1 ≤ n) : WriteSpec s s' buf (.ok n) :=
  ⟨adv, le, by simp, by simp, fun _ => .inl ⟨n, rfl⟩, fun hs hb => ⟨fun _ h => by cases h; exact pos hs hb, by simp⟩⟩

theorem WriteSpec.ofPrefix {s s' : Snap} {buf : Bytes} {m : Nat} {r : IoRes Nat} (h : WriteSpec s s' (buf.take m) r)
    (hne : buf.take m ≠ []) : WriteSpec s s' buf r where
  adv := h.adv.cast (by rw [List.take_take, Nat.min_eq_left (Nat.le_trans h.le (List.length_take_le _ _))])
  le := Nat.le_trans h.le (by rw [List.length_take]; exact Nat.min_le_right _ _)
  safe := h.safe
  intr := h.intr
  clean := h.clean
  sticky := fun hs _ => h.sticky hs hne

theorem WriteSpec.after {s s0 s' : Snap} {buf : Bytes} {r : IoRes Nat} (h0 : Adv s s0 [])
    (h : WriteSpec s0 s' buf r) : WriteSpec s s' buf r where
  adv := (h0.trans h.adv).cast (by simp)
  le := h.le
  safe := h.safe
  intr := fun hr => by have := h.intr hr; have := h0.oracle_le; omega
  clean := fun hf => h.clean (h0.faultFree hf)
  sticky := fun hs => h.sticky (h0.sticky hs)

theorem WriteAllSpec.append {s s1 s2 : Snap} {x y : Bytes} {r : IoRes Unit} (h1 : WriteAllSpec s s1 x (.ok ()))
    (h2 : WriteAllSpec s1 s2 y r) : WriteAllSpec s s2 (x ++ y) r where
  adv := by
    obtain ⟨k1, _, ha1, hok1, _⟩ := h1.adv
    obtain ⟨k, hk, ha, hok, hst⟩ := h2.adv
    have hk1 := hok1 rfl
    subst hk1
    simp only [List.take_length] at ha1
    refine ⟨x.length + k, by simp; omega, (ha1.trans ha).cast ?_, fun hr => by simp [hok hr],
      fun hs e he => ?_⟩
    · rw [List.take_length_add_append]
    · obtain ⟨a, b⟩ := hst (ha1.sticky hs) e he
      exact ⟨a, by simp only [List.length_append]; omega⟩
  safe := h2.safe
  noIntr := h2.noIntr
  clean := fun hf => by
    obtain ⟨k1, _, ha1, _, _⟩ := h1.adv
    exact h2.clean (ha1.faultFree hf)

theorem WriteAllSpec.errLeft {s s1 : Snap} {x : Bytes} {e : IoErr} (y : Bytes) (h1 : WriteAllSpec s s1 x (.err e)) :
    WriteAllSpec s s1 (x ++ y) (.err e) where
  adv := by
    obtain ⟨k, hk, ha, _, hst⟩ := h1.adv
    refine ⟨k, by simp; omega, ha.cast ?_, by simp, fun hs e' he' => ?_⟩
    · rw [List.take_append_of_le_length hk]
    · obtain ⟨a, b⟩ := hst hs e' he'
      exact ⟨a, by simp only [List.length_append]; omega⟩
  safe := by simp
  noIntr := h1.noIntr
  clean := h1.clean

theorem WriteAllSpec.after {s s0 s' : Snap} {buf : Bytes} {r : IoRes Unit} (h0 : Adv s s0 [])
    (h : WriteAllSpec s0 s' buf r) : WriteAllSpec s s' buf r :=
  WriteAllSpec.append (x := []) ⟨⟨0, Nat.le_refl _, h0, fun _ => rfl, fun _ _ he => nomatch he⟩, by simp, by simp,
    fun _ => rfl⟩ h

/-- an operation that accepts nothing new (`flush_buf`, `flush_if_completed_line`): `FlushSpec` without `done`,
    `WriteAllSpec` of the empty slice -/
structure StepSpec (s s' : Snap) (r : IoRes Unit) : Prop where
  adv : Adv s s' []
  safe : r ≠ .panic ∧ r ≠ .hang
  noIntr : r ≠ .err .interrupted
  clean : s.faultFree → r = .ok ()
  sticky : s.sticky → ∀ e, r = .err e → s'.dead = true ∧ s'.fd.length < s'.all.length

theorem StepSpec.refl (s : Snap) : StepSpec s s (.ok ()) :=
  ⟨Adv.refl s, by simp, by simp, fun _ => rfl, fun _ _ he => nomatch he⟩

theorem StepSpec.after {s s0 s' : Snap} {r : IoRes Unit} (h0 : Adv s s0 []) (h : StepSpec s0 s' r) : StepSpec s s' r :=
  ⟨h0.trans h.adv, h.safe, h.noIntr, fun hf => h.clean (h0.faultFree hf), fun hs => h.sticky (h0.sticky hs)⟩

theorem StepSpec.writeErr {s s' : Snap} {e : IoErr} (buf : Bytes) (h : StepSpec s s' (.err e)) :
    WriteSpec s s' buf (.err e) where
  adv := h.adv
  le := Nat.zero_le _
  safe := by simp
  intr := fun hr => by cases hr; exact absurd rfl h.noIntr
  clean := fun hf => by have := h.clean hf; cases this
  sticky := fun hs _ => ⟨by simp, fun e' he' _ => by cases he'; exact (h.sticky hs e rfl).1⟩

theorem StepSpec.writeAll {s s' : Snap} {r : IoRes Unit} (h : StepSpec s s' r) : WriteAllSpec s s' [] r :=
  ⟨⟨0, Nat.le_refl _, h.adv, fun _ => rfl, fun hs e he => ⟨(h.sticky hs e he).1, .inl (h.sticky hs e he).2⟩⟩,
    h.safe, h.noIntr, h.clean⟩

theorem StepSpec.flush {s s' : Snap} {r : IoRes Unit} (h : StepSpec s s' r) (done : r = .ok () → s'.fd = s'.all) :
    FlushSpec s s' r :=
  ⟨h.adv, h.safe, h.noIntr, h.clean, done, h.sticky⟩

theorem FlushSpec.step {s s' : Snap} {r : IoRes Unit} (h : FlushSpec s s' r) : StepSpec s s' r :=
  ⟨h.adv, h.safe, h.noIntr, h.clean, h.sticky⟩

theorem FlushSpec.after {s s0 s' : Snap} {r : IoRes Unit} (h0 : Adv s s0 []) (h : FlushSpec s0 s' r) :
    FlushSpec s s' r :=
  (h.step.after h0).flush h.done

structure View (ω : Type) where
  snap : ω → Snap
  wf : ω → Prop

/-- the contract of a `Write` implementation -/
structure Spec {ω : Type} (W : Writer ω) (V : View ω) : Prop where
  fdPrefix : ∀ w, V.wf w → (V.snap w).fd <+: (V.snap w).all
  budget : ∀ w, W.budget w = (V.snap w).oracle.length
  write : ∀ w buf r w', V.wf w → W.write w buf = (r, w') → V.wf w' ∧ WriteSpec (V.snap w) (V.snap w') buf r
  writeAll : ∀ w buf r w', V.wf w → W.writeAll w buf = (r, w') → V.wf w' ∧ WriteAllSpec (V.snap w) (V.snap w') buf r
  flush : ∀ w r w', V.wf w → W.flush w = (r, w') → V.wf w' ∧ FlushSpec (V.snap w) (V.snap w') r

/-- the `?` between two `write_all`-like steps: `write_all(x)?; write_all(y)` is a `write_all(x ++ y)` -/
theorem WriteAllSpec.andThen {ω : Type} {V : View ω} {a : IoRes Unit × ω} {f : Unit → ω → IoRes Unit × ω} {w w' : ω}
    {x y : Bytes} {r : IoRes Unit}
    (ha : ∀ r0 w0, a = (r0, w0) → V.wf w0 ∧ WriteAllSpec (V.snap w) (V.snap w0) x r0)
    (hf : ∀ w0, V.wf w0 → f () w0 = (r, w') → V.wf w' ∧ WriteAllSpec (V.snap w0) (V.snap w') y r)
    (h : andThen a f id = (r, w')) : V.wf w' ∧ WriteAllSpec (V.snap w) (V.snap w') (x ++ y) r := by
  rcases andThen_eq (fun _ _ h0 => (ha _ _ h0).2.safe) h with ⟨u, w0, h0, h⟩ | ⟨e, w0, h0, rfl, rfl⟩
  · obtain ⟨hwf0, sp0⟩ := ha _ _ h0
    obtain ⟨hwf', sp⟩ := hf w0 hwf0 h
    exact ⟨hwf', sp0.append sp⟩
  · obtain ⟨hwf0, sp0⟩ := ha _ _ h0
    exact ⟨hwf0, sp0.errLeft y⟩

def Sink.view : View Sink where
  snap := fun s => ⟨s.fd, s.fd, s.oracle, s.dead⟩
  wf := fun _ => True

theorem Sink.adv_write {s : Sink} {x fd' : Bytes} {o : List WAns} {d : Bool} (hd : s.dead = false)
    (hfd : fd' = s.fd ++ x) (ho : o <:+ s.oracle) (hdd : d = true → WAns.err true ∈ s.oracle) :
    Adv (Sink.view.snap s) (Sink.view.snap ⟨fd', o, d⟩) x :=
  ⟨hfd, hfd ▸ List.prefix_append _ _, ho, fun h => (nomatch hd.symm.trans h), fun h => .inr (hdd h)⟩

theorem Sink.write_spec (s : Sink) (buf : Bytes) (r : IoRes Nat) (s' : Sink) (h : s.write buf = (r, s')) :
    WriteSpec (Sink.view.snap s) (Sink.view.snap s') buf r := by
  unfold Sink.write at h
  split at h
  next hd =>
    cases h
    exact ⟨Adv.refl _, Nat.zero_le _, by simp, by simp, fun hf => (nomatch hf.1.symm.trans hd),
      fun _ _ => ⟨by simp, fun _ _ _ => hd⟩⟩
  next hd =>
    replace hd : s.dead = false := Bool.eq_false_iff.mpr hd
    have alive : s.dead = true → WAns.err true ∈ s.oracle := fun h => nomatch hd.symm.trans h
    have notBenign : ∀ {a o}, s.oracle = a :: o → a.benign = false → ¬ (Sink.view.snap s).faultFree :=
      fun {a _} ho ha hf => nomatch ha.symm.trans (hf.2 a (show a ∈ s.oracle from ho ▸ List.mem_cons_self))
    have notHard : ∀ {a o}, s.oracle = a :: o → a.hard = false → ¬ (Sink.view.snap s).sticky :=
      fun {a _} ho ha hs => nomatch ha.symm.trans (hs a (show a ∈ s.oracle from ho ▸ List.mem_cons_self))
    have tail : ∀ {a o}, s.oracle = a :: o → o <:+ s.oracle := fun ho => ho ▸ List.suffix_cons _ _
    have shorter : ∀ {a o}, s.oracle = a :: o → o.length < s.oracle.length := fun ho => by simp [ho]
    split at h
    next ho =>
      cases h
      exact .ofOk ((Sink.adv_write hd rfl (List.suffix_refl _) alive).cast (List.take_length ..).symm) (Nat.le_refl _)
        fun _ hb => List.length_pos_iff.mpr hb
    next n o ho =>
      cases h
      exact .ofOk ((Sink.adv_write hd rfl (tail ho) alive).cast (List.take_eq_take_iff.mpr (by omega)))
        (Nat.min_le_right _ _) fun _ hb => by have := List.length_pos_iff.mpr hb; omega
    next o ho =>
      cases h
      exact ⟨Sink.adv_write hd (List.append_nil _).symm (tail ho) alive, Nat.zero_le _, by simp, by simp,
        fun hf => absurd hf (notBenign ho rfl), fun hs _ => absurd hs (notHard ho rfl)⟩
    next o ho =>
      cases h
      exact ⟨Sink.adv_write hd (List.append_nil _).symm (tail ho) alive, Nat.zero_le _, by simp,
        fun _ => shorter ho, fun _ => .inr rfl, fun _ _ => ⟨by simp, by simp⟩⟩
    next sticky o ho =>
      cases h
      refine ⟨Sink.adv_write hd (List.append_nil _).symm (tail ho) fun hst => ?_, Nat.zero_le _, by simp, by simp,
        fun hf => absurd hf (notBenign ho rfl), fun hs _ => ⟨by simp, fun _ _ _ => ?_⟩⟩
      · exact hst ▸ ho ▸ List.mem_cons_self
      · cases sticky
        · exact absurd hs (notHard ho rfl)
        · rfl

theorem sliceFrom_some {buf : Bytes} {n : Nat} (h : n ≤ buf.length) : sliceFrom buf n = some (buf.drop n) := by
  simp [sliceFrom, h]

theorem sliceTo_some {buf : Bytes} {n : Nat} (h : n ≤ buf.length) : sliceTo buf n = some (buf.take n) := by
  simp [sliceTo, h]

/-- a `BufWriter` adds its buffer to what has been accepted -/
def BufWriter.view {ω : Type} (V : View ω) : View (BufWriter ω) where
  snap := fun bw =>
    ⟨(V.snap bw.inner).fd, (V.snap bw.inner).all ++ bw.buf, (V.snap bw.inner).oracle, (V.snap bw.inner).dead⟩
  wf := fun bw => bw.buf.length ≤ bw.cap ∧ V.wf bw.inner

theorem Adv.lift {si si' : Snap} {x b b' y : Bytes} (h : Adv si si' x) (hb : x ++ b' = b ++ y) :
    Adv ⟨si.fd, si.all ++ b, si.oracle, si.dead⟩ ⟨si'.fd, si'.all ++ b', si'.oracle, si'.dead⟩ y where
  all := by simp only [h.all, List.append_assoc, hb]
  fd := h.fd
  oracle := h.oracle
  dead := h.dead
  born := h.born

section RetryLoops
variable {ω : Type} {W : Writer ω} {V : View ω}
variable (hw : ∀ w buf r w', V.wf w → W.write w buf = (r, w') → V.wf w' ∧ WriteSpec (V.snap w) (V.snap w') buf r)
include hw

/-- The loop of `flush_buf` (bufwriter.rs:234-251) is a step that accepts nothing, seen through a `BufWriter` that
    holds what is still to be written. -/
theorem flushBufLoop_spec (hp : ∀ w, V.wf w → (V.snap w).fd <+: (V.snap w).all) (buffer : Bytes) (c : Nat) :
    ∀ (fuel written : Nat) (inner : ω) (r : IoRes Unit) (written' : Nat) (inner' : ω), V.wf inner →
      written ≤ buffer.length → (V.snap inner).oracle.length + (buffer.length - written) < fuel →
      BufWriter.flushBufLoop W buffer fuel written inner = (r, written', inner') →
      V.wf inner' ∧ written' ≤ buffer.length ∧ (r = .ok () → buffer.length ≤ written') ∧
      StepSpec ((BufWriter.view V).snap ⟨buffer.drop written, c, inner⟩)
        ((BufWriter.view V).snap ⟨buffer.drop written', c, inner'⟩) r := by
  intro fuel
  induction fuel with
  | zero => intro written inner r written' inner' _ _ hf; omega
  | succ fuel ih =>
    intro written inner r written' inner' hwf hle hfuel h
    unfold BufWriter.flushBufLoop at h
    by_cases hdone : written ≥ buffer.length
    · simp only [hdone, if_true] at h
      cases h
      exact ⟨hwf, hle, fun _ => hdone, .refl _⟩
    · simp only [hdone, if_false, sliceFrom_some hle] at h
      have hne : buffer.drop written ≠ [] := by rw [Ne, List.drop_eq_nil_iff]; exact hdone
      generalize hq : W.write inner (buffer.drop written) = p at h
      obtain ⟨r1, w1⟩ := p
      obtain ⟨hwf1, sp⟩ := hw inner _ r1 w1 hwf hq
      -- giving up (`Ok(0)`, an error other than `EINTR`): nothing moved, the OS is at fault, what is left is missing
      have stop : ∀ e : IoErr, Adv (V.snap inner) (V.snap w1) [] → e ≠ .interrupted → ¬ (V.snap inner).faultFree →
          ((V.snap inner).sticky → (V.snap w1).dead = true) →
          StepSpec ((BufWriter.view V).snap ⟨buffer.drop written, c, inner⟩)
            ((BufWriter.view V).snap ⟨buffer.drop written, c, w1⟩) (.err e) :=
        fun e hadv he hcl hdead => ⟨hadv.lift (by simp), by simp, by simpa using he, fun hf => absurd hf hcl,
          fun hs _ _ => ⟨hdead hs, by
            have := (hp w1 hwf1).length_le
            have := List.length_pos_iff.mpr hne
            simp only [BufWriter.view, List.length_append]
            omega⟩⟩
      rcases IoRes.ok_or_err sp.safe with ⟨n, rfl⟩ | ⟨e, rfl⟩
      · simp only at h
        have hadv : Adv (V.snap inner) (V.snap w1) ((buffer.drop written).take n) := sp.adv
        by_cases hn : n = 0
        · subst hn
          simp only [if_true] at h
          cases h
          exact ⟨hwf1, hle, nofun,
            stop _ hadv (by simp) (fun hf => absurd ((sp.sticky hf.toSticky hne).1 0 rfl) (by omega))
              fun hs => absurd ((sp.sticky hs hne).1 0 rfl) (by omega)⟩
        · have hnle : n ≤ (buffer.drop written).length := sp.le
          rw [List.length_drop] at hnle
          simp only [hn, if_false] at h
          obtain ⟨h1, h2, h3, fs⟩ := ih (written + n) w1 r written' inner' hwf1 (by omega)
            (by have := hadv.oracle_le; omega) h
          exact ⟨h1, h2, h3, fs.after (hadv.lift (by rw [← List.drop_drop, List.take_append_drop, List.append_nil]))⟩
      · simp only at h
        have hadv : Adv (V.snap inner) (V.snap w1) [] := sp.adv
        by_cases he : e = .interrupted
        · subst he
          simp only [if_true] at h
          obtain ⟨h1, h2, h3, fs⟩ := ih written w1 r written' inner' hwf1 hle (by have := sp.intr rfl; omega) h
          exact ⟨h1, h2, h3, fs.after (hadv.lift (by simp))⟩
        · simp only [he, if_false] at h
          cases h
          exact ⟨hwf1, hle, nofun,
            stop e hadv he (fun hf => (sp.clean hf).elim (fun ⟨_, h⟩ => nomatch h) fun h => he (by cases h; rfl))
              fun hs => (sp.sticky hs hne).2 e rfl he⟩

/-- io/mod.rs:1857-1869 is the loop of `flush_buf` on the slice, as long as `write` keeps its contract (a count
    beyond the slice makes `&buf[n..]` panic). -/
theorem defaultWriteAll_eq (buffer : Bytes) : ∀ (fuel written : Nat) (w : ω), V.wf w → written ≤ buffer.length →
      defaultWriteAll W.write fuel w (buffer.drop written) =
        ((BufWriter.flushBufLoop W buffer fuel written w).1, (BufWriter.flushBufLoop W buffer fuel written w).2.2) := by
  intro fuel
  induction fuel with
  | zero => intros; rfl
  | succ fuel ih =>
    intro written w hwf hle
    unfold defaultWriteAll BufWriter.flushBufLoop
    by_cases hdone : written ≥ buffer.length
    · simp [hdone, List.drop_eq_nil_of_le hdone]
    · have hne : (buffer.drop written).isEmpty = false := by
        rw [List.isEmpty_eq_false_iff, Ne, List.drop_eq_nil_iff]
        exact hdone
      simp only [hne, hdone, if_false, sliceFrom_some hle, Bool.false_eq_true]
      generalize hp : W.write w (buffer.drop written) = p
      obtain ⟨r1, w1⟩ := p
      obtain ⟨hwf1, sp⟩ := hw _ _ _ _ hwf hp
      cases r1 with
      | ok n =>
        have hnle : n ≤ (buffer.drop written).length := sp.le
        by_cases hn : n = 0
        · simp [hn]
        · simp only [hn, if_false, sliceFrom_some hnle, List.drop_drop]
          exact ih (written + n) w1 hwf1 (by rw [List.length_drop] at hnle; omega)
      | err e =>
        by_cases he : e = .interrupted
        · simp only [he, if_true]
          exact ih written w1 hwf1 hle
        · simp [he]
      | panic => rfl
      | hang => rfl

theorem defaultWriteAll_spec (hp : ∀ w, V.wf w → (V.snap w).fd <+: (V.snap w).all) (fuel : Nat) (w : ω) (buf : Bytes)
    (r : IoRes Unit) (w' : ω) (hwf : V.wf w) (hfuel : (V.snap w).oracle.length + buf.length < fuel)
    (h : defaultWriteAll W.write fuel w buf = (r, w')) : V.wf w' ∧ WriteAllSpec (V.snap w) (V.snap w') buf r := by
  have heq := defaultWriteAll_eq hw buf fuel 0 w hwf (Nat.zero_le _)
  rw [List.drop_zero, h] at heq
  generalize hl : BufWriter.flushBufLoop W buf fuel 0 w = p at heq
  obtain ⟨r1, k, w1⟩ := p
  dsimp only at heq
  cases heq
  obtain ⟨hwf', hk, hdone, fs⟩ := flushBufLoop_spec hw hp buf 0 fuel 0 w _ _ _ hwf (Nat.zero_le _) (by omega) hl
  have ha : Adv (V.snap w) (V.snap w') (buf.take k) :=
    ⟨List.append_cancel_right (bs := buf.drop k)
        (by rw [List.append_assoc, List.take_append_drop]; exact fs.adv.all.trans (List.append_nil _)),
      fs.adv.fd, fs.adv.oracle, fs.adv.dead, fs.adv.born⟩
  refine ⟨hwf', ⟨k, hk, ha, fun hr => by have := hdone hr; omega, fun hs e he => ⟨(fs.sticky hs e he).1, ?_⟩⟩,
    fs.safe, fs.noIntr, fs.clean⟩
  have := (fs.sticky hs e he).2
  simp only [BufWriter.view, List.length_append, List.length_drop] at this
  omega

end RetryLoops

theorem Sink.spec : Spec Sink.writer Sink.view where
  fdPrefix := fun _ _ => List.prefix_refl _
  budget := fun _ => rfl
  write := fun w buf r w' _ h => ⟨trivial, Sink.write_spec w buf r w' h⟩
  writeAll := fun w buf r w' _ h =>
    defaultWriteAll_spec (W := Sink.writer) (fun w buf r w' _ h => ⟨trivial, Sink.write_spec w buf r w' h⟩)
      (fun _ _ => List.prefix_refl _) _ w buf r w' trivial (Nat.lt_succ_self _) h
  flush := fun w r w' _ h => by
    simp only [Sink.writer, Sink.flush] at h
    cases h
    exact ⟨trivial, (StepSpec.refl _).flush fun _ => rfl⟩

section BufWriterProofs
variable {ω : Type} {W : Writer ω} {V : View ω}

/-- a step on a `BufWriter` that accepts nothing new (`flush_buf()`, or a statement that may call it); `Q`: what `Ok`
    establishes -/
structure FlushBufSpec (V : View ω) (Q : BufWriter ω → Prop) (bw bw' : BufWriter ω) (r : IoRes Unit) : Prop where
  wf : (BufWriter.view V).wf bw'
  cap : bw'.cap = bw.cap
  step : StepSpec ((BufWriter.view V).snap bw) ((BufWriter.view V).snap bw') r
  done : r = .ok () → Q bw'

theorem FlushBufSpec.writeAll {Q : BufWriter ω → Prop} {bw bw' : BufWriter ω} {r : IoRes Unit}
    (h : FlushBufSpec V Q bw bw' r) :
    (BufWriter.view V).wf bw' ∧ WriteAllSpec ((BufWriter.view V).snap bw) ((BufWriter.view V).snap bw') [] r :=
  ⟨h.wf, h.step.writeAll⟩

theorem flushBuf_spec (hW : Spec W V) (bw : BufWriter ω) (r : IoRes Unit) (bw' : BufWriter ω)
    (hwf : (BufWriter.view V).wf bw) (h : BufWriter.flushBuf W bw = (r, bw')) :
    FlushBufSpec V (·.buf = []) bw bw' r := by
  unfold BufWriter.flushBuf at h
  generalize hp : BufWriter.flushBufLoop W bw.buf (W.budget bw.inner + bw.buf.length + 1) 0 bw.inner = p at h
  obtain ⟨r1, written, inner⟩ := p
  obtain ⟨hwf1, h2, hdone, fs⟩ := flushBufLoop_spec hW.write hW.fdPrefix bw.buf bw.cap _ 0 bw.inner r1 written inner
    hwf.2 (Nat.zero_le _) (by rw [hW.budget]; omega) hp
  have key : (r, bw') = (r1, { bw with buf := bw.buf.drop written, inner := inner }) := by
    rw [← h]
    dsimp only
    split
    · rw [sliceFrom_some h2]
    · rw [show written = 0 by omega]
      rfl
  obtain ⟨rfl, rfl⟩ := Prod.mk.inj key
  refine ⟨⟨?_, hwf1⟩, rfl, fs, fun hr => List.drop_eq_nil_iff.mpr (hdone hr)⟩
  have := hwf.1
  show (bw.buf.drop written).length ≤ bw.cap
  rw [List.length_drop]
  omega

/-- `if c { self.flush_buf()?; }` (bufwriter.rs:365-367, 407-409; linewritershim.rs:46-51) -/
theorem flushBufIf_spec (hW : Spec W V) {c : Prop} [Decidable c] {Q : BufWriter ω → Prop} (bw : BufWriter ω)
    (r : IoRes Unit) (bw' : BufWriter ω) (hwf : (BufWriter.view V).wf bw) (flushed : ∀ b : BufWriter ω, b.buf = [] → Q b)
    (skipped : ¬ c → Q bw) (h : (if c then BufWriter.flushBuf W bw else (.ok (), bw)) = (r, bw')) :
    FlushBufSpec V Q bw bw' r := by
  split at h
  · have fs := flushBuf_spec hW bw r bw' hwf h
    exact ⟨fs.wf, fs.cap, fs.step, fun hr => flushed _ (fs.done hr)⟩
  next hc =>
    cases h
    exact ⟨hwf, rfl, .refl _, fun _ => skipped hc⟩

/-- The `?` after a step that accepts nothing: a predicate on results that survives such a step in front (`after`)
    and holds of its failure (`failed`) holds of the sequence if it holds of the rest. -/
theorem andThen_spec {α : Type} {P : Snap → Snap → IoRes α → Prop} {Q : BufWriter ω → Prop}
    {a : IoRes Unit × BufWriter ω} {f : Unit → BufWriter ω → IoRes α × BufWriter ω} {b b' : BufWriter ω} {r : IoRes α}
    (after : ∀ {s s0 s' r}, Adv s s0 [] → P s0 s' r → P s s' r)
    (failed : ∀ {s s' e}, StepSpec s s' (.err e) → P s s' (.err e))
    (ha : ∀ r0 b0, a = (r0, b0) → FlushBufSpec V Q b b0 r0)
    (hf : ∀ b0, (BufWriter.view V).wf b0 → b0.cap = b.cap → Q b0 → f () b0 = (r, b') →
      (BufWriter.view V).wf b' ∧ P ((BufWriter.view V).snap b0) ((BufWriter.view V).snap b') r)
    (h : andThen a f id = (r, b')) :
    (BufWriter.view V).wf b' ∧ P ((BufWriter.view V).snap b) ((BufWriter.view V).snap b') r := by
  rcases andThen_eq (fun _ _ h0 => (ha _ _ h0).step.safe) h with ⟨u, b0, h0, h⟩ | ⟨e, b0, h0, rfl, rfl⟩
  · have fs := ha _ _ h0
    obtain ⟨hwf', hp⟩ := hf b0 fs.wf fs.cap (fs.done rfl) h
    exact ⟨hwf', after fs.step.adv hp⟩
  · exact ⟨(ha _ _ h0).wf, failed (ha _ _ h0).step⟩

theorem buffered_adv (bw : BufWriter ω) (buf : Bytes) :
    Adv ((BufWriter.view V).snap bw) ((BufWriter.view V).snap { bw with buf := bw.buf ++ buf }) buf :=
  (Adv.refl (V.snap bw.inner)).lift (by simp)

theorem write_buffered (bw : BufWriter ω) (buf : Bytes) :
    WriteSpec ((BufWriter.view V).snap bw) ((BufWriter.view V).snap { bw with buf := bw.buf ++ buf }) buf
      (.ok buf.length) :=
  .ofOk ((buffered_adv (V := V) bw buf).cast (List.take_length ..).symm) (Nat.le_refl _)
    fun _ hb => List.length_pos_iff.mpr hb

theorem writeAll_buffered (bw : BufWriter ω) (buf : Bytes) :
    WriteAllSpec ((BufWriter.view V).snap bw) ((BufWriter.view V).snap { bw with buf := bw.buf ++ buf }) buf
      (.ok ()) where
  adv := ⟨buf.length, Nat.le_refl _, by simpa using buffered_adv (V := V) bw buf, fun _ => rfl,
    fun _ e he => by cases he⟩
  safe := by simp
  noIntr := by simp
  clean := fun _ => rfl

theorem snap_of_empty {b : BufWriter ω} (hemp : b.buf = []) : (BufWriter.view V).snap b = V.snap b.inner := by
  show (⟨_, _ ++ b.buf, _, _⟩ : Snap) = _
  rw [hemp, List.append_nil]

theorem liftEmpty {b : BufWriter ω} (hemp : b.buf = []) {w1 : ω} (P : Snap → Snap → Prop)
    (h : P (V.snap b.inner) (V.snap w1)) :
    P ((BufWriter.view V).snap b) ((BufWriter.view V).snap { b with inner := w1 }) := by
  rw [snap_of_empty hemp, snap_of_empty (b := { b with inner := w1 }) hemp]
  exact h

theorem wf_buffered {bw : BufWriter ω} {buf : Bytes} (hwf : (BufWriter.view V).wf bw)
    (hfit : buf.length ≤ bw.spareCapacity) : (BufWriter.view V).wf { bw with buf := bw.buf ++ buf } := by
  refine ⟨?_, hwf.2⟩
  have := hwf.1
  simp only [List.length_append, BufWriter.spareCapacity] at hfit ⊢
  omega

/-- `write` (bufwriter.rs:519-532, 364-392) and `write_all` (535-548, 401-434) are the same text but for the call on
    the inner writer (`op`) and for what a buffered slice yields (`done`) -/
def BufWriter.writeWith {α : Type} (op : ω → Bytes → IoRes α × ω) (done : α) (W : Writer ω) (bw : BufWriter ω)
    (buf : Bytes) : IoRes α × BufWriter ω :=
  if buf.length < bw.spareCapacity then
    match bw.writeToBufferUnchecked buf with
    | none => (.panic, bw)
    | some bw => (.ok done, bw)
  else
    andThen (if buf.length > bw.spareCapacity then BufWriter.flushBuf W bw else (.ok (), bw))
      (fun _ bw =>
        if buf.length ≥ bw.cap then mapState (fun inner => { bw with inner := inner }) (op bw.inner buf)
        else
          match bw.writeToBufferUnchecked buf with
          | none => (.panic, bw)
          | some bw => (.ok done, bw))
      id

theorem BufWriter.writeWith_spec {α : Type} (hW : Spec W V) {op : ω → Bytes → IoRes α × ω} {done : α} {buf : Bytes}
    (bw : BufWriter ω) (P : Snap → Snap → IoRes α → Prop)
    (after : ∀ {s s0 s' r}, Adv s s0 [] → P s0 s' r → P s s' r)
    (buffered : ∀ b : BufWriter ω,
      P ((BufWriter.view V).snap b) ((BufWriter.view V).snap { b with buf := b.buf ++ buf }) (.ok done))
    (failed : ∀ {s s' e}, StepSpec s s' (.err e) → P s s' (.err e))
    (inner : bw.cap ≤ buf.length → ∀ w r w', V.wf w → op w buf = (r, w') → V.wf w' ∧ P (V.snap w) (V.snap w') r)
    (r : IoRes α) (bw' : BufWriter ω) (hwf : (BufWriter.view V).wf bw)
    (h : BufWriter.writeWith op done W bw buf = (r, bw')) :
    (BufWriter.view V).wf bw' ∧ P ((BufWriter.view V).snap bw) ((BufWriter.view V).snap bw') r := by
  unfold BufWriter.writeWith at h
  split at h
  next hc =>
    rw [BufWriter.writeToBufferUnchecked, if_pos (Nat.le_of_lt hc)] at h
    cases h
    exact ⟨wf_buffered hwf (Nat.le_of_lt hc), buffered bw⟩
  next =>
    -- after the conditional `flush_buf` the slice fits, or the buffer is empty
    refine andThen_spec (Q := fun b0 => buf.length ≤ b0.spareCapacity ∨ b0.buf = []) after failed
      (fun r0 b0 => flushBufIf_spec hW bw r0 b0 hwf (fun _ h => .inr h) fun hc => .inl (Nat.not_lt.mp hc))
      (fun bw0 hwf0 hcap hroom h => ?_) h
    split at h
    next hc =>
      obtain ⟨w1, hq, rfl⟩ := mapState_eq h
      obtain ⟨hwf1, sp⟩ := inner (hcap ▸ hc) _ _ _ hwf0.2 hq
      have hemp : bw0.buf = [] := hroom.elim (fun h => List.eq_nil_of_length_eq_zero (by
        have := hwf0.1
        simp only [BufWriter.spareCapacity] at h
        omega)) id
      exact ⟨⟨hwf0.1, hwf1⟩, liftEmpty hemp (P · · _) sp⟩
    next hc =>
      have hfit : buf.length ≤ bw0.spareCapacity :=
        hroom.elim id fun h => by simp only [BufWriter.spareCapacity, h, List.length_nil]; omega
      rw [BufWriter.writeToBufferUnchecked, if_pos hfit] at h
      cases h
      exact ⟨wf_buffered hwf0 hfit, buffered bw0⟩

theorem BufWriter.write_spec (hW : Spec W V) (bw : BufWriter ω) (buf : Bytes) (r : IoRes Nat) (bw' : BufWriter ω)
    (hwf : (BufWriter.view V).wf bw) (h : BufWriter.write W bw buf = (r, bw')) :
    (BufWriter.view V).wf bw' ∧
      WriteSpec ((BufWriter.view V).snap bw) ((BufWriter.view V).snap bw') buf r :=
  BufWriter.writeWith_spec hW bw (WriteSpec · · buf ·) WriteSpec.after (write_buffered · buf) (StepSpec.writeErr buf)
    (fun _ w r w' => hW.write w buf r w') r bw' hwf h

theorem BufWriter.writeAll_spec (hW : Spec W V) (bw : BufWriter ω) (buf : Bytes) (r : IoRes Unit)
    (bw' : BufWriter ω) (hwf : (BufWriter.view V).wf bw) (h : BufWriter.writeAll W bw buf = (r, bw')) :
    (BufWriter.view V).wf bw' ∧
      WriteAllSpec ((BufWriter.view V).snap bw) ((BufWriter.view V).snap bw') buf r :=
  BufWriter.writeWith_spec hW bw (WriteAllSpec · · buf ·) WriteAllSpec.after (writeAll_buffered · buf)
    (fun h => h.writeAll.errLeft buf) (fun _ w r w' => hW.writeAll w buf r w') r bw' hwf h

theorem BufWriter.flush_spec (hW : Spec W V) (bw : BufWriter ω) (r : IoRes Unit) (bw' : BufWriter ω)
    (hwf : (BufWriter.view V).wf bw) (h : BufWriter.flush W bw = (r, bw')) :
    (BufWriter.view V).wf bw' ∧
      FlushSpec ((BufWriter.view V).snap bw) ((BufWriter.view V).snap bw') r := by
  refine andThen_spec (P := (FlushSpec · · ·)) FlushSpec.after (·.flush nofun) (flushBuf_spec hW bw · · hwf)
    (fun bw0 hwf0 _ hemp h => ?_) h
  obtain ⟨w1, hq, rfl⟩ := mapState_eq h
  obtain ⟨hwf1, sp⟩ := hW.flush _ _ _ hwf0.2 hq
  exact ⟨⟨hwf0.1, hwf1⟩, liftEmpty hemp (FlushSpec · · _) sp⟩

theorem BufWriter.spec (hW : Spec W V) : Spec (BufWriter.writer W) (BufWriter.view V) where
  fdPrefix := fun bw hwf => (hW.fdPrefix bw.inner hwf.2).trans (List.prefix_append _ _)
  budget := fun bw => hW.budget bw.inner
  write := BufWriter.write_spec hW
  writeAll := BufWriter.writeAll_spec hW
  flush := BufWriter.flush_spec hW

theorem memrchr_lt (c : UInt8) : ∀ (buf : Bytes) (i : Nat), memrchr c buf = some i → i < buf.length
  | [], i, h => by simp [memrchr] at h
  | x :: t, i, h => by
    unfold memrchr at h
    cases ht : memrchr c t with
    | some j =>
      simp only [ht, Option.some.injEq] at h
      have := memrchr_lt c t j ht
      simp only [List.length_cons]
      omega
    | none =>
      simp only [ht] at h
      split at h
      · cases h; simp
      · cases h

theorem flushIfCompletedLine_spec (hW : Spec W V) (b : BufWriter ω) (r : IoRes Unit) (b' : BufWriter ω)
    (hwf : (BufWriter.view V).wf b) (h : Shim.flushIfCompletedLine W b = (r, b')) :
    FlushBufSpec V (fun _ => True) b b' r :=
  flushBufIf_spec hW b r b' hwf (fun _ _ => trivial) (fun _ => trivial) h

theorem writeToBuf_eq (b : BufWriter ω) (t : Bytes) :
    b.writeToBuf t = some (min b.spareCapacity t.length,
      { b with buf := b.buf ++ t.take (min b.spareCapacity t.length) }) := by
  unfold BufWriter.writeToBuf
  have h1 : min b.spareCapacity t.length ≤ t.length := Nat.min_le_right _ _
  simp only [sliceTo_some h1, BufWriter.writeToBufferUnchecked, List.length_take]
  rw [if_pos]
  omega

theorem tailOf_spec (cap : Nat) (buf : Bytes) (nl fl : Nat) (h1 : fl ≤ nl) (h2 : nl ≤ buf.length) :
    Shim.tailOf cap buf nl fl ≠ .panic ∧ ∀ t, Shim.tailOf cap buf nl fl = .tail t → t <+: buf.drop fl := by
  have hfl : fl ≤ buf.length := Nat.le_trans h1 h2
  unfold Shim.tailOf
  by_cases hc1 : fl ≥ nl
  · simp only [hc1, if_true, sliceFrom_some hfl]
    split
    · exact ⟨by simp, by simp⟩
    · exact ⟨by simp, fun t ht => by cases ht; exact List.prefix_refl _⟩
  · simp only [hc1, if_false]
    by_cases hc2 : nl - fl ≤ cap
    · have : fl ≤ nl ∧ nl ≤ buf.length := ⟨h1, h2⟩
      simp only [hc2, if_true, sliceRange, this, and_self, Shim.Tail.ofOption]
      exact ⟨by simp, fun t ht => by cases ht; exact List.take_prefix _ _⟩
    · have hcap : cap ≤ (buf.drop fl).length := by simp only [List.length_drop]; omega
      simp only [hc2, if_false, sliceFrom_some hfl, sliceTo_some hcap]
      cases hm : memrchr 0x0A ((buf.drop fl).take cap) with
      | none => exact ⟨by simp, fun t ht => by cases ht; exact List.take_prefix _ _⟩
      | some i =>
        have hi := memrchr_lt _ _ _ hm
        have : i + 1 ≤ ((buf.drop fl).take cap).length := hi
        simp only [sliceTo_some this, Shim.Tail.ofOption]
        exact ⟨by simp, fun t ht => by cases ht; exact (List.take_prefix _ _).trans (List.take_prefix _ _)⟩

theorem take_of_prefix {t l : Bytes} (h : t <+: l) {n : Nat} (hn : n ≤ t.length) : t.take n = l.take n := by
  obtain ⟨u, rfl⟩ := h
  rw [List.take_append_of_le_length hn]

theorem writeToBuf_spec {s : Snap} {b : BufWriter ω} {buf t : Bytes} {n : Nat} (hwf : (BufWriter.view V).wf b)
    (sp : WriteSpec s ((BufWriter.view V).snap b) buf (.ok n)) (hn : 0 < n) (hpre : t <+: buf.drop n) :
    ∃ m b', b.writeToBuf t = some (m, b') ∧ (BufWriter.view V).wf b' ∧
      WriteSpec s ((BufWriter.view V).snap b') buf (.ok (n + m)) := by
  refine ⟨_, _, writeToBuf_eq b t, wf_buffered hwf ?_, .ofOk ?_ ?_ fun _ _ => by omega⟩
  · rw [List.length_take]
    omega
  · have hadv : Adv s _ (buf.take n) := sp.adv
    refine (hadv.trans (buffered_adv (V := V) b _)).cast ?_
    rw [take_of_prefix hpre (Nat.min_le_right _ _), ← List.take_add]
  · have := hpre.length_le
    have : n ≤ buf.length := sp.le
    rw [List.length_drop] at *
    omega

theorem Shim.write_spec (hW : Spec W V) (b : BufWriter ω) (buf : Bytes) (r : IoRes Nat) (b' : BufWriter ω)
    (hwf : (BufWriter.view V).wf b) (h : Shim.write W b buf = (r, b')) :
    (BufWriter.view V).wf b' ∧
      WriteSpec ((BufWriter.view V).snap b) ((BufWriter.view V).snap b') buf r := by
  unfold Shim.write at h
  split at h
  next =>
    exact andThen_spec (P := (WriteSpec · · buf ·)) WriteSpec.after (StepSpec.writeErr buf)
      (flushIfCompletedLine_spec hW b · · hwf) (fun b0 hwf0 _ _ h => BufWriter.write_spec hW b0 buf r b' hwf0 h) h
  next idx hm =>
    have hnl : idx + 1 ≤ buf.length := memrchr_lt _ _ _ hm
    have hlines : buf.take (idx + 1) ≠ [] := List.ne_nil_of_length_pos (by rw [List.length_take]; omega)
    refine andThen_spec (P := (WriteSpec · · buf ·)) WriteSpec.after (StepSpec.writeErr buf)
      (flushBuf_spec hW b · · hwf) (fun b0 hwf0 _ hemp h => ?_) h
    rw [sliceTo_some hnl] at h
    dsimp only at h
    generalize hq : W.write b0.inner (buf.take (idx + 1)) = p at h
    obtain ⟨r1, w1⟩ := p
    obtain ⟨hwf1, spl⟩ := hW.write _ _ _ _ hwf0.2 hq
    have hwfb : (BufWriter.view V).wf { b0 with inner := w1 } := ⟨hwf0.1, hwf1⟩
    -- whatever the writer below says about the lines holds of the whole slice; l.104-106, l.126-128 and `?` pass it on
    have sp : WriteSpec ((BufWriter.view V).snap b0) ((BufWriter.view V).snap { b0 with inner := w1 }) buf r1 :=
      (liftEmpty hemp (WriteSpec · · _ _) spl).ofPrefix hlines
    rcases IoRes.ok_or_err spl.safe with ⟨flushed, rfl⟩ | ⟨e, rfl⟩
    · have hfl : flushed ≤ idx + 1 := Nat.le_trans spl.le (List.length_take_le _ _)
      simp only [andThen] at h
      split at h
      next hz =>
        cases h
        exact ⟨hwfb, hz ▸ sp⟩
      next hz =>
        obtain ⟨hnp, htl⟩ := tailOf_spec b0.cap buf (idx + 1) flushed hfl hnl
        split at h
        next ht => exact absurd ht hnp
        next =>
          cases h
          exact ⟨hwfb, sp⟩
        next t ht =>
          obtain ⟨m, b1, hb, hwf', sp'⟩ := writeToBuf_spec hwfb sp (by omega) (htl t ht)
          rw [hb] at h
          cases h
          exact ⟨hwf', sp'⟩
    · simp only [andThen] at h
      cases h
      exact ⟨hwfb, sp⟩

/-- linewritershim.rs:280-291 -/
theorem writeLines_spec (hW : Spec W V) (b : BufWriter ω) (lines : Bytes) (r : IoRes Unit) (b' : BufWriter ω)
    (hwf : (BufWriter.view V).wf b)
    (h : (if b.buf.isEmpty then mapState (fun inner => { b with inner := inner }) (W.writeAll b.inner lines)
          else andThen (BufWriter.writeAll W b lines) (fun _ b => BufWriter.flushBuf W b) id) = (r, b')) :
    (BufWriter.view V).wf b' ∧
      WriteAllSpec ((BufWriter.view V).snap b) ((BufWriter.view V).snap b') lines r := by
  split at h
  next hemp =>
    rw [List.isEmpty_iff] at hemp
    obtain ⟨w1, hq, rfl⟩ := mapState_eq h
    obtain ⟨hwf1, sp⟩ := hW.writeAll _ _ _ _ hwf.2 hq
    exact ⟨⟨hwf.1, hwf1⟩, liftEmpty hemp (WriteAllSpec · · lines _) sp⟩
  next =>
    exact List.append_nil lines ▸ WriteAllSpec.andThen (V := BufWriter.view V) (BufWriter.writeAll_spec hW b lines · · hwf)
      (fun b0 hwf0 h => (flushBuf_spec hW b0 r b' hwf0 h).writeAll) h

theorem Shim.writeAll_spec (hW : Spec W V) (b : BufWriter ω) (buf : Bytes) (r : IoRes Unit) (b' : BufWriter ω)
    (hwf : (BufWriter.view V).wf b) (h : Shim.writeAll W b buf = (r, b')) :
    (BufWriter.view V).wf b' ∧
      WriteAllSpec ((BufWriter.view V).snap b) ((BufWriter.view V).snap b') buf r := by
  unfold Shim.writeAll at h
  split at h
  next =>
    exact WriteAllSpec.andThen (V := BufWriter.view V) (x := [])
      (fun r0 b0 h0 => (flushIfCompletedLine_spec hW b r0 b0 hwf h0).writeAll)
      (fun b0 hwf0 h => BufWriter.writeAll_spec hW b0 buf r b' hwf0 h) h
  next idx hm =>
    have hnl : idx + 1 ≤ buf.length := memrchr_lt _ _ _ hm
    rw [sliceTo_some hnl, sliceFrom_some hnl] at h
    rw [← List.take_append_drop (idx + 1) buf]
    exact WriteAllSpec.andThen (V := BufWriter.view V) (writeLines_spec hW b _ · · hwf)
      (fun b0 hwf0 h => BufWriter.writeAll_spec hW b0 _ r b' hwf0 h) h

end BufWriterProofs

/-- a `LineWriter` is observed through its `BufWriter` -/
def LineWriter.view {ω : Type} (V : View ω) : View (LineWriter ω) where
  snap := fun lw => (BufWriter.view V).snap lw.inner
  wf := fun lw => (BufWriter.view V).wf lw.inner

theorem LineWriter.spec {ω : Type} {W : Writer ω} {V : View ω} (hW : Spec W V) :
    Spec (LineWriter.writer W) (LineWriter.view V) where
  fdPrefix := fun lw hwf => (BufWriter.spec hW).fdPrefix lw.inner hwf
  budget := fun lw => hW.budget lw.inner.inner
  write := fun lw buf r lw' hwf h => by
    obtain ⟨b1, hp, rfl⟩ := mapState_eq h
    exact Shim.write_spec hW lw.inner buf r b1 hwf hp
  writeAll := fun lw buf r lw' hwf h => by
    obtain ⟨b1, hp, rfl⟩ := mapState_eq h
    exact Shim.writeAll_spec hW lw.inner buf r b1 hwf hp
  flush := fun lw r lw' hwf h => by
    obtain ⟨b1, hp, rfl⟩ := mapState_eq h
    exact BufWriter.flush_spec hW lw.inner r b1 hwf hp

def stdoutView : View Stdout := BufWriter.view (LineWriter.view Sink.view)

theorem lineWriter_spec : Spec lineWriter (LineWriter.view Sink.view) := LineWriter.spec Sink.spec

theorem stdout_spec : Spec stdoutWriter stdoutView := BufWriter.spec lineWriter_spec

section Sessions
variable {ω : Type} {W : Writer ω} {V : View ω}

theorem writeAlls_spec (hW : Spec W V) : ∀ (xs : List Bytes) (w : ω) (r : IoRes Unit) (w' : ω), V.wf w →
    writeAlls W xs w = (r, w') → V.wf w' ∧ WriteAllSpec (V.snap w) (V.snap w') xs.flatten r
  | [], w, r, w', hwf, h => by
    simp only [writeAlls] at h
    cases h
    exact ⟨hwf, (StepSpec.refl _).writeAll⟩
  | x :: xs, w, r, w', hwf, h =>
    WriteAllSpec.andThen (hW.writeAll w x · · hwf) (fun w0 hwf0 h => writeAlls_spec hW xs w0 r w' hwf0 h) h

theorem session_spec (hW : Spec W V) (xs : List Bytes) (w : ω) (r : IoRes Unit) (w' : ω) (hwf : V.wf w)
    (h : session W xs w = (r, w')) :
    V.wf w' ∧ WriteAllSpec (V.snap w) (V.snap w') xs.flatten r ∧ (r = .ok () → (V.snap w').fd = (V.snap w').all) := by
  rcases andThen_eq (fun _ _ h0 => (writeAlls_spec hW xs w _ _ hwf h0).2.safe) h with
    ⟨u, w0, h0, h⟩ | ⟨e, _, h0, rfl, rfl⟩
  · obtain ⟨hwf0, sp0⟩ := writeAlls_spec hW xs w _ w0 hwf h0
    obtain ⟨hwf', sp⟩ := hW.flush w0 r w' hwf0 h
    exact ⟨hwf', List.append_nil xs.flatten ▸ sp0.append sp.step.writeAll, sp.done⟩
  · obtain ⟨hwf0, sp0⟩ := writeAlls_spec hW xs w _ _ hwf h0
    exact ⟨hwf0, sp0, nofun⟩

/-- The session with the seeded defect is still a `write_all` of the output; what it has lost is the second half of
    `session_spec`: its `Ok` does not say that the buffers below are empty. -/
theorem sessionSkippingEmpty_spec (hW : Spec W V) (xs : List Bytes) (bw : BufWriter ω) (r : IoRes Unit)
    (bw' : BufWriter ω) (hwf : (BufWriter.view V).wf bw) (h : sessionSkippingEmpty W xs bw = (r, bw')) :
    (BufWriter.view V).wf bw' ∧
      WriteAllSpec ((BufWriter.view V).snap bw) ((BufWriter.view V).snap bw') xs.flatten r := by
  refine List.append_nil xs.flatten ▸ WriteAllSpec.andThen (V := BufWriter.view V)
    (writeAlls_spec (BufWriter.spec hW) xs bw · · hwf) (fun b0 hwf0 h => ?_) h
  split at h
  · cases h
    exact ⟨hwf0, (StepSpec.refl _).writeAll⟩
  · exact (BufWriter.flush_spec hW b0 r bw' hwf0 h).imp id (·.step.writeAll)

/-- `s`: a writer seen through its buffers; `s'`: what is below it after `Drop for BufWriter` (errors ignored) -/
structure Drops (s s' : Snap) : Prop where
  all : s'.all <+: s.all
  fd : s.fd <+: s'.fd
  dead : s.dead = true → s'.fd = s.fd ∧ s'.dead = true
  clean : s.faultFree → s'.all = s.all ∧ s'.faultFree

theorem Drops.trans {s s' s'' : Snap} (h : Drops s s') (h' : Drops s' s'') : Drops s s'' where
  all := h'.all.trans h.all
  fd := h.fd.trans h'.fd
  dead := fun hd => ⟨(h'.dead (h.dead hd).2).1.trans (h.dead hd).1, (h'.dead (h.dead hd).2).2⟩
  clean := fun hf => ⟨(h'.clean (h.clean hf).2).1.trans (h.clean hf).1, (h'.clean (h.clean hf).2).2⟩

theorem BufWriter.drop_spec (hW : Spec W V) (bw : BufWriter ω) (hwf : (BufWriter.view V).wf bw) :
    V.wf (BufWriter.drop W bw) ∧ Drops ((BufWriter.view V).snap bw) (V.snap (BufWriter.drop W bw)) := by
  unfold BufWriter.drop
  generalize hp : BufWriter.flushBuf W bw = p
  obtain ⟨r, bw'⟩ := p
  have fs := flushBuf_spec hW bw r bw' hwf hp
  have hall : (V.snap bw'.inner).all ++ bw'.buf = ((BufWriter.view V).snap bw).all :=
    fs.step.adv.all.trans (List.append_nil _)
  refine ⟨fs.wf.2, hall ▸ List.prefix_append _ _, fs.step.adv.fd, fun hd => (fs.step.adv.dead hd).symm,
    fun hf => ⟨?_, fs.step.adv.faultFree hf⟩⟩
  rw [← hall, fs.done (fs.step.clean hf), List.append_nil]

end Sessions

theorem Stdout.new_wf (c lc : Nat) (oracle : List WAns) : stdoutView.wf (Stdout.new c lc oracle) :=
  ⟨Nat.zero_le _, Nat.zero_le _, trivial⟩

theorem Stdout.new_snap (c lc : Nat) (oracle : List WAns) :
    stdoutView.snap (Stdout.new c lc oracle) = ⟨[], [], oracle, false⟩ := rfl

/-- the two drops at the end of the process, from any state of the `BufWriter<StdoutLock>` -/
def finalSink (stdout : Stdout) : Sink := LineWriter.drop Sink.writer (BufWriter.drop lineWriter stdout)

theorem finalSink_spec (st : Stdout) (hwf : stdoutView.wf st) :
    Drops (stdoutView.snap st) (Sink.view.snap (finalSink st)) :=
  (BufWriter.drop_spec lineWriter_spec st hwf).2.trans
    (BufWriter.drop_spec Sink.spec _ (BufWriter.drop_spec lineWriter_spec st hwf).1).2

/-- What is on fd 1 at the end of the process when the run up to the drops was, taken together, a `write_all` of `out`
    (the session, the engine-error path, the session with the skipped flush) -/
theorem run_then_drops {s : Snap} {st : Stdout} {out : Bytes} {r : IoRes Unit} (hwf : stdoutView.wf st)
    (sp : WriteAllSpec s (stdoutView.snap st) out r) :
    (finalSink st).fd <+: s.all ++ out ∧
    (s.faultFree → r = .ok () ∧ (finalSink st).fd = s.all ++ out ∧ (finalSink st).dead = false) ∧
    (r = .ok () → (stdoutView.snap st).fd = (stdoutView.snap st).all → (finalSink st).fd = s.all ++ out) ∧
    (s.sticky → ∀ e, r = .err e → (finalSink st).fd.length < s.all.length + out.length) := by
  obtain ⟨k, hk, ha, hok, hst⟩ := sp.adv
  have h := finalSink_spec st hwf
  -- with `finalSink st` opaque, `(Sink.view.snap _).all` reduces to `_.fd` without unfolding the drops
  generalize finalSink st = raw at h ⊢
  have h1 : raw.fd <+: s.all ++ out.take k := ha.all ▸ h.all
  have hpre : raw.fd <+: s.all ++ out := h1.trans ((List.prefix_append_right_inj _).mpr (List.take_prefix _ _))
  refine ⟨hpre, fun hf => ?_, fun hr hfl => ?_, fun hs e he => ?_⟩
  · have hr := sp.clean hf
    obtain ⟨a, b⟩ := h.clean (ha.faultFree hf)
    rw [hok hr, List.take_length] at ha
    exact ⟨hr, a.trans ha.all, b.1⟩
  · refine hpre.eq_of_length_le ?_
    have := h.fd.length_le
    rw [hfl, ha.all, hok hr, List.take_length] at this
    exact this
  · obtain ⟨a, b⟩ := hst hs e he
    have hfd : raw.fd = _ := (h.dead a).1
    rw [hfd]
    have := (stdout_spec.fdPrefix st hwf).length_le
    have := congrArg List.length ha.all
    rw [List.length_append, List.length_take] at this
    omega

theorem mainWrites_eq (c lc : Nat) (oracle : List WAns) (xs : List Bytes) :
    mainWrites c lc oracle xs =
      (IoRes.status (session stdoutWriter xs (Stdout.new c lc oracle)).1,
       finalSink (session stdoutWriter xs (Stdout.new c lc oracle)).2) := rfl

theorem main_session_spec (c lc : Nat) (oracle : List WAns) (xs : List Bytes) (r : IoRes Unit) (st : Stdout)
    (h : session stdoutWriter xs (Stdout.new c lc oracle) = (r, st)) :
    stdoutView.wf st ∧ WriteAllSpec ⟨[], [], oracle, false⟩ (stdoutView.snap st) xs.flatten r ∧
      (r = .ok () → (stdoutView.snap st).fd = (stdoutView.snap st).all) :=
  session_spec stdout_spec xs _ r st (Stdout.new_wf c lc oracle) h

theorem mainWrites_spec (c lc : Nat) (oracle : List WAns) (xs : List Bytes) :
    (mainWrites c lc oracle xs).2.fd <+: xs.flatten ∧
    ((mainWrites c lc oracle xs).1 = .ok ∨ (mainWrites c lc oracle xs).1 = .fail) ∧
    ((mainWrites c lc oracle xs).1 = .ok → (mainWrites c lc oracle xs).2.fd = xs.flatten) ∧
    ((∀ a ∈ oracle, a.benign = true) → (mainWrites c lc oracle xs).1 = .ok) ∧
    ((∀ a ∈ oracle, a.hard = true) → (mainWrites c lc oracle xs).1 ≠ .ok →
      (mainWrites c lc oracle xs).2.fd.length < xs.flatten.length) := by
  rw [mainWrites_eq]
  generalize hp : session stdoutWriter xs (Stdout.new c lc oracle) = p
  obtain ⟨r, st⟩ := p
  obtain ⟨hwf, sp, hdone⟩ := main_session_spec c lc oracle xs r st hp
  obtain ⟨h1, h2, h3, h4⟩ := run_then_drops hwf sp
  rcases IoRes.ok_or_err sp.safe with ⟨u, rfl⟩ | ⟨e, rfl⟩
  · exact ⟨h1, .inl rfl, fun _ => h3 rfl (hdone rfl), fun _ => rfl, fun _ hr => absurd rfl hr⟩
  · exact ⟨h1, .inr rfl, nofun, fun hb => (nomatch (h2 ⟨rfl, hb⟩).1), fun hs _ => by simpa using h4 hs e rfl⟩

/-- **W1** — a fault-free OS (any pattern of short writes and `EINTR`): every `write_all` and the `flush` return
    `Ok`, and fd 1 holds exactly `x₁ ++ … ++ xₖ` — nothing stays in the `BufWriter` or the `LineWriter` -/
theorem W1_fault_free (c lc : Nat) (oracle : List WAns) (xs : List Bytes)
    (h : ∀ a ∈ oracle, a.benign = true) :
    mainWrites c lc oracle xs = (.ok, ⟨xs.flatten, (mainWrites c lc oracle xs).2.oracle, false⟩) := by
  rw [mainWrites_eq]
  generalize hp : session stdoutWriter xs (Stdout.new c lc oracle) = p
  obtain ⟨r, st⟩ := p
  obtain ⟨hwf, sp, -⟩ := main_session_spec c lc oracle xs r st hp
  obtain ⟨hr, hfd, hd⟩ := (run_then_drops hwf sp).2.1 ⟨rfl, h⟩
  have hS : ∀ s : Sink, s.fd = xs.flatten → s.dead = false → s = ⟨xs.flatten, s.oracle, false⟩ := by
    rintro ⟨_, _, _⟩ rfl rfl
    rfl
  cases hr
  exact congrArg (Prod.mk Status.ok) (hS _ hfd hd)

/-- **W1, before the drops** — right after `flush()` returned (fault-free OS): `Ok`, BOTH buffers are empty and
    fd 1 holds `x₁ ++ … ++ xₖ` -/
theorem W1_session (c lc : Nat) (oracle : List WAns) (xs : List Bytes) (h : ∀ a ∈ oracle, a.benign = true) :
    (session stdoutWriter xs (Stdout.new c lc oracle)).1 = .ok () ∧
    (session stdoutWriter xs (Stdout.new c lc oracle)).2.buf = [] ∧
    (session stdoutWriter xs (Stdout.new c lc oracle)).2.inner.inner.buf = [] ∧
    (session stdoutWriter xs (Stdout.new c lc oracle)).2.fd = xs.flatten := by
  generalize hp : session stdoutWriter xs (Stdout.new c lc oracle) = p
  obtain ⟨r, st⟩ := p
  obtain ⟨hwf, sp, hdone⟩ := main_session_spec c lc oracle xs r st hp
  have hr := sp.clean ⟨rfl, h⟩
  obtain ⟨k, -, ha, hok, -⟩ := sp.adv
  have a : (stdoutView.snap st).all = xs.flatten := by rw [ha.all, hok hr, List.take_length]; rfl
  have b : st.fd = st.fd ++ st.inner.inner.buf ++ st.buf := hdone hr
  have hlen := congrArg List.length b
  simp only [List.length_append] at hlen
  have h1 : st.buf = [] := List.eq_nil_of_length_eq_zero (by omega)
  have h2 : st.inner.inner.buf = [] := List.eq_nil_of_length_eq_zero (by omega)
  refine ⟨hr, h1, h2, ?_⟩
  rw [b]
  exact a

/-- the retry loops (`flush_buf`, the default `write_all`) never run out of the fuel `budget + len + 1`, and no
    checked operation fails — for every state `main`'s stdout can be in, every slice, every OS -/
theorem stdout_never_hangs_or_panics (st : Stdout) (buf : Bytes) (hwf : stdoutView.wf st) :
    ((stdoutWriter.write st buf).1 ≠ .panic ∧ (stdoutWriter.write st buf).1 ≠ .hang) ∧
    ((stdoutWriter.writeAll st buf).1 ≠ .panic ∧ (stdoutWriter.writeAll st buf).1 ≠ .hang) ∧
    ((stdoutWriter.flush st).1 ≠ .panic ∧ (stdoutWriter.flush st).1 ≠ .hang) :=
  ⟨(stdout_spec.write st buf _ _ hwf rfl).2.safe, (stdout_spec.writeAll st buf _ _ hwf rfl).2.safe,
   (stdout_spec.flush st _ _ hwf rfl).2.safe⟩

/-- **W2** — EVERY OS (short writes, `EINTR`, `Ok(0)`, transient and sticky errors at any point): what reached
    fd 1 is a PREFIX of `x₁ ++ … ++ xₖ`, and if anything is missing the status is 1 — some `write_all` or the final
    `flush` returned `Err` (no silent loss).  (That the status is 0 or 1 at all — no panic, no hang — is the second
    conjunct of `mainWrites_spec`.) -/
theorem W2_prefix_and_no_silent_loss (c lc : Nat) (oracle : List WAns) (xs : List Bytes) :
    (mainWrites c lc oracle xs).2.fd <+: xs.flatten ∧
    ((mainWrites c lc oracle xs).2.fd ≠ xs.flatten → (mainWrites c lc oracle xs).1 = .fail) := by
  obtain ⟨h1, h2, h3, -, -⟩ := mainWrites_spec c lc oracle xs
  refine ⟨h1, fun hne => ?_⟩
  rcases h2 with h | h
  · exact absurd (h3 h) hne
  · exact h

/-- **W2, the connection to `deliver`** (`Tuc.Model.Args`; `deliver_prefix`, `deliver_cut_fails`,
    `success_complete` of `Tuc.Props.C14`): for an engine whose run is `⟨out, ok⟩`, what the literal stack leaves
    on fd 1 is the output of `deliver ⟨out, ok⟩ limit` for some `limit`; when `deliver` ends with `ok` the process
    ends with status 0 or 1 (unconditionally: `mainWrites_spec`); status 0 of the process implies status `ok` of
    `deliver`; and when the oracle has neither a transient error nor an `Ok(0)` (`hard`) the two statuses are EQUAL -/
theorem W2_deliver (c lc : Nat) (oracle : List WAns) (xs : List Bytes) :
    ∃ limit : Option Nat,
      (mainWrites c lc oracle xs).2.fd = (deliver ⟨xs.flatten, .ok⟩ limit).out ∧
      ((deliver ⟨xs.flatten, .ok⟩ limit).status = .ok → (mainWrites c lc oracle xs).1 = .ok ∨
        (mainWrites c lc oracle xs).1 = .fail) ∧
      ((mainWrites c lc oracle xs).1 = .ok → (deliver ⟨xs.flatten, .ok⟩ limit).status = .ok) ∧
      ((∀ a ∈ oracle, a.hard = true) →
        (mainWrites c lc oracle xs).1 = (deliver ⟨xs.flatten, .ok⟩ limit).status) := by
  obtain ⟨h1, h2, h3, -, h5⟩ := mainWrites_spec c lc oracle xs
  by_cases hlt : (mainWrites c lc oracle xs).2.fd.length < xs.flatten.length
  · have hfail : (mainWrites c lc oracle xs).1 = .fail := h2.resolve_left fun h => by rw [h3 h] at hlt; omega
    refine ⟨some (mainWrites c lc oracle xs).2.fd.length, ?_, fun _ => h2, fun hok => absurd (hfail.symm.trans hok) (by decide), fun _ => ?_⟩
    · simp only [deliver, Nat.not_le.mpr hlt, if_false]
      exact List.prefix_iff_eq_take.mp h1
    · simp only [deliver, Nat.not_le.mpr hlt, if_false, if_true]
      exact hfail
  · have heq : (mainWrites c lc oracle xs).2.fd = xs.flatten := h1.eq_of_length_le (by omega)
    refine ⟨none, by simp [deliver, heq], fun _ => h2, fun _ => by simp [deliver], fun hs => ?_⟩
    simp only [deliver]
    rcases h2 with h | h
    · exact h
    · exact absurd (h5 hs (by rw [h]; simp)) hlt

theorem mainWritesThenErr_eq (c lc : Nat) (oracle : List WAns) (xs : List Bytes) :
    mainWritesThenErr c lc oracle xs =
      ((match IoRes.status (writeAlls stdoutWriter xs (Stdout.new c lc oracle)).1 with | .ok => .fail | st => st),
       finalSink (writeAlls stdoutWriter xs (Stdout.new c lc oracle)).2) := rfl

/-- the engine-error path (`Err` after having written `xs`; no `flush()`, only the drops): status 1, a prefix on
    fd 1 — and ALL of `xs` when the OS does not fail (the output before a failing record is not lost) -/
theorem mainWritesThenErr_spec (c lc : Nat) (oracle : List WAns) (xs : List Bytes) :
    (mainWritesThenErr c lc oracle xs).1 = .fail ∧
    (mainWritesThenErr c lc oracle xs).2.fd <+: xs.flatten ∧
    ((∀ a ∈ oracle, a.benign = true) → (mainWritesThenErr c lc oracle xs).2.fd = xs.flatten) := by
  rw [mainWritesThenErr_eq]
  generalize hp : writeAlls stdoutWriter xs (Stdout.new c lc oracle) = p
  obtain ⟨r, st⟩ := p
  obtain ⟨hwf, sp⟩ := writeAlls_spec stdout_spec xs _ r st (Stdout.new_wf c lc oracle) hp
  obtain ⟨h1, h2, -, -⟩ := run_then_drops hwf sp
  refine ⟨?_, h1, fun hb => (h2 ⟨rfl, hb⟩).2.1⟩
  rcases IoRes.ok_or_err sp.safe with ⟨u, rfl⟩ | ⟨e, rfl⟩ <;> rfl

theorem memrchr_none (c : UInt8) : ∀ (t : Bytes), c ∉ t → memrchr c t = none
  | [], _ => rfl
  | x :: t, h => by
    have h1 : c ∉ t := fun hm => h (List.mem_cons_of_mem _ hm)
    have h2 : ¬ x = c := fun he => h (by simp [he])
    simp [memrchr, memrchr_none c t h1, h2]

theorem memrchr_last (c : UInt8) (t : Bytes) (ht : c ∉ t) : ∀ (pre : Bytes), memrchr c (pre ++ c :: t) = some pre.length
  | [] => by simp [memrchr, memrchr_none c t ht]
  | x :: pre => by simp [memrchr, memrchr_last c t ht pre]

theorem take_through (pre : Bytes) (c : UInt8) (tl : Bytes) : (pre ++ c :: tl).take (pre.length + 1) = pre ++ [c] := by
  rw [show pre ++ c :: tl = (pre ++ [c]) ++ tl by simp, List.take_left' (by simp)]

theorem drop_through (pre : Bytes) (c : UInt8) (tl : Bytes) : (pre ++ c :: tl).drop (pre.length + 1) = tl := by
  rw [show pre ++ c :: tl = (pre ++ [c]) ++ tl by simp, List.drop_left' (by simp)]

section Ideal
variable {ω : Type}

theorem flushBuf_nil (W : Writer ω) (bw : BufWriter ω) (h : bw.buf = []) : BufWriter.flushBuf W bw = (.ok (), bw) := by
  obtain ⟨b, c, i⟩ := bw
  simp only at h
  subst h
  unfold BufWriter.flushBuf
  rw [show W.budget i + ([] : Bytes).length + 1 = (W.budget i + ([] : Bytes).length).succ from rfl]
  unfold BufWriter.flushBufLoop
  simp

/-- bufwriter.rs:371-375 / 413-417: a slice of at least `capacity` bytes BYPASSES an empty `BufWriter` -/
theorem BufWriter.writeWith_bypass {α : Type} (op : ω → Bytes → IoRes α × ω) (done : α) (W : Writer ω)
    (bw : BufWriter ω) (buf : Bytes) (h : bw.buf = []) (hbig : bw.cap ≤ buf.length) :
    BufWriter.writeWith op done W bw buf = mapState (fun inner => { bw with inner := inner }) (op bw.inner buf) := by
  have hs : bw.spareCapacity = bw.cap := by simp [BufWriter.spareCapacity, h]
  unfold BufWriter.writeWith
  rw [hs, if_neg (Nat.not_lt.mpr hbig), flushBuf_nil W bw h, ite_self]
  simp only [andThen, ge_iff_le, hbig, if_true]

theorem Sink.write_whole (s : Sink) (n : Nat) (o : List WAns) (buf : Bytes) (hd : s.dead = false)
    (ho : s.oracle = .accept n :: o) (hn : buf.length ≤ n + 1) :
    s.write buf = (.ok buf.length, ⟨s.fd ++ buf, o, false⟩) := by
  simp [Sink.write, hd, ho, Nat.min_eq_right hn, List.take_of_length_le hn]

theorem Sink.writeAll_whole (s : Sink) (n : Nat) (o : List WAns) (buf : Bytes) (hd : s.dead = false)
    (ho : s.oracle = .accept n :: o) (hn : buf.length ≤ n + 1) (hb : buf ≠ []) :
    Sink.writer.writeAll s buf = (.ok (), ⟨s.fd ++ buf, o, false⟩) := by
  have hbe : buf.isEmpty = false := by cases buf <;> simp_all
  have hlen : buf.length ≠ 0 := by cases buf <;> simp_all
  show defaultWriteAll Sink.write (s.oracle.length + buf.length + 1) s buf = _
  rw [ho, show (WAns.accept n :: o).length + buf.length + 1 = (o.length + buf.length).succ.succ by simp; omega]
  unfold defaultWriteAll
  simp only [hbe, Bool.false_eq_true, if_false, Sink.write_whole s n o buf hd ho hn, hlen,
    sliceFrom_some (Nat.le_refl _), List.drop_length]
  unfold defaultWriteAll
  simp

/-- linewritershim.rs:278-293 on an empty buffer -/
theorem Shim.writeAll_lines_tail (W : Writer ω) (b : BufWriter ω) (pre tl : Bytes) (w1 : ω)
    (hnl : (0x0A : UInt8) ∉ tl) (hemp : b.buf = []) (htl : tl.length < b.cap)
    (hw : W.writeAll b.inner (pre ++ [0x0A]) = (.ok (), w1)) :
    Shim.writeAll W b (pre ++ 0x0A :: tl) = (.ok (), ⟨tl, b.cap, w1⟩) := by
  have hle : pre.length + 1 ≤ (pre ++ 0x0A :: tl).length := by simp
  simp only [Shim.writeAll, memrchr_last _ tl hnl pre, sliceTo_some hle, sliceFrom_some hle, take_through,
    drop_through, hemp, List.isEmpty_nil, if_true, hw, mapState, andThen]
  simp [BufWriter.writeAll, BufWriter.spareCapacity, htl, BufWriter.writeToBufferUnchecked, Nat.le_of_lt htl]

/-- linewritershim.rs:99-128 on an empty buffer: the tail is REFUSED -/
theorem Shim.write_lines_refused (W : Writer ω) (b : BufWriter ω) (pre tl : Bytes) (w1 : ω)
    (hnl : (0x0A : UInt8) ∉ tl) (hemp : b.buf = []) (htl : b.cap ≤ tl.length)
    (hw : W.write b.inner (pre ++ [0x0A]) = (.ok (pre ++ [0x0A]).length, w1)) :
    Shim.write W b (pre ++ 0x0A :: tl) = (.ok (pre.length + 1), { b with inner := w1 }) := by
  have hle : pre.length + 1 ≤ (pre ++ 0x0A :: tl).length := by simp
  simp only [Shim.write, memrchr_last _ tl hnl pre, sliceTo_some hle, take_through, flushBuf_nil W b hemp, andThen, hw]
  simp [Shim.tailOf, sliceFrom_some hle, htl]

end Ideal

theorem mainWritesSkippingEmpty_eq (c lc : Nat) (oracle : List WAns) (xs : List Bytes) :
    mainWritesSkippingEmpty c lc oracle xs =
      (IoRes.status (sessionSkippingEmpty lineWriter xs (Stdout.new c lc oracle)).1,
       finalSink (sessionSkippingEmpty lineWriter xs (Stdout.new c lc oracle)).2) := rfl

/-- The state the seeded defect "flush only if the `BufWriter` is not empty" relies on never occurring: ONE
    `write_all` of at least `capacity` bytes whose last line (`tail`, without newline, shorter than the
    `LineWriter`'s capacity) is unterminated.  The `BufWriter` is bypassed and stays EMPTY, the lines go to the
    descriptor, the tail sits in the `LineWriter`. (`accept n` with `n + 1 ≥ len`: the OS takes the lines at once.) -/
theorem big_write_leaves_tail_in_LineWriter (c lc n : Nat) (o : List WAns) (pre tl : Bytes)
    (hnl : (0x0A : UInt8) ∉ tl) (htl : tl.length < lc) (hbig : c ≤ (pre ++ 0x0A :: tl).length)
    (hn : pre.length + 1 ≤ n + 1) :
    writeAlls stdoutWriter [pre ++ 0x0A :: tl] (Stdout.new c lc (.accept n :: o)) =
      (.ok (), ⟨[], c, ⟨⟨tl, lc, ⟨pre ++ [0x0A], o, false⟩⟩⟩⟩) := by
  show andThen (BufWriter.writeWith lineWriter.writeAll () lineWriter (Stdout.new c lc (.accept n :: o))
    (pre ++ 0x0A :: tl)) (fun _ w => writeAlls stdoutWriter [] w) id = _
  rw [BufWriter.writeWith_bypass _ _ _ _ _ rfl hbig]
  simp only [Stdout.new, BufWriter.withCapacity, LineWriter.withCapacity, lineWriter, LineWriter.writer,
    LineWriter.writeAll, mapState, andThen, writeAlls,
    Shim.writeAll_lines_tail Sink.writer ⟨[], lc, Sink.new (.accept n :: o)⟩ pre tl _ hnl rfl htl
      (Sink.writeAll_whole _ n o _ rfl rfl (by simpa using hn) (by simp))]
  rfl

theorem flushBuf_err {ω : Type} (W : Writer ω) (bw : BufWriter ω) {e : IoErr} {w1 : ω} (hb : bw.buf ≠ [])
    (hw : W.write bw.inner bw.buf = (.err e, w1)) (he : e ≠ .interrupted) :
    BufWriter.flushBuf W bw = (.err e, { bw with inner := w1 }) := by
  have hlen : ¬ 0 ≥ bw.buf.length := by
    have := List.length_pos_iff.mpr hb
    omega
  unfold BufWriter.flushBuf
  rw [show W.budget bw.inner + bw.buf.length + 1 = (W.budget bw.inner + bw.buf.length).succ from rfl]
  unfold BufWriter.flushBufLoop
  simp [hlen, sliceFrom, hw, he]

/-- **W3, the witness of the skipped flush** — with "flush only if the `BufWriter` is not empty" in place of
    tuc.rs:303, an OS that takes the lines and then fails for good: the process exits 0 although the last (unterminated) line never
    reached fd 1.  (The residue is written by `std::rt::cleanup`, whose errors are ignored.) -/
theorem skipped_flush_silent_loss (c lc n : Nat) (pre tl : Bytes)
    (hnl : (0x0A : UInt8) ∉ tl) (htl : tl.length < lc) (hne : tl ≠ []) (hbig : c ≤ (pre ++ 0x0A :: tl).length)
    (hn : pre.length + 1 ≤ n + 1) :
    mainWritesSkippingEmpty c lc [.accept n, .err true] [pre ++ 0x0A :: tl] = (.ok, ⟨pre ++ [0x0A], [], true⟩) := by
  have h1 := big_write_leaves_tail_in_LineWriter c lc n [.err true] pre tl hnl htl hbig hn
  rw [mainWritesSkippingEmpty_eq, sessionSkippingEmpty, show BufWriter.writer lineWriter = stdoutWriter from rfl, h1]
  simp only [andThen, List.isEmpty_nil, if_true, IoRes.status, finalSink, BufWriter.drop, flushBuf_nil,
    LineWriter.drop]
  rw [flushBuf_err Sink.writer ⟨tl, lc, ⟨pre ++ [0x0A], [.err true], false⟩⟩ hne (e := .other) rfl (by decide)]

/-- the real `main` on the same run reports the loss -/
theorem real_main_reports (c lc n : Nat) (pre tl : Bytes)
    (hnl : (0x0A : UInt8) ∉ tl) (htl : tl.length < lc) (hne : tl ≠ []) (hbig : c ≤ (pre ++ 0x0A :: tl).length)
    (hn : pre.length + 1 ≤ n + 1) :
    mainWrites c lc [.accept n, .err true] [pre ++ 0x0A :: tl] = (.fail, ⟨pre ++ [0x0A], [], true⟩) := by
  have h1 := big_write_leaves_tail_in_LineWriter c lc n [.err true] pre tl hnl htl hbig hn
  rw [mainWrites_eq, session, h1]
  have hfl := flushBuf_err Sink.writer ⟨tl, lc, ⟨pre ++ [0x0A], [.err true], false⟩⟩ hne (e := .other) rfl
    (by decide)
  have hfl2 := flushBuf_err Sink.writer ⟨tl, lc, ⟨pre ++ [0x0A], [], true⟩⟩ hne (e := .other) rfl (by decide)
  simp only [andThen, stdoutWriter, BufWriter.writer, BufWriter.flush, flushBuf_nil, lineWriter, LineWriter.writer,
    LineWriter.flush, hfl, hfl2, mapState, id, IoRes.status, finalSink, BufWriter.drop, LineWriter.drop]

/-- `main`'s capacities: 65535 × `a`, a newline, one more byte — 65537 bytes in one `write_all` -/
example : mainWritesSkippingEmpty 65536 1024 [.accept 70000, .err true] [List.replicate 65535 0x61 ++ 0x0A :: [0x62]] =
      (.ok, ⟨List.replicate 65535 0x61 ++ [0x0A], [], true⟩) ∧
    mainWrites 65536 1024 [.accept 70000, .err true] [List.replicate 65535 0x61 ++ 0x0A :: [0x62]] =
      (.fail, ⟨List.replicate 65535 0x61 ++ [0x0A], [], true⟩) := by
  -- `rw`, not `simp`: the kernel must not be led to compute the length of the replicated list
  have hbig : 65536 ≤ (List.replicate 65535 (0x61 : UInt8) ++ 0x0A :: [0x62]).length := by
    rw [List.length_append, List.length_replicate]; decide
  have hn : (List.replicate 65535 (0x61 : UInt8)).length + 1 ≤ 70000 + 1 := by
    rw [List.length_replicate]; decide
  exact ⟨skipped_flush_silent_loss 65536 1024 70000 _ [0x62] (by decide) (by decide) (by decide) hbig hn,
    real_main_reports 65536 1024 70000 _ [0x62] (by decide) (by decide) (by decide) hbig hn⟩

/-- why the defect hides: as long as the OS does not fail, the drops deliver what the skipped `flush` left -/
theorem skipped_flush_hidden_when_fault_free (c lc : Nat) (oracle : List WAns) (xs : List Bytes)
    (hb : ∀ a ∈ oracle, a.benign = true) :
    (mainWritesSkippingEmpty c lc oracle xs).1 = .ok ∧ (mainWritesSkippingEmpty c lc oracle xs).2.fd = xs.flatten := by
  rw [mainWritesSkippingEmpty_eq]
  generalize hp : sessionSkippingEmpty lineWriter xs (Stdout.new c lc oracle) = p
  obtain ⟨r, st⟩ := p
  obtain ⟨hwf, sp⟩ := sessionSkippingEmpty_spec lineWriter_spec xs _ r st (Stdout.new_wf c lc oracle) hp
  obtain ⟨hr, hfd, -⟩ := (run_then_drops hwf sp).2.1 ⟨rfl, hb⟩
  cases hr
  exact ⟨rfl, hfd⟩

/-- **W3, the witness family** — ONE `write` (not `write_all`) of a slice of at least `capacity` bytes with an
    interior newline and at least `lineCapacity` bytes after the last newline: the `BufWriter` is bypassed, the
    `LineWriter` writes the lines through and REFUSES the tail (linewritershim.rs:126-128): the count is short
    although the OS took everything it was offered.  An engine that ignores the count loses `tl`. -/
theorem write_is_short (c lc n : Nat) (o : List WAns) (pre tl : Bytes)
    (hnl : (0x0A : UInt8) ∉ tl) (htl : lc ≤ tl.length) (hbig : c ≤ (pre ++ 0x0A :: tl).length)
    (hn : pre.length + 1 ≤ n + 1) :
    stdoutWriter.write (Stdout.new c lc (.accept n :: o)) (pre ++ 0x0A :: tl) =
      (.ok (pre.length + 1), ⟨[], c, ⟨⟨[], lc, ⟨pre ++ [0x0A], o, false⟩⟩⟩⟩) := by
  show BufWriter.writeWith lineWriter.write _ lineWriter (Stdout.new c lc (.accept n :: o)) (pre ++ 0x0A :: tl) = _
  rw [BufWriter.writeWith_bypass _ _ _ _ _ rfl hbig]
  simp only [Stdout.new, BufWriter.withCapacity, LineWriter.withCapacity, lineWriter, LineWriter.writer,
    LineWriter.write, mapState,
    Shim.write_lines_refused Sink.writer ⟨[], lc, Sink.new (.accept n :: o)⟩ pre tl _ hnl rfl htl
      (Sink.write_whole (Sink.new (.accept n :: o)) n o (pre ++ [0x0A]) rfl rfl (by simpa using hn))]
  rfl

/-- `main`'s capacities: a 70001-byte slice, newline at offset 65535, 4465 bytes after it: `write` reports 65536 -/
example : (stdoutWriter.write (Stdout.new 65536 1024 [.accept 70000])
      (List.replicate 65535 0x61 ++ 0x0A :: List.replicate 4465 0x62)).1 = .ok (65535 + 1) ∧
    (List.replicate 65535 0x61 ++ 0x0A :: List.replicate 4465 (0x62 : UInt8)).length = 70001 := by
  have hlen : (List.replicate 65535 0x61 ++ 0x0A :: List.replicate 4465 (0x62 : UInt8)).length = 70001 := by
    rw [List.length_append, List.length_cons, List.length_replicate, List.length_replicate]
  refine ⟨?_, hlen⟩
  rw [write_is_short 65536 1024 70000 [] (List.replicate 65535 0x61) (List.replicate 4465 0x62)
    (fun h => absurd (List.eq_of_mem_replicate h) (by decide))
    (by rw [List.length_replicate]; decide) (by rw [hlen]; decide) (by rw [List.length_replicate]; decide),
    List.length_replicate]

/-- **W3, why the defect hides** — a `write` of FEWER bytes than the capacity of the `BufWriter` never returns a
    short count, over any writer that keeps the contract and whatever the OS does: it is `Ok(len)` (the slice is
    buffered, after a `flush_buf` if need be) or the `Err` of that `flush_buf`; and `Ok(len)` when the OS does not
    fail.  Only slices of at least `capacity` bytes (64 KiB in `main`) reach the inner writer unbuffered. -/
theorem write_small_never_short {ω : Type} {W : Writer ω} {V : View ω} (hW : Spec W V) (bw : BufWriter ω)
    (buf : Bytes) (r : IoRes Nat) (bw' : BufWriter ω) (hwf : (BufWriter.view V).wf bw) (hlt : buf.length < bw.cap)
    (h : BufWriter.write W bw buf = (r, bw')) :
    (r = .ok buf.length ∨ ∃ e, r = .err e ∧ e ≠ .interrupted) ∧
    (((BufWriter.view V).snap bw).faultFree → r = .ok buf.length) := by
  exact (BufWriter.writeWith_spec hW bw
    (fun s _ r => (r = .ok buf.length ∨ ∃ e, r = .err e ∧ e ≠ .interrupted) ∧ (s.faultFree → r = .ok buf.length))
    (fun h0 hp => ⟨hp.1, fun hf => hp.2 (h0.faultFree hf)⟩) (fun _ => ⟨.inl rfl, fun _ => rfl⟩)
    (fun ps => ⟨.inr ⟨_, rfl, fun he => ps.noIntr (he ▸ rfl)⟩, fun hf => nomatch ps.clean hf⟩)
    (fun hc => absurd hc (Nat.not_le.mpr hlt)) r bw' hwf h).2

theorem stdout_write_small (st : Stdout) (buf : Bytes) (hwf : stdoutView.wf st) (hlt : buf.length < st.cap) :
    (stdoutWriter.write st buf).1 = .ok buf.length ∨ ∃ e, (stdoutWriter.write st buf).1 = .err e ∧ e ≠ .interrupted :=
  (write_small_never_short lineWriter_spec st buf _ _ hwf hlt rfl).1

/-- all lists over `alphabet` of length `≤ n` -/
def allLists {α : Type} (alphabet : List α) : Nat → List (List α)
  | 0 => [[]]
  | n + 1 => [] :: (allLists alphabet n).flatMap fun l => alphabet.map fun a => a :: l

def wAlphabet : List WAns := [.accept 0, .accept 1, .accept 7, .zero, .intr, .err false, .err true]

def isPrefix (a b : Bytes) : Bool := a == b.take a.length

/-- the statement of `mainWrites_spec` as a test -/
def checkMain (c lc : Nat) (oracle : List WAns) (xs : List Bytes) : Bool :=
  let (st, raw) := mainWrites c lc oracle xs
  isPrefix raw.fd xs.flatten
    && (st == .ok || st == .fail)
    && (st != .ok || raw.fd == xs.flatten)
    && (!(oracle.all WAns.benign) || (st == .ok && raw.fd == xs.flatten))
    && (!(oracle.all WAns.hard) || st == .ok || raw.fd.length < xs.flatten.length)

def sampleWrites : List (List Bytes) :=
  [[[0x61, 0x0A, 0x62, 0x63, 0x0A, 0x64]], [[0x61], [0x0A], [0x62, 0x63, 0x0A, 0x64, 0x65, 0x66, 0x67], []],
   [[0x61, 0x62, 0x63, 0x64, 0x65], [0x66, 0x0A]], [[], [0x0A, 0x0A]]]

-- 400 oracles (length ≤ 3 over 7 answers) × 3 × 3 capacities × 4 write sequences
#guard (allLists wAlphabet 3).all fun o => [0, 1, 4].all fun c => [0, 2, 3].all fun lc =>
  sampleWrites.all fun xs => checkMain c lc o xs
-- both outcomes occur, and so does "complete although status 1" (a TRANSIENT error: `flush` fails, the drop delivers)
#guard (allLists wAlphabet 3).any fun o => (mainWrites 4 2 o [[0x61, 0x0A, 0x62]]).1 == .fail
#guard (allLists wAlphabet 3).any fun o => (mainWrites 4 2 o [[0x61, 0x0A, 0x62]]).1 == .ok && o.any (· == .intr)
#guard mainWrites 4 2 [.err false] [[0x61, 0x0A, 0x62]] = (.fail, ⟨[0x61, 0x0A, 0x62], [], false⟩)
#guard mainWrites 4 2 [.zero] [[0x61, 0x0A, 0x62]] = (.fail, ⟨[0x61, 0x0A, 0x62], [], false⟩)
#guard mainWritesSkippingEmpty 4 3 [.accept 9, .err true] [[0x61, 0x62, 0x0A, 0x63, 0x64]] = (.ok, ⟨[0x61, 0x62, 0x0A], [], true⟩)
#guard mainWrites 4 3 [.accept 9, .err true] [[0x61, 0x62, 0x0A, 0x63, 0x64]] = (.fail, ⟨[0x61, 0x62, 0x0A], [], true⟩)
#guard (stdoutWriter.write (Stdout.new 4 2 []) [0x61, 0x0A, 0x62, 0x63, 0x64]).1 = .ok 2
#guard (stdoutWriter.writeAll (Stdout.new 4 2 []) [0x61, 0x0A, 0x62, 0x63, 0x64]).1 = .ok ()
#guard (stdoutWriter.write (Stdout.new 65536 1024 []) (List.replicate 65535 0x61 ++ 0x0A :: List.replicate 4465 0x62)).1
  = .ok 65536
#guard mainWritesSkippingEmpty 65536 1024 [.accept 70000, .err true] [List.replicate 65535 0x61 ++ [0x0A, 0x62]]
  = (.ok, ⟨List.replicate 65535 0x61 ++ [0x0A], [], true⟩)

/-- what can be observed of a reader -/
structure RView (ρ : Type) where
  /-- everything it is still going to deliver, in order (buffered bytes first) -/
  stream : ρ → Bytes
  /-- the unused answers of the OS -/
  budget : ρ → Nat
  /-- no answer other than data and `EINTR` is left -/
  noErr : ρ → Prop
  wf : ρ → Prop

/-- `read_buf(cursor)` with `cursor.capacity() = len` returned `res` (for `Ok`: the bytes appended) -/
structure ReadSpec {ρ : Type} (RV : RView ρ) (r : ρ) (len : Nat) (res : IoRes Bytes) (r' : ρ) : Prop where
  wf : RV.wf r'
  safe : res ≠ .panic ∧ res ≠ .hang
  budget : RV.budget r' ≤ RV.budget r
  intr : res = .err .interrupted → RV.budget r' < RV.budget r
  ok : ∀ bs, res = .ok bs → RV.stream r = bs ++ RV.stream r' ∧ bs.length ≤ len ∧
    (bs = [] → len = 0 ∨ RV.stream r = [])
  err : ∀ e, res = .err e → RV.stream r' = RV.stream r
  noErr : RV.noErr r → RV.noErr r' ∧ ∀ e, res = .err e → e = .interrupted

/-- the contract of a `Read` implementation: an empty read (into a non-empty destination) means END OF INPUT -/
structure RSpec {ρ : Type} (R : Reader ρ) (RV : RView ρ) : Prop where
  budget : ∀ r, R.budget r = RV.budget r
  readBuf : ∀ r len res r', RV.wf r → R.readBuf r len = (res, r') → ReadSpec RV r len res r'

def Src.view : RView Src where
  stream := fun s => s.data
  budget := fun s => s.oracle.length
  noErr := fun s => RAns.err ∉ s.oracle
  wf := fun _ => True

theorem Src.read_ok (s : Src) {o : List RAns} {m len : Nat} (ho : o <:+ s.oracle) (hm : m ≤ len)
    (h0 : m = 0 → len = 0) : ReadSpec Src.view s len (.ok (s.data.take m)) ⟨s.data.drop m, o⟩ where
  wf := trivial
  safe := by simp
  budget := ho.length_le
  intr := by simp
  ok := fun bs hbs => by
    cases hbs
    refine ⟨(List.take_append_drop m s.data).symm, Nat.le_trans (List.length_take_le _ _) hm, fun h => ?_⟩
    exact (List.take_eq_nil_iff.mp h).imp h0 id
  err := by simp
  noErr := fun hn => ⟨fun he => hn (ho.subset he), by simp⟩

theorem Src.spec : RSpec Src.reader Src.view where
  budget := fun _ => rfl
  readBuf := fun s len res s' _ h => by
    change Src.read s len = _ at h
    unfold Src.read at h
    split at h
    next => cases h; exact Src.read_ok s (List.suffix_refl _) (Nat.le_refl _) id
    next n o ho => cases h; exact Src.read_ok s (ho ▸ List.suffix_cons _ o) (Nat.min_le_right _ _) (by omega)
    next o ho =>
      cases h
      have hlt : o.length < s.oracle.length := by rw [ho]; exact Nat.lt_succ_self _
      exact ⟨trivial, by simp, Nat.le_of_lt hlt, fun _ => hlt, by simp, fun _ _ => rfl,
        fun hn => ⟨fun he => hn (ho ▸ List.mem_cons_of_mem _ he), fun e he => by cases he; rfl⟩⟩
    next o ho =>
      cases h
      exact ⟨trivial, by simp, (ho ▸ List.suffix_cons _ o : o <:+ s.oracle).length_le, by simp, by simp, fun _ _ => rfl,
        fun hn => absurd (ho ▸ List.mem_cons_self) hn⟩

def BufReader.view {ρ : Type} (RV : RView ρ) : RView (BufReader ρ) where
  stream := fun br => br.buf.drop br.pos ++ RV.stream br.inner
  budget := fun br => RV.budget br.inner
  noErr := fun br => RV.noErr br.inner
  wf := fun br => br.pos ≤ br.buf.length ∧ br.buf.length ≤ br.cap ∧ RV.wf br.inner

section BufReaderProofs
variable {ρ : Type} {R : Reader ρ} {RV : RView ρ}

/-- `fill_buf()` returned `res` -/
structure FillSpec (RV : RView ρ) (br : BufReader ρ) (res : IoRes Bytes) (br' : BufReader ρ) : Prop where
  wf : (BufReader.view RV).wf br'
  cap : br'.cap = br.cap
  safe : res ≠ .panic ∧ res ≠ .hang
  budget : RV.budget br'.inner ≤ RV.budget br.inner
  intr : res = .err .interrupted → RV.budget br'.inner < RV.budget br.inner
  /-- `fill_buf` consumes nothing -/
  stream : (BufReader.view RV).stream br' = (BufReader.view RV).stream br
  /-- the slice handed out is the unconsumed part of the buffer; it is EMPTY ONLY AT END OF INPUT (capacity > 0) -/
  ok : ∀ s, res = .ok s → s = br'.buf.drop br'.pos ∧ (s = [] → br.cap = 0 ∨ (BufReader.view RV).stream br = [])
  /-- a buffer that is not used up is handed out again, without a `read` -/
  keep : br.pos < br.buf.length → br' = br ∧ res = .ok (br.buf.drop br.pos)
  noErr : RV.noErr br.inner → RV.noErr br'.inner ∧ ∀ e, res = .err e → e = .interrupted

theorem buffer_eq (br : BufReader ρ) (h : br.pos ≤ br.buf.length) : br.buffer = some (br.buf.drop br.pos) := by
  simp [BufReader.buffer, BufReader.filled, sliceRange, h, List.take_of_length_le]

theorem stream_used_up {br : BufReader ρ} (h : br.buf.length ≤ br.pos) :
    (BufReader.view RV).stream br = RV.stream br.inner := by
  show br.buf.drop br.pos ++ _ = _
  rw [List.drop_eq_nil_iff.mpr h, List.nil_append]

theorem fillBuf_spec (hR : RSpec R RV) (br : BufReader ρ) (res : IoRes Bytes) (br' : BufReader ρ)
    (hwf : (BufReader.view RV).wf br) (h : BufReader.fillBuf R br = (res, br')) : FillSpec RV br res br' := by
  unfold BufReader.fillBuf at h
  by_cases hc : br.pos ≥ br.filled
  · have hc' : br.buf.length ≤ br.pos := hc
    have hs := stream_used_up (RV := RV) hc'
    simp only [hc, if_true, BufReader.refill] at h
    generalize hp : R.readBuf br.inner br.cap = p at h
    obtain ⟨r1, i1⟩ := p
    have sp := hR.readBuf _ _ _ _ hwf.2.2 hp
    rcases IoRes.ok_or_err sp.safe with ⟨bs, rfl⟩ | ⟨e, rfl⟩
    · obtain ⟨h1, h2, h3⟩ := sp.ok bs rfl
      simp only [andThen, buffer_eq (ρ := ρ) ⟨bs, 0, br.cap, i1⟩ (Nat.zero_le _), List.drop_zero] at h
      cases h
      rw [← hs] at h1 h3
      exact ⟨⟨Nat.zero_le _, h2, sp.wf⟩, rfl, by simp, sp.budget, by simp, h1.symm,
        fun s hs' => by cases hs'; exact ⟨rfl, h3⟩, fun hlt => by omega, fun hn => ⟨(sp.noErr hn).1, by simp⟩⟩
    · simp only [andThen, id] at h
      cases h
      exact ⟨⟨Nat.zero_le _, Nat.zero_le _, sp.wf⟩, rfl, by simp, sp.budget, sp.intr, (sp.err e rfl).trans hs.symm,
        by simp, fun hlt => by omega, sp.noErr⟩
  · simp only [hc, if_false, andThen, buffer_eq br hwf.1] at h
    cases h
    have hlt : br.pos < br.buf.length := by simpa [BufReader.filled] using hc
    refine ⟨hwf, rfl, by simp, Nat.le_refl _, by simp, rfl, fun s hs => ?_, fun _ => ⟨rfl, rfl⟩,
      fun hn => ⟨hn, by simp⟩⟩
    cases hs
    refine ⟨rfl, fun h0 => ?_⟩
    have := congrArg List.length h0
    simp only [List.length_drop, List.length_nil] at this
    omega

theorem consume_stream (br : BufReader ρ) (amt : Nat) (hwf : (BufReader.view RV).wf br) :
    (BufReader.view RV).wf (br.consume amt) ∧
    (BufReader.view RV).stream br =
      (br.buf.drop br.pos).take amt ++ (BufReader.view RV).stream (br.consume amt) := by
  refine ⟨⟨Nat.min_le_right _ _, hwf.2.1, hwf.2.2⟩, ?_⟩
  have h1 := hwf.1
  show _ = _ ++ (br.buf.drop (min (br.pos + amt) br.buf.length) ++ _)
  rw [← List.append_assoc,
    List.drop_eq_drop_iff.mpr (by omega : min (min (br.pos + amt) br.buf.length) _ = min (br.pos + amt) _),
    ← List.drop_drop, List.take_append_drop]
  rfl

theorem consume_of_le (br : BufReader ρ) (amt : Nat) (h : br.pos + amt ≤ br.buf.length) :
    br.consume amt = { br with pos := br.pos + amt } := by
  rw [BufReader.consume, BufReader.filled, Nat.min_eq_left h]

theorem consume_of_ge (br : BufReader ρ) (amt : Nat) (h : br.buf.length ≤ br.pos + amt) :
    br.consume amt = { br with pos := br.buf.length } := by
  rw [BufReader.consume, BufReader.filled, Nat.min_eq_right h]

theorem BufReader.readBuf_spec (hR : RSpec R RV) (br : BufReader ρ) (len : Nat) (res : IoRes Bytes)
    (br' : BufReader ρ) (hwf : (BufReader.view RV).wf br) (h : BufReader.readBuf R br len = (res, br')) :
    ReadSpec (BufReader.view RV) br len res br' := by
  unfold BufReader.readBuf at h
  by_cases hc : br.pos = br.filled ∧ len ≥ br.cap
  · have hs := stream_used_up (RV := RV) (Nat.le_of_eq hc.1.symm)
    simp only [hc, and_self, if_true, BufReader.discardBuffer] at h
    obtain ⟨i1, hp, rfl⟩ := mapState_eq h
    have sp := hR.readBuf _ _ _ _ hwf.2.2 hp
    exact ⟨⟨Nat.zero_le _, Nat.zero_le _, sp.wf⟩, sp.safe, sp.budget, sp.intr, hs ▸ sp.ok, hs ▸ sp.err, sp.noErr⟩
  · simp only [hc, if_false] at h
    rcases andThen_eq (fun _ _ h0 => (fillBuf_spec hR br _ _ hwf h0).safe) h with
      ⟨rem, b1, h0, h⟩ | ⟨e, _, h0, rfl, rfl⟩
    · have fs := fillBuf_spec hR br _ b1 hwf h0
      cases h
      obtain ⟨hrem, hemp⟩ := fs.ok rem rfl
      obtain ⟨hwf', hst⟩ := consume_stream (RV := RV) b1 (rem.take len).length fs.wf
      refine ⟨hwf', by simp, fs.budget, by simp, fun bs hbs => ?_, by simp, fun hn => ⟨(fs.noErr hn).1, by simp⟩⟩
      cases hbs
      refine ⟨?_, List.length_take_le _ _, fun h0 => ?_⟩
      · rw [← fs.stream, hst, ← hrem, List.length_take,
          List.take_eq_take_iff.mpr (by omega : min (min len _) _ = min len _)]
      · rw [List.take_eq_nil_iff] at h0
        refine h0.imp id fun h0 => (hemp h0).resolve_left fun hcap => hc ⟨?_, by omega⟩
        -- capacity 0: the test of l.356 holds whenever the buffer is used up
        have := hwf.1
        have := hwf.2.1
        show br.pos = br.buf.length
        omega
    · have fs := fillBuf_spec hR br _ _ hwf h0
      exact ⟨fs.wf, by simp, fs.budget, fs.intr, by simp, fun _ _ => fs.stream, fs.noErr⟩

theorem BufReader.spec (hR : RSpec R RV) : RSpec (BufReader.reader R) (BufReader.view RV) where
  budget := fun br => hR.budget br.inner
  readBuf := fun br len res br' hwf h => BufReader.readBuf_spec hR br len res br' hwf h

/-- `fill_buf` retried on `EINTR` (io/mod.rs:2247-2251) returned `res` -/
structure FillRetrySpec (RV : RView ρ) (br : BufReader ρ) (res : IoRes Bytes) (br' : BufReader ρ) : Prop where
  wf : (BufReader.view RV).wf br'
  cap : br'.cap = br.cap
  safe : res ≠ .panic ∧ res ≠ .hang
  noIntr : res ≠ .err .interrupted
  budget : RV.budget br'.inner ≤ RV.budget br.inner
  stream : (BufReader.view RV).stream br' = (BufReader.view RV).stream br
  ok : ∀ s, res = .ok s → s = br'.buf.drop br'.pos ∧ (s = [] → br.cap = 0 ∨ (BufReader.view RV).stream br = [])
  keep : br.pos < br.buf.length → br' = br ∧ res = .ok (br.buf.drop br.pos)
  noErr : RV.noErr br.inner → RV.noErr br'.inner ∧ ∃ s, res = .ok s

theorem fillBufRetryLoop_spec (hR : RSpec R RV) : ∀ (fuel : Nat) (br : BufReader ρ) (res : IoRes Bytes)
    (br' : BufReader ρ), (BufReader.view RV).wf br → RV.budget br.inner < fuel →
    BufReader.fillBufRetryLoop R fuel br = (res, br') → FillRetrySpec RV br res br' := by
  intro fuel
  induction fuel with
  | zero => intro br res br' _ hf; omega
  | succ fuel ih =>
    intro br res br' hwf hfuel h
    unfold BufReader.fillBufRetryLoop at h
    generalize hp : BufReader.fillBuf R br = p at h
    obtain ⟨r1, b1⟩ := p
    have fs := fillBuf_spec hR br r1 b1 hwf hp
    rcases IoRes.ok_or_err fs.safe with ⟨s, rfl⟩ | ⟨e, rfl⟩
    · cases h
      exact ⟨fs.wf, fs.cap, by simp, by simp, fs.budget, fs.stream, fs.ok, fs.keep, fun hn => ⟨(fs.noErr hn).1, _, rfl⟩⟩
    · simp only at h
      by_cases he : e = .interrupted
      · subst he
        simp only [if_true] at h
        have sp := ih b1 res br' fs.wf (by have := fs.intr rfl; omega) h
        refine ⟨sp.wf, sp.cap.trans fs.cap, sp.safe, sp.noIntr, Nat.le_trans sp.budget fs.budget,
          sp.stream.trans fs.stream, fun s hs => ?_, fun hlt => ?_, fun hn => sp.noErr (fs.noErr hn).1⟩
        · exact ⟨(sp.ok s hs).1, fun h0 => fs.cap ▸ fs.stream ▸ (sp.ok s hs).2 h0⟩
        · exact nomatch (fs.keep hlt).2
      · simp only [he, if_false] at h
        cases h
        refine ⟨fs.wf, fs.cap, by simp, by simpa using he, fs.budget, fs.stream, by simp, fun hlt => ?_, fun hn => ?_⟩
        · exact nomatch (fs.keep hlt).2
        · exact absurd ((fs.noErr hn).2 e rfl) he

theorem fillBufRetry_spec (hR : RSpec R RV) (br : BufReader ρ) (res : IoRes Bytes) (br' : BufReader ρ)
    (hwf : (BufReader.view RV).wf br) (h : BufReader.fillBufRetry R br = (res, br')) :
    FillRetrySpec RV br res br' :=
  fillBufRetryLoop_spec hR _ br res br' hwf (by rw [hR.budget]; omega) h

theorem FillRetrySpec.chunk {br b1 : BufReader ρ} {s : Bytes} (fs : FillRetrySpec RV br (.ok s) b1) :
    (BufReader.view RV).wf (b1.consume s.length) ∧ (b1.consume s.length).cap = br.cap ∧
    (BufReader.view RV).stream br = s ++ (BufReader.view RV).stream (b1.consume s.length) := by
  obtain ⟨hwf', hst⟩ := consume_stream (RV := RV) b1 s.length fs.wf
  obtain rfl := (fs.ok s rfl).1
  rw [List.take_length] at hst
  exact ⟨hwf', fs.cap, fs.stream.symm.trans hst⟩

theorem drainLoop_chunk (fuel : Nat) {br b1 : BufReader ρ} {s : Bytes} (h : BufReader.fillBufRetry R br = (.ok s, b1))
    (hs : s ≠ []) :
    drainLoop R (fuel + 1) br =
      (s :: (drainLoop R fuel (b1.consume s.length)).1, (drainLoop R fuel (b1.consume s.length)).2) := by
  have : s.isEmpty = false := by cases s <;> simp_all
  simp only [drainLoop, h, this, Bool.false_eq_true, if_false]

theorem drainLoop_eof (fuel : Nat) {br b1 : BufReader ρ} (h : BufReader.fillBufRetry R br = (.ok [], b1)) :
    drainLoop R (fuel + 1) br = ([], .ok) := by
  simp only [drainLoop, h, List.isEmpty_nil, if_true]

theorem drainLoop_err (fuel : Nat) {br b1 : BufReader ρ} {e : IoErr} (h : BufReader.fillBufRetry R br = (.err e, b1)) :
    drainLoop R (fuel + 1) br = ([], .fail) := by
  simp only [drainLoop, h, IoRes.status]

theorem drainLoop_spec (hR : RSpec R RV) : ∀ (fuel : Nat) (br : BufReader ρ), (BufReader.view RV).wf br →
    0 < br.cap → ((BufReader.view RV).stream br).length < fuel →
    (∀ s ∈ (drainLoop R fuel br).1, s ≠ []) ∧
    (drainLoop R fuel br).1.flatten <+: (BufReader.view RV).stream br ∧
    ((drainLoop R fuel br).2 = .ok ∨ (drainLoop R fuel br).2 = .fail) ∧
    ((drainLoop R fuel br).2 = .ok → (drainLoop R fuel br).1.flatten = (BufReader.view RV).stream br) ∧
    (RV.noErr br.inner → (drainLoop R fuel br).2 = .ok) ∧
    -- more fuel than bytes: the amount does not matter
    ∀ f', ((BufReader.view RV).stream br).length < f' → drainLoop R f' br = drainLoop R fuel br := by
  intro fuel
  induction fuel with
  | zero => intro br _ _ hf; omega
  | succ fuel ih =>
    intro br hwf hcap hfuel
    generalize hp : BufReader.fillBufRetry R br = p
    obtain ⟨r1, b1⟩ := p
    have fs := fillBufRetry_spec hR br r1 b1 hwf hp
    rcases IoRes.ok_or_err fs.safe with ⟨s, rfl⟩ | ⟨e, rfl⟩
    · by_cases he : s = []
      · subst he
        rw [drainLoop_eof fuel hp]
        have hst : (BufReader.view RV).stream br = [] := ((fs.ok [] rfl).2 rfl).resolve_left (by omega)
        refine ⟨by simp, by simp, .inl rfl, fun _ => hst.symm, fun _ => rfl, fun f' hf' => ?_⟩
        cases f' with
        | zero => exact absurd hf' (Nat.not_lt_zero _)
        | succ g => exact drainLoop_eof g hp
      · obtain ⟨hwf', hcap', hst⟩ := fs.chunk
        have hpos := List.length_pos_iff.mpr he
        obtain ⟨i1, i2, i3, i4, i5, i6⟩ := ih (b1.consume s.length) hwf' (hcap' ▸ hcap) (by
          have := congrArg List.length hst
          rw [List.length_append] at this
          omega)
        rw [drainLoop_chunk fuel hp he, hst, List.flatten_cons]
        refine ⟨List.forall_mem_cons.mpr ⟨he, i1⟩, (List.prefix_append_right_inj s).mpr i2, i3,
          fun h => congrArg _ (i4 h), fun hn => i5 (fs.noErr hn).1, fun f' hf' => ?_⟩
        cases f' with
        | zero => exact absurd hf' (Nat.not_lt_zero _)
        | succ g => rw [drainLoop_chunk g hp he, i6 g (by rw [List.length_append] at hf'; omega)]
    · rw [drainLoop_err fuel hp]
      refine ⟨by simp, by simp, .inr rfl, by simp, fun hn => ?_, fun f' hf' => ?_⟩
      · obtain ⟨s, hs⟩ := (fs.noErr hn).2
        cases hs
      · cases f' with
        | zero => exact absurd hf' (Nat.not_lt_zero _)
        | succ g => exact drainLoop_err g hp

end BufReaderProofs

def stdinView : RView Stdin := BufReader.view (BufReader.view Src.view)

theorem stdinLock_spec : RSpec stdinLock (BufReader.view Src.view) := BufReader.spec Src.spec

theorem Stdin.new_wf (c lc : Nat) (data : Bytes) (oracle : List RAns) : stdinView.wf (Stdin.new c lc data oracle) :=
  ⟨Nat.le_refl _, Nat.zero_le _, Nat.le_refl _, Nat.zero_le _, trivial⟩

theorem Stdin.new_stream (c lc : Nat) (data : Bytes) (oracle : List RAns) :
    stdinView.stream (Stdin.new c lc data oracle) = data := rfl

/-- **R1** — `BufReader::fill_buf` on `main`'s stdin (any positive capacity, any capacity of the `StdinLock`
    below, EVERY pattern of short reads, `EINTR` and errors, from any reachable state): it never panics or
    hangs, consumes nothing, and an EMPTY slice means END OF INPUT — nothing buffered at either level and
    nothing left in the file -/
theorem R1_fill_buf_empty_only_at_eof (br : Stdin) (res : IoRes Bytes) (br' : Stdin) (hwf : stdinView.wf br)
    (hcap : 0 < br.cap) (h : BufReader.fillBuf stdinLock br = (res, br')) :
    (res ≠ .panic ∧ res ≠ .hang) ∧ stdinView.stream br' = stdinView.stream br ∧
    (res = .ok [] → stdinView.stream br = [] ∧ br.inner.inner.data = []) := by
  have fs := fillBuf_spec stdinLock_spec br res br' hwf h
  refine ⟨fs.safe, fs.stream, fun hr => ?_⟩
  have hst : stdinView.stream br = [] := by
    rcases (fs.ok [] hr).2 rfl with h | h
    · omega
    · exact h
  refine ⟨hst, ?_⟩
  simp only [stdinView, BufReader.view, Src.view, List.append_eq_nil_iff] at hst
  exact hst.2.2

/-- **R1, capacity 0** (the seeded change `BufReader::with_capacity(0, …)`): every successful `fill_buf` is
    EMPTY, whatever the file holds — every engine sees end of input at once -/
theorem capacity_zero_reads_nothing {ρ : Type} {R : Reader ρ} {RV : RView ρ} (hR : RSpec R RV) (br : BufReader ρ)
    (res : IoRes Bytes) (br' : BufReader ρ) (hwf : (BufReader.view RV).wf br) (hcap : br.cap = 0)
    (h : BufReader.fillBuf R br = (res, br')) : ∀ s, res = .ok s → s = [] := by
  intro s hs
  have fs := fillBuf_spec hR br res br' hwf h
  rw [(fs.ok s hs).1]
  have := fs.wf.2.1
  rw [fs.cap, hcap] at this
  simp [List.eq_nil_of_length_eq_zero (Nat.le_zero.mp this)]

/-- **R1, the chunks** — what the successive `fill_buf()` (retried on `EINTR`) / `consume(len)` hand out on
    `main`'s stdin, for every pattern of short reads and `EINTR`: non-empty chunks whose concatenation is the
    file.  This is the `segs` of `Tuc.Props.StreamLoop` / `ReadLoops` / `WholeLit` (`∀ s ∈ segs, s ≠ []`,
    `segs.flatten = input`), derived from the `read(2)` contract. -/
theorem R1_chunks (c lc : Nat) (data : Bytes) (oracle : List RAns) (hc : 0 < c) (ho : RAns.err ∉ oracle) :
    (drainLoop stdinLock (data.length + 1) (Stdin.new c lc data oracle)).2 = .ok ∧
    (∀ s ∈ (drainLoop stdinLock (data.length + 1) (Stdin.new c lc data oracle)).1, s ≠ []) ∧
    (drainLoop stdinLock (data.length + 1) (Stdin.new c lc data oracle)).1.flatten = data := by
  obtain ⟨h1, -, -, h4, h5, -⟩ := drainLoop_spec stdinLock_spec (data.length + 1) (Stdin.new c lc data oracle)
    (Stdin.new_wf c lc data oracle) hc (Nat.lt_succ_self _)
  exact ⟨h5 ho, h1, h4 (h5 ho)⟩

/-- every read oracle, errors included: the chunks handed out are still a prefix of the file, and the run ends
    with status 0 or 1 -/
theorem R1_chunks_any_oracle (c lc : Nat) (data : Bytes) (oracle : List RAns) (hc : 0 < c) :
    (drainLoop stdinLock (data.length + 1) (Stdin.new c lc data oracle)).1.flatten <+: data ∧
    ((drainLoop stdinLock (data.length + 1) (Stdin.new c lc data oracle)).2 = .ok ∨
      (drainLoop stdinLock (data.length + 1) (Stdin.new c lc data oracle)).2 = .fail) := by
  obtain ⟨-, h2, h3, -, -⟩ := drainLoop_spec stdinLock_spec (data.length + 1) (Stdin.new c lc data oracle)
    (Stdin.new_wf c lc data oracle) hc (Nat.lt_succ_self _)
  exact ⟨h2, h3⟩

section Simulation
variable {ρ : Type} {R : Reader ρ} {RV : RView ρ}

theorem drainLoop_fuel (hR : RSpec R RV) (f f' : Nat) (br : BufReader ρ) (hwf : (BufReader.view RV).wf br)
    (hcap : 0 < br.cap) (hf : ((BufReader.view RV).stream br).length < f)
    (hf' : ((BufReader.view RV).stream br).length < f') : drainLoop R f br = drainLoop R f' br :=
  (drainLoop_spec hR f' br hwf hcap hf').2.2.2.2.2 f hf

/-- the chunk list a `BufReader` stands for: what it holds now, then what the reads are going to bring -/
def segsOf (R : Reader ρ) (RV : RView ρ) (br : BufReader ρ) : List Bytes :=
  (drainLoop R (((BufReader.view RV).stream br).length + 1) br).1

/-- the state after a `fill_buf`: a non-empty buffer, or end of input -/
def Filled (RV : RView ρ) (br : BufReader ρ) : Prop :=
  br.pos < br.buf.length ∨ (BufReader.view RV).stream br = []

theorem segsOf_nonempty (hR : RSpec R RV) (br : BufReader ρ) (hwf : (BufReader.view RV).wf br) (hcap : 0 < br.cap) :
    ∀ s ∈ segsOf R RV br, s ≠ [] :=
  (drainLoop_spec hR _ br hwf hcap (Nat.lt_succ_self _)).1

theorem segsOf_flatten (hR : RSpec R RV) (br : BufReader ρ) (hwf : (BufReader.view RV).wf br) (hcap : 0 < br.cap)
    (hn : RV.noErr br.inner) : (segsOf R RV br).flatten = (BufReader.view RV).stream br := by
  obtain ⟨-, -, -, h4, h5, -⟩ := drainLoop_spec hR _ br hwf hcap (Nat.lt_succ_self _)
  exact h4 (h5 hn)

theorem segsOf_eof (hR : RSpec R RV) (br : BufReader ρ) (hwf : (BufReader.view RV).wf br) (hcap : 0 < br.cap)
    (h : (BufReader.view RV).stream br = []) : segsOf R RV br = [] := by
  obtain ⟨h1, h2, -⟩ := drainLoop_spec hR _ br hwf hcap (Nat.lt_succ_self _)
  change (segsOf R RV br).flatten <+: _ at h2
  rw [h, List.prefix_nil, List.flatten_eq_nil_iff] at h2
  exact List.eq_nil_iff_forall_not_mem.mpr fun x hx => h1 x hx (h2 x hx)

theorem segsOf_chunk (hR : RSpec R RV) {br b1 : BufReader ρ} {s : Bytes} (hwf : (BufReader.view RV).wf br)
    (hcap : 0 < br.cap) (h : BufReader.fillBufRetry R br = (.ok s, b1)) (hs : s ≠ []) :
    segsOf R RV br = s :: segsOf R RV { b1 with pos := b1.buf.length } := by
  have fs := fillBufRetry_spec hR br _ b1 hwf h
  obtain ⟨hwf', hcap', hst⟩ := fs.chunk
  have hlen := congrArg List.length hst
  rw [List.length_append] at hlen
  have hpos := List.length_pos_iff.mpr hs
  have hb1 : b1.consume s.length = { b1 with pos := b1.buf.length } :=
    consume_of_ge b1 _ (by have := fs.wf.1; rw [(fs.ok s rfl).1, List.length_drop]; omega)
  rw [hb1] at hwf' hlen
  unfold segsOf
  rw [drainLoop_chunk _ h hs, hb1]
  exact congrArg (s :: ·.1) (drainLoop_fuel hR _ _ _ hwf' (hcap' ▸ hcap) (by omega) (Nat.lt_succ_self _))

theorem segsOf_cons (hR : RSpec R RV) (br : BufReader ρ) (hwf : (BufReader.view RV).wf br) (hcap : 0 < br.cap)
    (hlt : br.pos < br.buf.length) :
    segsOf R RV br = br.buf.drop br.pos :: segsOf R RV { br with pos := br.buf.length } := by
  obtain ⟨hb, hr⟩ := (fillBufRetry_spec hR br _ _ hwf rfl).keep hlt
  exact segsOf_chunk hR hwf hcap (Prod.ext hr hb) (by rw [Ne, List.drop_eq_nil_iff]; omega)

/-- **`fill_buf` commutes with the abstraction**: the literal `fill_buf()` (retried on `EINTR`, as
    `read_until` does) returns the head of the chunk list and does not change it -/
theorem sim_fillBuf (hR : RSpec R RV) (br : BufReader ρ) (res : IoRes Bytes) (br' : BufReader ρ)
    (hwf : (BufReader.view RV).wf br) (hcap : 0 < br.cap) (hn : RV.noErr br.inner)
    (h : BufReader.fillBufRetry R br = (res, br')) :
    res = .ok (StreamLoop.fillBuf (segsOf R RV br)) ∧ segsOf R RV br' = segsOf R RV br ∧
    (BufReader.view RV).wf br' ∧ 0 < br'.cap ∧ RV.noErr br'.inner ∧ Filled RV br' := by
  have fs := fillBufRetry_spec hR br res br' hwf h
  obtain ⟨hn', s, rfl⟩ := fs.noErr hn
  obtain ⟨hs, hemp⟩ := fs.ok s rfl
  have hcap' : 0 < br'.cap := fs.cap ▸ hcap
  by_cases he : s = []
  · subst he
    have hst : (BufReader.view RV).stream br = [] := (hemp rfl).resolve_left (by omega)
    rw [segsOf_eof hR br hwf hcap hst, segsOf_eof hR br' fs.wf hcap' (fs.stream.trans hst)]
    exact ⟨rfl, rfl, fs.wf, hcap', hn', .inr (fs.stream.trans hst)⟩
  · have hlt : br'.pos < br'.buf.length := by
      rw [hs, List.drop_eq_nil_iff] at he
      omega
    have h1 := segsOf_chunk hR hwf hcap h he
    have h2 := segsOf_cons hR br' fs.wf hcap' hlt
    rw [← hs] at h2
    exact ⟨by rw [h1]; rfl, h2.trans h1.symm, fs.wf, hcap', hn', .inl hlt⟩

/-- **`consume` commutes with the abstraction** (after a `fill_buf`, as the `BufRead` contract demands) -/
theorem sim_consume (hR : RSpec R RV) (br : BufReader ρ) (amt : Nat) (hwf : (BufReader.view RV).wf br)
    (hcap : 0 < br.cap) (hf : Filled RV br) :
    segsOf R RV (br.consume amt) = StreamLoop.consume amt (segsOf R RV br) := by
  obtain ⟨hwf', hst⟩ := consume_stream (RV := RV) br amt hwf
  rcases hf with hlt | heof
  · rw [segsOf_cons hR br hwf hcap hlt]
    simp only [StreamLoop.consume, List.length_drop]
    split
    next hc =>
      rw [consume_of_le br amt (by omega)] at hwf' ⊢
      rw [segsOf_cons hR _ hwf' hcap (show br.pos + amt < br.buf.length by omega), List.drop_drop]
    next hc =>
      rw [consume_of_ge br amt (by omega)]
  · rw [segsOf_eof hR br hwf hcap heof, segsOf_eof hR _ hwf' hcap (List.append_eq_nil_iff.mp (hst.symm.trans heof)).2]
    rfl

end Simulation

/-- **R1 for `main`'s stdin, as a simulation** — from the first `fill_buf` on, the literal
    `BufReader<StdinLock>` and the chunk list `segsOf … (Stdin.new c lc data oracle)` answer every `fill_buf` /
    `consume` alike (`sim_fillBuf`, `sim_consume`), and that list consists of non-empty chunks whose
    concatenation is the file: the hypothesis of `cutBytesStreamLoop_eq`, `readAndCutStrLoop_eq`, … -/
theorem R1_initial_segs (c lc : Nat) (data : Bytes) (oracle : List RAns) (hc : 0 < c) (ho : RAns.err ∉ oracle) :
    (∀ s ∈ segsOf stdinLock (BufReader.view Src.view) (Stdin.new c lc data oracle), s ≠ []) ∧
    (segsOf stdinLock (BufReader.view Src.view) (Stdin.new c lc data oracle)).flatten = data :=
  ⟨segsOf_nonempty stdinLock_spec _ (Stdin.new_wf c lc data oracle) hc,
   segsOf_flatten stdinLock_spec _ (Stdin.new_wf c lc data oracle) hc ho⟩

def rAlphabet : List RAns := [.give 0, .give 1, .give 5, .intr, .err]

/-- the statement of `drainLoop_spec` / `R1_chunks` as a test -/
def checkRead (c lc : Nat) (oracle : List RAns) (data : Bytes) : Bool :=
  let (chunks, st) := drainLoop stdinLock (data.length + 1) (Stdin.new c lc data oracle)
  chunks.all (fun s => s != [])
    && isPrefix chunks.flatten data
    && (st == .ok || st == .fail)
    && (st != .ok || chunks.flatten == data)
    && (oracle.contains .err || (st == .ok && chunks.flatten == data))

-- 781 oracles (length ≤ 4 over 5 answers) × 3 × 4 capacities
#guard (allLists rAlphabet 4).all fun o => [1, 2, 5].all fun c => [0, 1, 3, 8].all fun lc =>
  checkRead c lc o [1, 2, 3, 4, 5, 6, 7]
#guard (allLists rAlphabet 4).any fun o => (drainLoop stdinLock 8 (Stdin.new 2 3 [1, 2, 3, 4, 5, 6, 7] o)).2 == .fail
-- the chunks do depend on the oracle and on both capacities (the bypass of bufreader.rs:356)
#guard drainLoop stdinLock 10 (Stdin.new 4 2 [1, 2, 3, 4, 5, 6, 7, 8, 9] [.give 0, .intr, .give 5])
  = ([[1], [2, 3, 4, 5], [6, 7, 8, 9]], .ok)
#guard drainLoop stdinLock 10 (Stdin.new 2 4 [1, 2, 3, 4, 5, 6, 7, 8, 9] [.give 0, .intr, .give 5])
  = ([[1], [2, 3], [4, 5], [6, 7], [8, 9]], .ok)
-- capacity 0 (seeded change): end of input at once, status 0, nothing read — with `main`'s other capacity
#guard drainLoop stdinLock 10 (Stdin.new 0 8192 [1, 2, 3] []) = ([], .ok)
#guard (BufReader.fillBuf stdinLock (Stdin.new 0 8192 [1, 2, 3] [])).1 = .ok []
#guard (BufReader.fillBuf stdinLock (Stdin.new 65536 8192 [1, 2, 3] [])).1 = .ok [1, 2, 3]
-- `fill_buf` itself does NOT retry `EINTR` (buffer.rs:157 `result?`); nothing is lost for a caller that retries
#guard (BufReader.fillBuf stdinLock (Stdin.new 4 2 [1, 2, 3] [.intr])).1 = .err .interrupted
#guard (BufReader.fillBufRetry stdinLock (Stdin.new 4 2 [1, 2, 3] [.intr])).1 = .ok [1, 2, 3]
-- `sim_consume` needs `Filled`: before the first `fill_buf` the chunk list is ahead of the buffer
#guard segsOf stdinLock (BufReader.view Src.view) ((Stdin.new 4 2 [1, 2, 3] []).consume 1) = [[1, 2, 3]]
#guard StreamLoop.consume 1 (segsOf stdinLock (BufReader.view Src.view) (Stdin.new 4 2 [1, 2, 3] [])) = [[2, 3]]

/-- a consumer that takes ONE byte per `fill_buf`, on the literal reader … -/
def bytewiseLit : Nat → Stdin → Bytes
  | 0, _ => []
  | fuel + 1, br =>
    match BufReader.fillBufRetry stdinLock br with
    | (.ok (b :: _), br) => b :: bytewiseLit fuel (br.consume 1)
    | _ => []

/-- … and on the chunk list -/
def bytewiseAbs : Nat → List Bytes → Bytes
  | 0, _ => []
  | fuel + 1, segs =>
    match StreamLoop.fillBuf segs with
    | b :: _ => b :: bytewiseAbs fuel (StreamLoop.consume 1 segs)
    | [] => []

#guard (allLists [RAns.give 0, .give 1, .give 5, .intr] 4).all fun o => [1, 2, 5].all fun c => [0, 3, 8].all fun lc =>
  let br := Stdin.new c lc [1, 2, 3, 4, 5, 6, 7] o
  bytewiseLit 9 br == [1, 2, 3, 4, 5, 6, 7]
    && bytewiseAbs 9 (segsOf stdinLock (BufReader.view Src.view) br) == [1, 2, 3, 4, 5, 6, 7]

example : mainWrites 65536 1024 [.accept 0, .intr, .intr, .accept 2, .intr] [[0x61, 0x0A], [0x62], [0x63, 0x0A]] =
    (.ok, ⟨[0x61, 0x0A, 0x62, 0x63, 0x0A], (mainWrites 65536 1024 [.accept 0, .intr, .intr, .accept 2, .intr]
      [[0x61, 0x0A], [0x62], [0x63, 0x0A]]).2.oracle, false⟩) :=
  W1_fault_free 65536 1024 _ _ (by decide)

example : (mainWrites 65536 1024 [.accept 0, .err true] [[0x61, 0x0A], [0x62], [0x63, 0x0A]]).2.fd <+:
    [0x61, 0x0A, 0x62, 0x63, 0x0A] :=
  (W2_prefix_and_no_silent_loss 65536 1024 _ _).1

#guard mainWrites 65536 1024 [.accept 0, .err true] [[0x61, 0x0A], [0x62], [0x63, 0x0A]] = (.fail, ⟨[0x61], [], true⟩)
#guard mainWritesThenErr 65536 1024 [.accept 0, .intr] [[0x61, 0x0A], [0x62]] = (.fail, ⟨[0x61, 0x0A, 0x62], [], false⟩)

example : ∃ limit, (mainWrites 65536 1024 [.accept 0, .err true] [[0x61, 0x0A], [0x62]]).2.fd =
    (deliver ⟨[0x61, 0x0A, 0x62], .ok⟩ limit).out ∧
    (mainWrites 65536 1024 [.accept 0, .err true] [[0x61, 0x0A], [0x62]]).1 =
      (deliver ⟨[0x61, 0x0A, 0x62], .ok⟩ limit).status := by
  obtain ⟨limit, h1, -, -, h4⟩ := W2_deliver 65536 1024 [.accept 0, .err true] [[0x61, 0x0A], [0x62]]
  exact ⟨limit, h1, h4 (by decide)⟩

example : (drainLoop stdinLock 4 (Stdin.new 65536 8192 [1, 2, 3] [.give 0, .intr, .give 0])).1.flatten = [1, 2, 3] :=
  (R1_chunks 65536 8192 [1, 2, 3] [.give 0, .intr, .give 0] (by decide) (by decide)).2.2

end StdioLit
end Tuc
