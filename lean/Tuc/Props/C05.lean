import Tuc.Lemmas.Lines
/-!
# C05 — line mode, the one-line-at-a-time algorithm against the specification

`cutLinesForwardOnly` prints the selected lines byte for byte, in request order, separated by the
EOL or concatenated under `--no-join`, then one EOL, and succeeds (`fwd_output`): for every plain
forward-only request resolvable on the input, every line of which is valid UTF-8.  Hence, without
`-m`, it is `specLines (cfgOf o)`, output and status, on every input other than the empty one or a
lone EOL (`fwd_eq_spec`; `fwd_eq_spec_utf8` in `Tuc/Props/C05Utf8.lean` asks for a valid UTF-8 input
instead).

The `isLast` flag plays no role here (neither the walk nor the specification reads it), so the
theorems hold for any plain list, in particular for what `markLast`/`fromVec` build
(`markLast_plain`).

Proof: induction over the lines still to read with the invariant `FwdInv` (what `add_newline_next`
means for the pending bound) and the function `fwdRemOut` (what remains to be printed); one line
is `fwdLine_step` (induction over the pending bounds: several bounds may end on the same line).
-/
namespace Tuc
open Tuc.Spec

/-- what the pending bound still has to print when `i` lines have been read -/
def fwdHeadText (eol : UInt8) (ls : List Bytes) (i : Nat) (addNl : Bool) (b : UserBounds) : Bytes :=
  match resolve b ls.length with
  | some (lo, hi) =>
    if addNl then contText eol (slice ls i hi) else joinText eol (slice ls (lo - 1) hi)
  | none => []

/-- what remains to be printed before the final EOL -/
def fwdRemOut (eol : UInt8) (join : Bool) (ls : List Bytes) (i : Nat) (addNl : Bool) :
    List UserBounds → Bytes
  | [] => []
  | b :: t => fwdHeadText eol ls i addNl b ++ lineJoinerOf eol join t ++ linesOut eol join ls t

theorem fwdRemOut_false (eol : UInt8) (join : Bool) (ls : List Bytes) (i : Nat)
    (rest : List UserBounds) : fwdRemOut eol join ls i false rest = linesOut eol join ls rest := by
  cases rest with
  | nil => rfl
  | cons b t => cases h : resolve b ls.length <;> simp [fwdRemOut, linesOut_cons, fwdHeadText, selText, h]

/-- `add_newline_next` ⇔ the pending bound has printed lines `lo … i` and is not finished;
    otherwise it has printed nothing and none of its lines has been read -/
def FwdInv (ls : List Bytes) (i : Nat) (addNl : Bool) : List UserBounds → Prop
  | [] => True
  | b :: _ => ∃ lo hi, resolve b ls.length = some (lo, hi) ∧
      (if addNl then lo ≤ i ∧ (b.r ≠ .cont → i < hi) else i < lo)

structure FwdGood (ls : List Bytes) (rest : List UserBounds) : Prop where
  pos : ∀ b ∈ rest, b.Pos
  res : ∀ b ∈ rest, resolve b ls.length ≠ none
  asc : Ascending rest

theorem FwdGood.tail {ls : List Bytes} {b : UserBounds} {t : List UserBounds} (h : FwdGood ls (b :: t)) :
    FwdGood ls t :=
  ⟨fun x hx => h.pos x (List.mem_cons_of_mem _ hx), fun x hx => h.res x (List.mem_cons_of_mem _ hx),
    h.asc.tail⟩

theorem FwdInv.start {ls : List Bytes} {i : Nat} {q : UserBounds} (t : List UserBounds)
    (hres : resolve q ls.length ≠ none)
    (h : ∀ {lo hi}, resolve q ls.length = some (lo, hi) → i < lo) : FwdInv ls i false (q :: t) := by
  cases hq : resolve q ls.length with
  | none => exact absurd hq hres
  | some lh => exact ⟨lh.1, lh.2, hq, h hq⟩

theorem lineJoiner_map (o : Opt) (t : List UserBounds) :
    lineJoiner o (t.map .bound) = lineJoinerOf o.eol.byte o.join t := by
  unfold lineJoiner lineJoinerOf
  cases t <;> simp

theorem fwdHeadText_started (eol : UInt8) (ls : List Bytes) (i : Nat) {b : UserBounds} {lo hi : Nat}
    (hres : resolve b ls.length = some (lo, hi)) :
    fwdHeadText eol ls i true b = contText eol (slice ls i hi) := by
  unfold fwdHeadText
  rw [hres]
  rfl

theorem fwdHeadText_cons (eol : UInt8) {ls : List Bytes} {i : Nat} {line : Bytes} {tl : List Bytes}
    (hd : ls.drop i = line :: tl) (addNl : Bool) {b : UserBounds} {lo hi : Nat}
    (hres : resolve b ls.length = some (lo, hi)) (hlt : i < hi) (h0 : addNl = false → lo = i + 1) :
    fwdHeadText eol ls i addNl b
      = (if addNl then [eol] else []) ++ line ++ contText eol (slice ls (i + 1) hi) := by
  unfold fwdHeadText
  rw [hres]
  cases addNl with
  | true => exact congrArg (contText eol) (slice_cons_of_drop hd hlt)
  | false =>
    show joinText eol (slice ls (lo - 1) hi) = _
    rw [h0 rfl, Nat.add_sub_cancel, slice_cons_of_drop hd hlt]
    rfl

theorem fwdLine_step (o : Opt) (ls : List Bytes) (i : Nat) (line : Bytes) (tl : List Bytes)
    (hd : ls.drop i = line :: tl) :
    ∀ (rest : List UserBounds) (addNl : Bool), FwdGood ls rest → FwdInv ls i addNl rest →
      ∃ w rest' a', fwdLine o line ((i : Int) + 1) (rest.map .bound) addNl
          = (w, rest'.map .bound, a') ∧ FwdGood ls rest' ∧ FwdInv ls (i + 1) a' rest' ∧
        fwdRemOut o.eol.byte o.join ls i addNl rest
          = w ++ fwdRemOut o.eol.byte o.join ls (i + 1) a' rest' := by
  intro rest
  induction rest with
  | nil => exact fun addNl hg _ => ⟨[], [], addNl, rfl, hg, trivial, rfl⟩
  | cons b t ih =>
    intro addNl hg ⟨lo, hi, hres, hcond⟩
    have sel := LineSel.of_resolve (hg.pos b (List.mem_cons_self ..)) hres
    have hm := sel.matches_iff (i + 1) (Nat.le_add_left 1 i)
    have hin : i < ls.length :=
      Nat.lt_of_not_le fun h => by rw [List.drop_eq_nil_of_le h] at hd; cases hd
    show ∃ w rest' a', fwdLine o line ((i + 1 : Nat) : Int) (.bound b :: t.map .bound) addNl = _ ∧ _
    by_cases hlo : i + 1 < lo
    · -- the bound starts further down: nothing is written
      have ha : addNl = false := by
        cases addNl with
        | false => rfl
        | true => exact absurd hcond.1 (Nat.not_le_of_lt (Nat.lt_of_succ_lt hlo))
      subst ha
      refine ⟨[], b :: t, false, if_neg fun h => absurd (hm.1 h).1 (Nat.not_le_of_lt hlo), hg,
        ⟨lo, hi, hres, hlo⟩, ?_⟩
      rw [fwdRemOut_false, fwdRemOut_false]
      rfl
    · -- the line is one of the bound's
      have hlo := Nat.le_of_not_lt hlo
      have h0 : addNl = false → lo = i + 1 := by
        intro ha
        subst ha
        exact Nat.le_antisymm hlo hcond
      have hhi : i + 1 ≤ hi := by
        rcases sel.right with hr | ⟨_, rfl⟩
        · cases addNl with
          | false => exact h0 rfl ▸ sel.lo_le
          | true => exact hcond.2 (by rw [hr]; nofun)
        · exact hin
      have hmatch := hm.2 ⟨hlo, Or.inl hhi⟩
      have hhead := fwdHeadText_cons o.eol.byte hd addNl hres hhi h0
      by_cases hfin : b.r = .some ((i + 1 : Nat) : Int)
      · -- … and its last: on to the next bound, which starts further down
        have hhi1 : hi = i + 1 := by
          rcases sel.right with hr | ⟨hr, _⟩
          · rw [hr] at hfin
            exact Int.ofNat.inj (Side.some.inj hfin)
          · rw [hr] at hfin
            cases hfin
        have hinvt : FwdInv ls i false t := by
          cases t with
          | nil => trivial
          | cons q t' =>
            refine FwdInv.start t' (hg.res q (by simp)) fun hq => ?_
            have hf : Follows b q := hg.asc.1
            unfold Follows at hf
            rw [hfin, (LineSel.of_resolve (hg.pos q (by simp)) hq).left] at hf
            exact Int.ofNat_le.1 hf
        obtain ⟨w', rest', a', hf, hg', hinv', hrem⟩ := ih false hg.tail hinvt
        replace hf : fwdLine o line ((i + 1 : Nat) : Int) (t.map .bound) false = _ := hf
        refine ⟨(if addNl then [o.eol.byte] else []) ++ line ++ lineJoiner o (t.map .bound) ++ w',
          rest', a', ?_, hg', hinv', ?_⟩
        · simp only [fwdLine, if_pos hmatch, if_pos hfin, hf]
        · show fwdHeadText _ _ _ _ _ ++ _ ++ _ = _
          rw [hhead, slice_eq_nil_of_le ls (Nat.le_of_eq hhi1), contText_nil,
            ← fwdRemOut_false _ _ _ i, hrem, lineJoiner_map]
          simp only [List.append_nil, List.append_assoc]
      · -- … and not its last: it stays pending
        refine ⟨_, b :: t, true, (if_pos hmatch).trans (if_neg hfin), hg, ⟨lo, hi, hres, ?_⟩, ?_⟩
        · refine ⟨hlo, fun hne => Nat.lt_of_le_of_ne hhi fun he => hfin ?_⟩
          rw [he]
          exact sel.right.resolve_right fun h => hne h.1
        · show fwdHeadText _ _ _ _ _ ++ _ ++ _ = _ ++ (fwdHeadText _ _ _ _ _ ++ _ ++ _)
          rw [hhead, fwdHeadText_started _ _ _ hres]
          simp only [List.append_assoc]

theorem fwdLines_eq (o : Opt) (ls : List Bytes)
    (hutf : ∀ l ∈ ls, validUtf8 l = true) :
    ∀ (ls' : List Bytes) (i : Nat) (rest : List UserBounds) (addNl : Bool),
      ls.drop i = ls' → FwdGood ls rest → FwdInv ls i addNl rest →
      fwdLines o ls' (i : Int) (rest.map .bound) addNl
        = Run.ok (fwdRemOut o.eol.byte o.join ls i addNl rest ++ [o.eol.byte]) := by
  intro ls'
  induction ls' with
  | nil =>
    -- no line is left: the pending bound, if any, is open-ended, has started, and is the last
    intro i rest addNl hd hg hinv
    have hlen : ls.length ≤ i := List.drop_eq_nil_iff.1 hd
    cases rest with
    | nil => rfl
    | cons b t =>
      obtain ⟨lo, hi, hres, hcond⟩ := hinv
      have sel := LineSel.of_resolve (hg.pos b (List.mem_cons_self ..)) hres
      have hhi : ¬ i < hi := Nat.not_lt_of_le (Nat.le_trans sel.hi_le hlen)
      cases addNl with
      | false => exact absurd (Nat.lt_of_lt_of_le hcond sel.lo_le) hhi
      | true =>
        have hc : b.r = .cont := Decidable.byContradiction fun hne => hhi (hcond.2 hne)
        cases t with
        | cons q _ =>
          have hf : Follows b q := hg.asc.1
          unfold Follows at hf
          rw [hc] at hf
          exact hf.elim
        | nil =>
          show fwdEnd o [.bound b] true
            = Run.ok (fwdHeadText _ _ _ _ _ ++ lineJoinerOf _ _ [] ++ [] ++ _)
          rw [fwdHeadText_started _ _ _ hres, slice_eq_nil_of_length_le ls hi hlen, lineJoinerOf_nil]
          simp only [fwdEnd, hc, ne_eq, not_true_eq_false, if_false, if_true, lineJoiner_nil]
          rfl
  | cons line tl ih =>
    intro i rest addNl hd hg hinv
    have hv : validUtf8 line = true :=
      hutf line (List.mem_of_mem_drop (hd ▸ List.mem_cons_self ..))
    obtain ⟨w, rest', a', hf, hg', hinv', hrem⟩ := fwdLine_step o ls i line tl hd rest addNl hg hinv
    rw [fwdLines_cons, hv, hf, hrem]
    cases rest' with
    | nil => exact congrArg Run.ok (congrArg (· ++ _) (List.append_nil w).symm)
    | cons b' t' =>
      exact (congrArg (Run.pre w) (ih (i + 1) (b' :: t') a' (drop_eq_cons hd).2 hg' hinv')).trans
        (congrArg Run.ok (List.append_assoc ..).symm)

theorem good_of_forwardOnly (ls : List Bytes) (bs : List UserBounds)
    (hfwd : isForwardOnly (bs.map .bound) = true)
    (hres : ∀ b ∈ bs, resolve b ls.length ≠ none) : FwdGood ls bs := by
  have hz : ∀ b ∈ boundsOnly (bs.map BoF.bound), b.Nonzero := by
    rw [boundsOnly_map_bound]
    exact fun b hb => nonzero_of_resolve (hres b hb)
  have h := (isForwardOnly_spec _ hz).1 hfwd
  rw [boundsOnly_map_bound] at h
  exact ⟨h.1, hres, h.2⟩

/-- **The one-line-at-a-time algorithm prints exactly the selected lines** — byte for byte, in
    request order, separated by the EOL (or concatenated under `--no-join`), followed by one EOL —
    and succeeds.  For every input and every plain forward-only request resolvable on it (on the
    empty input no bound resolves, so only the empty request qualifies); the lines must be UTF-8
    (the line reader checks each line it reads, with either EOL). -/
theorem fwd_output (o : Opt) (input : Bytes) (bs : List UserBounds)
    (hplain : o.bounds.list = bs.map .bound)
    (hfwd : isForwardOnly o.bounds.list = true)
    (hres : ∀ b ∈ bs, resolve b (records o.eol.byte input).length ≠ none)
    (hutf : ∀ l ∈ records o.eol.byte input, validUtf8 l = true) :
    cutLinesForwardOnly o input
      = Run.ok (linesOut o.eol.byte o.join (records o.eol.byte input) bs ++ [o.eol.byte]) := by
  unfold cutLinesForwardOnly
  rw [hplain] at hfwd ⊢
  have hg := good_of_forwardOnly _ bs hfwd hres
  have hinv : FwdInv (records o.eol.byte input) 0 false bs := by
    cases bs with
    | nil => trivial
    | cons b t =>
      exact FwdInv.start t (hres b (List.mem_cons_self ..)) fun hq => (resolve_eq_some.1 hq).2.2.2
  have := fwdLines_eq o (records o.eol.byte input) hutf (records o.eol.byte input) 0 bs false
    (List.drop_zero) hg hinv
  rw [fwdRemOut_false] at this
  exact this

/-- **C05, the line-at-a-time algorithm refines the specification** (output and status).
    Besides the hypotheses of the property, only `o.complement = false` is needed: `specLines`
    reads of `cfgOf o` nothing but the EOL, the bounds, `complement`, `join` (and `fallbackOob`,
    unused here since every bound resolves) — in particular not the delimiter, `boundsType`,
    `replaceDelimiter` or `json`. -/
theorem fwd_eq_spec (o : Opt) (input : Bytes) (bs : List UserBounds)
    (hplain : o.bounds.list = bs.map .bound)
    (hfwd : isForwardOnly o.bounds.list = true)
    (hres : ∀ b ∈ bs, resolve b (records o.eol.byte input).length ≠ none)
    (hutf : ∀ l ∈ records o.eol.byte input, validUtf8 l = true)
    (h0 : input ≠ []) (h1 : input ≠ [o.eol.byte])
    (hc : o.complement = false) :
    cutLinesForwardOnly o input = specLines (cfgOf o) input := by
  rw [fwd_output o input bs hplain hfwd hres hutf]
  exact (specLines_eq_linesOut (cfgOf o) input bs hplain hc h0 h1 hres).symm

theorem readAndCutLines_forwardOnly (o : Opt) (input : Bytes) (hc : o.complement = false)
    (hp : o.compressDelimiter = false) (hfwd : isForwardOnly o.bounds.list = true) :
    readAndCutLines o input = cutLinesForwardOnly o input := by
  rw [readAndCutLines, hc, hp, hfwd]
  rfl

/-- the same for the entry point `read_and_cut_lines` -/
theorem readAndCutLines_eq_spec (o : Opt) (input : Bytes) (bs : List UserBounds)
    (hplain : o.bounds.list = bs.map .bound)
    (hfwd : isForwardOnly o.bounds.list = true)
    (hres : ∀ b ∈ bs, resolve b (records o.eol.byte input).length ≠ none)
    (hutf : ∀ l ∈ records o.eol.byte input, validUtf8 l = true)
    (h0 : input ≠ []) (h1 : input ≠ [o.eol.byte])
    (hc : o.complement = false) (hp : o.compressDelimiter = false) :
    readAndCutLines o input = specLines (cfgOf o) input := by
  rw [readAndCutLines_forwardOnly o input hc hp hfwd]
  exact fwd_eq_spec o input bs hplain hfwd hres hutf h0 h1 hc

/-- `markLast` keeps a plain list plain (it only sets a flag nothing here reads) -/
theorem markLast_plain (bs : List UserBounds) (l' : List BoF)
    (h : markLast (bs.map .bound) = some l') :
    ∃ bs' : List UserBounds, l' = bs'.map .bound ∧ bs'.length = bs.length ∧
      ∀ i (hi : i < bs'.length) (hi' : i < bs.length), bs'[i].l = bs[i].l ∧ bs'[i].r = bs[i].r ∧
        bs'[i].fallback = bs[i].fallback := by
  obtain ⟨a, b, f, hl, _, rfl⟩ := markLast_eq_some h
  obtain ⟨as, r, rfl, rfl, hr⟩ := List.map_eq_append_iff.mp hl
  obtain ⟨b0, fs, rfl, hb0, rfl⟩ := List.map_eq_cons_iff.mp hr
  cases hb0
  refine ⟨as ++ { b with isLast := true } :: fs, by rw [List.map_append, List.map_cons],
    by simp only [List.length_append, List.length_cons], fun i hi hi' => ?_⟩
  rw [List.getElem_append, List.getElem_append]
  split
  · exact ⟨rfl, rfl, rfl⟩
  · rw [List.getElem_cons, List.getElem_cons]
    split <;> exact ⟨rfl, rfl, rfl⟩

/-- for a non-empty input that does not already end with the EOL, adding one EOL changes nothing
    (whatever the request: the two runs read the same lines) -/
theorem fwd_trailing_eol (o : Opt) (x : Bytes) (hne : x ≠ [])
    (hlast : x.getLast? ≠ some o.eol.byte) :
    cutLinesForwardOnly o (x ++ [o.eol.byte]) = cutLinesForwardOnly o x := by
  unfold cutLinesForwardOnly
  rw [records_trailing_eol o.eol.byte x hne hlast]

/-- the specification agrees -/
theorem specLines_trailing_eol (cfg : Cfg) (x : Bytes) (hne : x ≠ [])
    (hlast : x.getLast? ≠ some cfg.eol) :
    specLines cfg (x ++ [cfg.eol]) = specLines cfg x := by
  unfold specLines
  rw [records_trailing_eol cfg.eol x hne hlast]

/-- the hypotheses are needed: the empty input has no line, the lone EOL has one (empty) line;
    and a second trailing EOL is an empty last line -/
example : records 10 [] = [] ∧ records 10 [10] = [[]] := by decide +kernel
example : records 10 [97, 10] = [[97]] ∧ records 10 [97, 10, 10] = [[97], []] := by decide +kernel

theorem linesOut_noJoin (eol : UInt8) (ls : List Bytes) (bs : List UserBounds) :
    linesOut eol false ls bs = bs.flatMap (selText eol ls) := by
  cases bs with
  | nil => rfl
  | cons b t => simp [linesOut, joinWith_cons, List.flatMap_def, List.map_map, Function.comp_def]

theorem linesOut_join (eol : UInt8) (ls : List Bytes) (bs : List UserBounds) :
    linesOut eol true ls bs = List.intercalate [eol] (bs.map (selText eol ls)) :=
  joinWith_eq_intercalate _ _

/-- **`--no-join`**: the selected lines of the successive bounds are concatenated with nothing in
    between (the lines *inside* a range stay separated by the EOL) -/
theorem fwd_no_join (o : Opt) (input : Bytes) (bs : List UserBounds)
    (hplain : o.bounds.list = bs.map .bound)
    (hfwd : isForwardOnly o.bounds.list = true)
    (hres : ∀ b ∈ bs, resolve b (records o.eol.byte input).length ≠ none)
    (hutf : ∀ l ∈ records o.eol.byte input, validUtf8 l = true)
    (hj : o.join = false) :
    cutLinesForwardOnly o input
      = Run.ok (bs.flatMap (selText o.eol.byte (records o.eol.byte input)) ++ [o.eol.byte]) := by
  rw [fwd_output o input bs hplain hfwd hres hutf, hj, linesOut_noJoin]

/-- with the join, the bounds are separated by one EOL -/
theorem fwd_join (o : Opt) (input : Bytes) (bs : List UserBounds)
    (hplain : o.bounds.list = bs.map .bound)
    (hfwd : isForwardOnly o.bounds.list = true)
    (hres : ∀ b ∈ bs, resolve b (records o.eol.byte input).length ≠ none)
    (hutf : ∀ l ∈ records o.eol.byte input, validUtf8 l = true)
    (hj : o.join = true) :
    cutLinesForwardOnly o input
      = Run.ok (List.intercalate [o.eol.byte]
          (bs.map (selText o.eol.byte (records o.eol.byte input))) ++ [o.eol.byte]) := by
  rw [fwd_output o input bs hplain hfwd hres hutf, hj, linesOut_join]

/-! ## concrete data: lines "a", "", "bc", request `1,2:3` -/

def c05Bounds : List UserBounds :=
  [{ l := .some 1, r := .some 1 }, { l := .some 2, r := .some 3, isLast := true }]

def c05Opt (join : Bool) : Opt :=
  { delimiter := [10], bounds := ⟨c05Bounds.map .bound, .some 3⟩, boundsType := .lines, join := join }

/-- `a⏎⏎bc` -/
def c05Input : Bytes := [97, 10, 10, 98, 99]

example : records 10 c05Input = [[97], [], [98, 99]] := by decide +kernel
example : records 10 (c05Input ++ [10]) = [[97], [], [98, 99]] := by decide +kernel
example : isForwardOnly (c05Opt true).bounds.list = true := by decide +kernel

-- join: `a⏎` `⏎bc` `⏎`
example : cutLinesForwardOnly (c05Opt true) c05Input = Run.ok [97, 10, 10, 98, 99, 10] := by decide +kernel
example : cutLinesForwardOnly (c05Opt true) (c05Input ++ [10]) = Run.ok [97, 10, 10, 98, 99, 10] := by
  decide +kernel
example : specLines (cfgOf (c05Opt true)) c05Input = Run.ok [97, 10, 10, 98, 99, 10] := by decide +kernel
example : specLines (cfgOf (c05Opt true)) (c05Input ++ [10]) = Run.ok [97, 10, 10, 98, 99, 10] := by
  decide +kernel
-- `--no-join`: `a` `⏎bc` `⏎`
example : cutLinesForwardOnly (c05Opt false) c05Input = Run.ok [97, 10, 98, 99, 10] := by decide +kernel
example : cutLinesForwardOnly (c05Opt false) (c05Input ++ [10]) = Run.ok [97, 10, 98, 99, 10] := by
  decide +kernel
example : specLines (cfgOf (c05Opt false)) c05Input = Run.ok [97, 10, 98, 99, 10] := by decide +kernel
example : specLines (cfgOf (c05Opt false)) (c05Input ++ [10]) = Run.ok [97, 10, 98, 99, 10] := by
  decide +kernel
example : readAndCutLines (c05Opt true) c05Input = Run.ok [97, 10, 10, 98, 99, 10] := by decide +kernel

/-- the hypotheses of the theorem are satisfiable: this is an instance of it -/
example : cutLinesForwardOnly (c05Opt true) c05Input = specLines (cfgOf (c05Opt true)) c05Input :=
  fwd_eq_spec (c05Opt true) c05Input c05Bounds rfl (by decide) (by decide) (by decide) (by decide)
    (by decide) rfl

/-- the empty input and the lone EOL are outside the property: the specification prints one EOL,
    the line-at-a-time algorithm fails on the first / prints the joiner on the second -/
example : cutLinesForwardOnly (c05Opt true) [] = Run.fail
    ∧ specLines (cfgOf (c05Opt true)) [] = Run.ok [10] := by decide +kernel
example : cutLinesForwardOnly { c05Opt true with bounds := ⟨[.bound ⟨.some 1, .some 1, false, none⟩,
      .bound ⟨.some 1, .some 1, true, none⟩], .some 1⟩ } [10] = Run.ok [10, 10]
    ∧ specLines (cfgOf { c05Opt true with bounds := ⟨[.bound ⟨.some 1, .some 1, false, none⟩,
      .bound ⟨.some 1, .some 1, true, none⟩], .some 1⟩ }) [10] = Run.ok [10] := by decide +kernel

/-- `UserBounds::partial_cmp` (userbounds.rs:110-117) compares `prev.r` with `next.l`, an open
    left side read as line 1 (D12): `2,:3` is not forward-only,
    `1:,2` neither (nothing may follow an open right side); `1:2,2:3` is (`prev.r ≤ next.l`) -/
example : isForwardOnly [.bound ⟨.some 2, .some 2, false, none⟩, .bound ⟨.cont, .some 3, true, none⟩]
    = false := by decide +kernel
example : isForwardOnly [.bound ⟨.some 1, .cont, false, none⟩, .bound ⟨.some 2, .some 2, true, none⟩]
    = false := by decide +kernel
example : isForwardOnly [.bound ⟨.some 1, .some 2, false, none⟩, .bound ⟨.some 2, .some 3, true, none⟩]
    = true := by decide +kernel

end Tuc
