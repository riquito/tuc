import Tuc.Model.CutStr
import Tuc.Spec.Record
import Tuc.Lemmas.CutStrSpec
/-!
# C15 — `--complement` prints exactly what each bound leaves out

`UserBounds::complement` against the specification's `complementBound` (`complement_eq_spec`): a
bound resolving to parts `lo … hi` of `n` becomes `1 … lo-1` (if any) followed by `hi+1 … n` (if
any).  A list none of whose bounds leaves anything out fails (`complement_empty_fails`).  That an
unresolvable bound is kept is `complement_keeps_unresolvable` in C13; whole runs with `-m` are in
`Tuc.Props.C15Runs`.
-/
namespace Tuc
open Tuc.Spec

/-- **C15.**  For a bound without index 0 that resolves on `n` parts, the code's `complement` is the
    specification's `complementBound` -/
theorem complement_eq_spec (b : UserBounds) (n : Nat) (hz : b.Nonzero) (lo hi : Nat)
    (h : resolve b n = some (lo, hi)) :
    b.complement n = some (complementBound b n) :=
  complement_of_resolve hz h

/-- `2` on 3 parts behaves as `1,3:` -/
example : ({ l := .some 2, r := .some 2 } : UserBounds).complement 3 =
    some [{ l := .some 1, r := .some 1 }, { l := .some 3, r := .some 3 }] := by decide

/-- a bound touching the first part yields only the other side -/
example : ({ l := .some 1, r := .some 2 } : UserBounds).complement 3 =
    some [{ l := .some 3, r := .some 3 }] := by decide

/-- `List.flatMap_append`, for any `f` (`n` is not used).  `complementList l n` is `fromVec` of
    `l.flatMap (complementBof n)`, which is why it keeps the order of the bounds. -/
theorem complementList_order (xs ys : List BoF) (n : Nat) (f : BoF → List BoF) :
    (xs ++ ys).flatMap f = xs.flatMap f ++ ys.flatMap f := by
  simp [List.flatMap_append]

theorem complement_full (b : UserBounds) (n : Nat) (h : b.tryIntoRange n = some (0, n)) :
    b.complement n = some [] := by
  simp [UserBounds.complement, h, complementStdRange]

/-- if the bounds leave nothing out, the run fails instead of printing data -/
theorem complement_empty_fails (l : List BoF) (n : Nat)
    (h : ∀ b ∈ boundsOnly l, b.tryIntoRange n = some (0, n)) :
    complementList l n = .fail := by
  have key : boundsOnly (l.flatMap (complementBof n)) = [] :=
    List.eq_nil_iff_forall_not_mem.2 fun c hc =>
      bound_mem_flatMap (P := fun _ => False) _ l (fun x hx c hc => by
        cases x with
        | filler f => simp [complementBof] at hc
        | bound b => simp [complementBof, complement_full b n (h b (mem_boundsOnly_iff.2 hx))] at hc)
        c (mem_boundsOnly_iff.1 hc)
  simp only [complementList, key, List.isEmpty_nil, if_true]

/-- e.g. `1:` (the default) on any record: the complement is empty -/
example : complementList [.bound { l := .some 1, r := .cont }] 3 = .fail := by decide

/-- a record cut with `-m` first writes nothing of the data when the complement is empty
    (only the `[` of `--json`) -/
theorem emitRecord_complement_empty (line : Bytes) (fields : List Range) (opt : Opt) (c : Bool)
    (eol : Bytes) (hm : opt.complement = true) (hs : (opt.onlyDelimited && fields.length == 1) = false)
    (h : complementList opt.bounds.list fields.length = .fail) :
    emitRecord line fields opt c eol = (if opt.json then Run.ok [0x5B] else Run.empty).seq Run.fail := by
  simp only [emitRecord, hs, hm, h, Bool.false_eq_true, if_false, if_true]

end Tuc
