import Tuc.Props.C05
import Tuc.Props.C07
/-!
# C05, corollary for the property's own quantifier: "all valid-UTF-8 inputs"

`fwd_eq_spec` asks every *line* to be valid UTF-8 (what the line reader checks, one line at a
time, with either EOL).
A valid UTF-8 input has only valid lines, because the EOL (`\n` or NUL, both ASCII) never occurs
inside a multi-byte scalar value (`validUtf8_records`, `Tuc.Props.C07`).
-/
namespace Tuc
open Tuc.Spec

/-- **C05 for the property's quantifier**: the one-line-at-a-time algorithm is `specLines` (output
    and status) on every valid UTF-8 input other than the empty one or a lone EOL, for every plain
    forward-only request resolvable on it, without `-m`, `--no-join` or not, `-z` or not. -/
theorem fwd_eq_spec_utf8 (o : Opt) (input : Bytes) (bs : List UserBounds)
    (hplain : o.bounds.list = bs.map .bound)
    (hfwd : isForwardOnly o.bounds.list = true)
    (hres : ∀ b ∈ bs, resolve b (records o.eol.byte input).length ≠ none)
    (hutf : validUtf8 input = true)
    (h0 : input ≠ []) (h1 : input ≠ [o.eol.byte])
    (hc : o.complement = false) :
    cutLinesForwardOnly o input = specLines (cfgOf o) input :=
  fwd_eq_spec o input bs hplain hfwd hres
    (validUtf8_records o.eol.byte (EOL.byte_ascii o.eol) input hutf) h0 h1 hc

end Tuc
