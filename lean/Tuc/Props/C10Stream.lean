import Tuc.Model.Stream
import Tuc.Lemmas.Run
/-!
# The `-M` machine case by case, and C10 — records are cut independently

One lemma per guard of `printBof`, `streamStep` and `streamRun` (`Tuc.Model.Stream`).  Then C10 for
`-M`, for **every** read segmentation and without hypothesis on the bounds (`streamRun_append_eol`, an
induction over the bytes of `A`): the byte `eol` resets the state to `{}` from any state whatsoever
(`streamStep_eol_state`: empty record, end of record with fallbacks, failed end of record, skip mode
after the early stop), and `streamEof o {}` writes nothing, so the EOF step of the run over `A`
alone is not seen.  `streamRunPrefix` (the run without its EOF step; the same machine as
`streamRunOpen` of `Tuc.Model.Faults`, which C14 uses, except that it goes on stepping after a failed
step: they write the same, `streamRunOpen_fst` there) has one law, `streamRun_append`, from which
come that a failed prefix stays failed whatever follows, EOL or not (`streamRunPrefix_fail_final`),
and the monotonicity of `-M` at a read fault (`stream_monotone`, C14).
-/
namespace Tuc

theorem printBof_of_none {o : StreamOpt} {i : Nat} (h : o.bounds[i]? = none) (k : Int) (tr : Bool)
    (p : Bytes) (fc : Bool) : printBof o i k tr p fc = some ([], i) := by
  simp only [printBof, h]

theorem printBof_of_bound {o : StreamOpt} {i : Nat} {b : UserBounds}
    (h : o.bounds[i]? = some (.bound b)) (k : Int) (tr : Bool) (p : Bytes) (fc : Bool) :
    printBof o i k tr p fc =
      match b.matches k with
      | none => none
      | some false => some ([], i)
      | some true =>
        let w1 := (if !tr && decide (k > 1) && decide (b.l ≠ .some k) then [o.joiner] else []) ++ p
        if fc && decide (b.r = .some k) then
          some (w1 ++ (if o.join && !b.isLast then [o.joiner] else []), i + 1)
        else some (w1, i) := by
  simp only [printBof, h, List.nil_append]
  cases b.matches k with
  | none => rfl
  | some m => cases m <;> rfl

theorem printBof_of_filler {o : StreamOpt} {i : Nat} {f : Bytes}
    (h : o.bounds[i]? = some (.filler f)) (h' : ∀ g, o.bounds[i + 1]? ≠ some (.filler g)) (k : Int)
    (tr : Bool) (p : Bytes) (fc : Bool) :
    printBof o i k tr p fc = (printBof o (i + 1) k tr p fc).map fun x => (f ++ x.1, x.2) := by
  cases h1 : o.bounds[i + 1]? with
  | none => simp only [printBof, h, h1, Option.map, List.append_nil]
  | some y =>
    cases y with
    | filler g => exact absurd h1 (h' g)
    | bound b =>
      rw [printBof_of_bound h1]
      simp only [printBof, h, h1]
      cases b.matches k with
      | none => rfl
      | some m =>
        cases m
        · simp only [Option.map, List.append_nil]
        · cases (fc && decide (b.r = Side.some k)) <;>
            simp only [Option.map, List.append_assoc, Bool.false_eq_true, if_false, if_true]

theorem printBof_bound_none {o : StreamOpt} {i : Nat} {b : UserBounds} {k : Int}
    (h : o.bounds[i]? = some (.bound b)) (hm : b.matches k = none) (tr : Bool) (p : Bytes)
    (fc : Bool) : printBof o i k tr p fc = none := by
  rw [printBof_of_bound h, hm]

theorem printBof_bound_ne_none {o : StreamOpt} {i : Nat} {b : UserBounds} {k : Int}
    (h : o.bounds[i]? = some (.bound b)) (hm : b.matches k ≠ none) (tr : Bool) (p : Bytes)
    (fc : Bool) : printBof o i k tr p fc ≠ none := by
  rw [printBof_of_bound h]
  cases hmm : b.matches k with
  | none => exact absurd hmm hm
  | some m =>
    cases m
    · exact Option.some_ne_none _
    · cases (fc && decide (b.r = .some k)) <;> exact Option.some_ne_none _

theorem printBof_bound_false {o : StreamOpt} {i : Nat} {b : UserBounds} {k : Int}
    (h : o.bounds[i]? = some (.bound b)) (hm : b.matches k = some false) (tr : Bool) (p : Bytes)
    (fc : Bool) : printBof o i k tr p fc = some ([], i) := by
  rw [printBof_of_bound h, hm]

theorem printBof_none_indep (o : StreamOpt) (i : Nat) (k : Int) (tr tr' : Bool) (p p' : Bytes)
    (fc fc' : Bool) (h : printBof o i k tr p fc = none) : printBof o i k tr' p' fc' = none := by
  have bound : ∀ j b, o.bounds[j]? = some (.bound b) → printBof o j k tr p fc = none →
      printBof o j k tr' p' fc' = none := fun j b hb h =>
    printBof_bound_none hb (Classical.byContradiction fun hm => printBof_bound_ne_none hb hm tr p fc h)
      tr' p' fc'
  cases h0 : o.bounds[i]? with
  | none => rw [printBof_of_none h0] at h; cases h
  | some x =>
    cases x with
    | bound b => exact bound i b h0 h
    | filler f =>
      cases h1 : o.bounds[i + 1]? with
      | none =>
        rw [printBof_of_filler h0 (by simp [h1]), printBof_of_none h1] at h
        cases h
      | some y =>
        cases y with
        | filler g => simp only [printBof, h0, h1] at h; cases h   -- only the first filler is written
        | bound b =>
          rw [printBof_of_filler h0 (by simp [h1]), Option.map_eq_none_iff] at h ⊢
          exact bound _ b h1 h

theorem streamStep_skip (o : StreamOpt) (st : SState) (c : UInt8) (t : Bool) (h : st.skip = true) :
    streamStep o st c t =
      if c = o.eol.byte then (Run.ok [o.eol.byte], {}) else (Run.empty, { st with started := true }) := by
  simp [streamStep, h]

theorem streamStep_eol (o : StreamOpt) (st : SState) (c : UInt8) (t : Bool) (h : st.skip = false)
    (hc : c = o.eol.byte) :
    streamStep o st c t =
      if st.currField = 1 ∧ !st.trunc ∧ st.piece.isEmpty then (Run.ok [o.eol.byte], {})
      else (endOfRecord o st, {}) := by
  simp [streamStep, h, hc]

theorem streamStep_delim_none (o : StreamOpt) (st : SState) (c : UInt8) (t : Bool) (h : st.skip = false)
    (hc : c ≠ o.eol.byte) (hd : c = o.delimiter)
    (hp : printBof o st.bofIdx st.currField st.trunc st.piece true = none) :
    streamStep o st c t = (Run.panic, st) := by
  subst hd
  simp [streamStep, h, hc, hp]

theorem streamStep_delim_some (o : StreamOpt) (st : SState) (c : UInt8) (t : Bool) (h : st.skip = false)
    (hc : c ≠ o.eol.byte) (hd : c = o.delimiter) (w : Bytes) (i : Nat)
    (hp : printBof o st.bofIdx st.currField st.trunc st.piece true = some (w, i)) :
    streamStep o st c t =
        if Side.some st.currField = o.lastInterestingField then
          ((Run.ok w).seq (printFillerOrFallbacks o st.currField (o.bounds.drop i)),
           { st with bofIdx := o.bounds.length, trunc := false, piece := [], skip := true, started := true })
        else
          (Run.ok w, { bofIdx := i, currField := st.currField + 1, trunc := false, piece := [],
                       skip := false, started := true }) := by
  subst hd
  simp [streamStep, h, hc, hp]

theorem streamStep_ord_false (o : StreamOpt) (st : SState) (c : UInt8) (h : st.skip = false)
    (hc : c ≠ o.eol.byte) (hd : c ≠ o.delimiter) :
    streamStep o st c false = (Run.empty, { st with piece := st.piece ++ [c], started := true }) := by
  simp [streamStep, h, hc, hd]

theorem streamStep_ord_true_none (o : StreamOpt) (st : SState) (c : UInt8) (h : st.skip = false)
    (hc : c ≠ o.eol.byte) (hd : c ≠ o.delimiter)
    (hp : printBof o st.bofIdx st.currField st.trunc (st.piece ++ [c]) false = none) :
    streamStep o st c true = (Run.panic, st) := by
  simp [streamStep, h, hc, hd, hp]

theorem streamStep_ord_true_some (o : StreamOpt) (st : SState) (c : UInt8) (h : st.skip = false)
    (hc : c ≠ o.eol.byte) (hd : c ≠ o.delimiter) (w : Bytes) (i : Nat)
    (hp : printBof o st.bofIdx st.currField st.trunc (st.piece ++ [c]) false = some (w, i)) :
    streamStep o st c true =
      (Run.ok w, { st with bofIdx := i, trunc := true, piece := [], started := true }) := by
  simp [streamStep, h, hc, hd, hp]

theorem streamStep_piece (o : StreamOpt) (st : SState) (c : UInt8) (t : Bool) :
    (streamStep o st c t).2.piece = [] ∨ (streamStep o st c t).2.piece = st.piece ∨
      (t = false ∧ (streamStep o st c t).2.piece = st.piece ++ [c]) := by
  cases hs : st.skip with
  | true =>
    rw [streamStep_skip o st c t hs]
    split
    · exact Or.inl rfl
    · exact Or.inr (Or.inl rfl)
  | false =>
    by_cases hc : c = o.eol.byte
    · rw [streamStep_eol o st c t hs hc]
      split <;> exact Or.inl rfl
    · by_cases hd : c = o.delimiter
      · cases hp : printBof o st.bofIdx st.currField st.trunc st.piece true with
        | none => rw [streamStep_delim_none o st c t hs hc hd hp]; exact Or.inr (Or.inl rfl)
        | some x =>
          rw [streamStep_delim_some o st c t hs hc hd x.1 x.2 hp]
          split <;> exact Or.inl rfl
      · cases t with
        | false => rw [streamStep_ord_false o st c hs hc hd]; exact Or.inr (Or.inr ⟨rfl, rfl⟩)
        | true =>
          cases hp : printBof o st.bofIdx st.currField st.trunc (st.piece ++ [c]) false with
          | none => rw [streamStep_ord_true_none o st c hs hc hd hp]; exact Or.inr (Or.inl rfl)
          | some x => rw [streamStep_ord_true_some o st c hs hc hd x.1 x.2 hp]; exact Or.inl rfl

theorem streamStep_eol_state (o : StreamOpt) (st : SState) (t : Bool) :
    (streamStep o st o.eol.byte t).2 = {} := by
  cases hs : st.skip with
  | true => rw [streamStep_skip o st _ t hs, if_pos rfl]
  | false => rw [streamStep_eol o st _ t hs rfl]; split <;> rfl

theorem streamRun_cons (o : StreamOpt) (st : SState) (c : UInt8) (t : Bool)
    (l : List (UInt8 × Bool)) :
    streamRun o st ((c, t) :: l) =
      (streamStep o st c t).1.seq (streamRun o (streamStep o st c t).2 l) := rfl

theorem streamRun_skip_append (o : StreamOpt) (tail : List (UInt8 × Bool)) :
    ∀ (l : List (UInt8 × Bool)) (st : SState), st.skip = true → (∀ x ∈ l, x.1 ≠ o.eol.byte) →
    streamRun o st (l ++ tail) = streamRun o { st with started := st.started || !l.isEmpty } tail := by
  intro l
  induction l with
  | nil => intro st _ _; simp
  | cons x l ih =>
    intro st hs hl
    obtain ⟨c, t⟩ := x
    rw [List.cons_append, streamRun_cons, streamStep_skip o st c t hs,
      if_neg (hl (c, t) List.mem_cons_self), Run.empty_seq]
    refine (ih { st with started := true } hs fun x hx => hl x (List.mem_cons_of_mem _ hx)).trans ?_
    simp

theorem streamRun_skip_eol (o : StreamOpt) (st : SState) (t : Bool) (rest : List (UInt8 × Bool))
    (hs : st.skip = true) :
    streamRun o st ((o.eol.byte, t) :: rest) = (Run.ok [o.eol.byte]).seq (streamRun o {} rest) := by
  rw [streamRun_cons, streamStep_skip o st _ t hs, if_pos rfl]

theorem streamEof_init (o : StreamOpt) : streamEof o {} = Run.empty := by
  simp [streamEof]

/-- the bytes of `l`, none of them the last of its read -/
def untagged (l : Bytes) : List (UInt8 × Bool) := l.map fun c => (c, false)

@[simp] theorem untagged_nil : untagged [] = [] := rfl
@[simp] theorem untagged_cons (c : UInt8) (l : Bytes) : untagged (c :: l) = (c, false) :: untagged l := rfl
theorem untagged_append (l l' : Bytes) : untagged (l ++ l') = untagged l ++ untagged l' := by
  simp [untagged]

theorem untagged_noeol {eol : UInt8} {l : Bytes} (h : ∀ c ∈ l, c ≠ eol) :
    ∀ x ∈ untagged l, x.1 ≠ eol := by
  intro x hx
  obtain ⟨c, hc, rfl⟩ := List.mem_map.1 hx
  exact h c hc

theorem tagSegment_cons (c : UInt8) (t : Bytes) :
    tagSegment (c :: t) = (c, t.isEmpty) :: tagSegment t := by
  cases t <;> rfl

theorem tagSegments_cons (s : Bytes) (t : List Bytes) :
    tagSegments (s :: t) = tagSegment s ++ tagSegments t := rfl

theorem tagSegments_append (xs ys : List Bytes) :
    tagSegments (xs ++ ys) = tagSegments xs ++ tagSegments ys := by
  simp [tagSegments]

theorem tagSegment_map_fst (s : Bytes) : (tagSegment s).map Prod.fst = s := by
  induction s with
  | nil => rfl
  | cons c t ih => rw [tagSegment_cons, List.map_cons, ih]

theorem tagSegments_map_fst (segs : List Bytes) :
    (tagSegments segs).map Prod.fst = segs.flatten := by
  induction segs with
  | nil => rfl
  | cons s t ih => rw [tagSegments_cons, List.map_append, ih, tagSegment_map_fst, List.flatten_cons]

/-- the chunk loop without "Handle EOF": what is written and the state reached -/
def streamRunPrefix (o : StreamOpt) : SState → List (UInt8 × Bool) → Run × SState
  | st, [] => (Run.empty, st)
  | st, (c, last) :: t =>
    ((streamStep o st c last).1.seq (streamRunPrefix o (streamStep o st c last).2 t).1,
     (streamRunPrefix o (streamStep o st c last).2 t).2)

theorem streamRun_append (o : StreamOpt) (l l' : List (UInt8 × Bool)) (st : SState) :
    streamRun o st (l ++ l') =
      (streamRunPrefix o st l).1.seq (streamRun o (streamRunPrefix o st l).2 l') := by
  induction l generalizing st with
  | nil => simp [streamRunPrefix]
  | cons x l ih =>
    obtain ⟨c, t⟩ := x
    rw [List.cons_append, streamRun_cons, ih]
    simp only [streamRunPrefix]
    rw [Run.seq_assoc]

/-- `streamStep_eol_state` with the EOL given by an equation, and with a hypothesis it does not need:
    the state is `{}` also when the step fails -/
theorem stream_state_reset (o : StreamOpt) (st : SState) (c : UInt8) (t : Bool)
    (hc : c = o.eol.byte) (_hok : (streamStep o st c t).1.status = .ok) :
    (streamStep o st c t).2 = {} := by
  subst hc; exact streamStep_eol_state o st t

theorem streamRun_append_eol (o : StreamOpt) (l' : List (UInt8 × Bool)) :
    ∀ (l : List (UInt8 × Bool)) (st : SState) (a : Bytes), l.map Prod.fst = a ++ [o.eol.byte] →
    streamRun o st (l ++ l') = (streamRun o st l).seq (streamRun o {} l') := by
  intro l
  induction l with
  | nil => intro st a h; cases a <;> cases h
  | cons x l ih =>
    intro st a h
    obtain ⟨c, t⟩ := x
    rw [List.cons_append, streamRun_cons, streamRun_cons, Run.seq_assoc]
    cases a with
    | nil =>
      -- the last byte is the EOL: it resets the state, and `streamEof o {}` writes nothing
      simp only [List.map_cons, List.nil_append, List.cons.injEq, List.map_eq_nil_iff] at h
      obtain ⟨rfl, rfl⟩ := h
      rw [streamStep_eol_state, List.nil_append, show streamRun o {} [] = Run.empty from streamEof_init o,
        Run.empty_seq]
    | cons a0 a' =>
      simp only [List.map_cons, List.cons_append, List.cons.injEq] at h
      rw [ih _ a' h.2]

/-- **C10 (`-M`).**  If the reads `segsA` deliver an input that ends with an EOL, then cutting
    `segsA` followed by `segsB` = cutting `segsA`, then (if that went well) cutting `segsB`:
    output bytes and status.  Any segmentation on either side. -/
theorem cutBytesStream_append (o : StreamOpt) (segsA segsB : List Bytes) (a : Bytes)
    (h : segsA.flatten = a ++ [o.eol.byte]) :
    cutBytesStream o (segsA ++ segsB) = (cutBytesStream o segsA).seq (cutBytesStream o segsB) := by
  unfold cutBytesStream
  rw [tagSegments_append]
  exact streamRun_append_eol o _ _ {} a (by rw [tagSegments_map_fst, h])

/-- … and if cutting A fails (exit 1 or panic), cutting A‖B fails the same way and delivers
    exactly the same bytes -/
theorem cutBytesStream_append_of_fail (o : StreamOpt) (segsA segsB : List Bytes) (a : Bytes)
    (h : segsA.flatten = a ++ [o.eol.byte]) (hf : (cutBytesStream o segsA).status ≠ .ok) :
    cutBytesStream o (segsA ++ segsB) = cutBytesStream o segsA := by
  rw [cutBytesStream_append o segsA segsB a h, Run.seq_of_not_ok _ _ hf]

/-- … and if it succeeds, the outputs are concatenated and the status is that of B -/
theorem cutBytesStream_append_of_ok (o : StreamOpt) (segsA segsB : List Bytes) (a : Bytes)
    (h : segsA.flatten = a ++ [o.eol.byte]) (hok : (cutBytesStream o segsA).status = .ok) :
    (cutBytesStream o (segsA ++ segsB)).out = (cutBytesStream o segsA).out ++ (cutBytesStream o segsB).out ∧
    (cutBytesStream o (segsA ++ segsB)).status = (cutBytesStream o segsB).status := by
  rw [cutBytesStream_append o segsA segsB a h]
  exact ⟨Run.seq_out_of_ok hok, Run.seq_status_of_ok hok⟩

/-- also when no EOL ends A, failure is final: whatever follows, a failed prefix stays failed
    with the same bytes (the machine stops at the first error) -/
theorem streamRunPrefix_fail_final (o : StreamOpt) (st : SState) (l l' : List (UInt8 × Bool))
    (hf : (streamRunPrefix o st l).1.status ≠ .ok) :
    streamRun o st (l ++ l') = (streamRunPrefix o st l).1 := by
  rw [streamRun_append, Run.seq_of_not_ok _ _ hf]

end Tuc
