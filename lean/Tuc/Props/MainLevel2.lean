import Tuc.Model.Main
import Tuc.Props.EndToEnd
import Tuc.Props.C08Spec
import Tuc.Props.C09
import Tuc.Props.C09Runs
import Tuc.Props.C13Runs
import Tuc.Props.C15Runs
import Tuc.Props.C18Print
/-!
# Main level, part 2 — C15, C13 and C09 lifted to the whole program `tucMain`

Continuation of `Tuc.Props.MainLevel` (C04, C10, C11, C12, C14 at program level).  Here the
three properties about the BOUNDS are stated about `tucMain regexOk argv segs` (`Tuc.Model.Main`: `main` of
`src/bin/tuc.rs` from the argument vector to the bytes on stdout and the exit status) on canonical
accepted command lines (`canonArgv K`, `K.Accepted regexOk`).

C15 and C09 compare TWO command lines.  The second one is `K.withBounds t'` (`K` with the bounds text
`t'`; a command line without mode option gets `-f`; C19Argv) resp. `K.rewrittenAs t'` (the same without `-m`),
for ANY text `t'` whose parse is the mirrored / rewritten list — a closed-form condition on the two
parsed lists (writing `K'` for the second command line: `MirrorList n K.ubl.list K'.ubl.list`, discharged by `MirrorList.of_eq` (C09Runs) from the
decidable `K'.ubl.list = mirrorBofs n K.ubl.list`; `markLast (mapBounds (complementBound · n) …) =
some K'.ubl.list`).  `Tuc.Props.C18Print` defines the printer `boundsToText` and proves that `UserBoundsList::from_str`
reads it back (`boundsListOfString_boundsToText`), §4 instantiates `t'` with it: there the second
command line is computed from the first (`K.mirrored n`), its acceptance is derived
(`Canon.Accepted.withM_withBounds`, C19Argv), and the extra hypotheses are "the list can be printed"
(`printableListB`: no format text, no fallbacks, every bound still well-formed — `-2:3` mirrored on 5
parts is `4:3`, which `from_str` refuses) and "the text does not start with `-`" (`Canon.clean` asks
it of every value); `tucMain_mirrored_lines` also asks
that every mirrored bound resolves (`hres`, which discharges `hfwd`).

The conclusions are equations between `MainResult`s, or "`.run r` with `r.status = .fail` and `r.out = …`".  The
restrictions that are kept are in the names (`_admissible`, `_buffered`) or explicit hypotheses with a
kernel-checked counter-example next to them: `hadm` for `-M`; for `-l` served one line at a time the
fallback form is NOT lifted (C13 has the step `lines_rule` only, the refinement theorem of that
algorithm — C05 — is about resolvable requests, and a closed range that straddles the end of the
input and has a fallback prints its lines and fails: example at the end of §2); `-M` is outside C09
(`StreamOpt::try_from` refuses negative indexes: example at the end of §3).  Not treated: `-c` and
`-e` (not in the C09/C13/C15 run theorems that are lifted), and command lines outside `Canon`: other
spellings, and a bounds text that starts with `-` (`tuc -f -1`: `parse_args` reads it, `parseArgv_canonB`
of C19Argv, but `Canon.clean` asks `noDash` of it, so no theorem here is about it; `-f 1,-1` is inside).
-/
namespace Tuc
open Tuc.Spec

/-- `withBounds` writes the mode option out, which no field of the request reads -/
theorem Canon.sameButBofs_withBounds (K : Canon) (t : Arg) : SameButBofs K.cfg (K.withBounds t).cfg := by
  unfold Canon.cfg Canon.withBounds Canon.delimiter Canon.eol
  cases K.mode <;> exact ⟨⟨rfl, rfl, rfl, rfl, rfl, rfl, rfl⟩, rfl, rfl, rfl, rfl, rfl⟩

def hasNFieldsB (cfg : Cfg) (n : Nat) (r : Bytes) : Bool :=
  match recordTok cfg r with
  | none => true
  | Option.some tok => tok.numFields == n

theorem hasNFieldsB_iff (cfg : Cfg) (n : Nat) (r : Bytes) : hasNFieldsB cfg n r = true ↔ HasNFields cfg n r := by
  unfold hasNFieldsB HasNFields
  cases recordTok cfg r with
  | none => simp
  | some tok => simp

instance (cfg : Cfg) (n : Nat) (r : Bytes) : Decidable (HasNFields cfg n r) :=
  decidable_of_iff _ (hasNFieldsB_iff cfg n r)

/-! ## 1. C15 at the level of the program -/

/-- the command line of the rewritten request: `K` without `-m`, with the bounds text `t'` -/
def Canon.rewrittenAs (K : Canon) (t' : Arg) : Canon := (K.withM false).withBounds t'

theorem Canon.cfg_of_m {K : Canon} (hm : K.m = true) : K.cfg = { K.cfg with complement := true } :=
  hm ▸ rfl

theorem Canon.sameButBofs_rewrittenAs (K : Canon) (t' : Arg) (l : List BoF) :
    SameButBofs { K.cfg with complement := false, bofs := l } (K.rewrittenAs t').cfg := by
  have h := (K.withM false).sameButBofs_withBounds t'
  exact ⟨⟨h.delimiter, h.eol, h.chars, h.onlyDelimited, h.greedy, h.compress, h.trim⟩, h.replace,
    h.complement, h.join, h.json, h.fallback⟩

/-- **C15 at the level of the program, field mode** (`-f` or no mode option, with or without
    `--json`, any of `-g -p -s -t -z -j --no-join -r --fallback-oob`, fallbacks, format text).
    Let `K` be an accepted canonical command line with `-m`, and `t'` a bounds text such that `K`
    without `-m` and with `t'` is accepted and `t'` parses to the rewritten list: every bound `b` of
    `K` replaced, in place, by `complementBound b n` — the parts before it, the parts after it; a
    bound that does not resolve stays — with `is_last` on the last one (`hmark`, a closed-form
    equation between two bounds lists).  On an input all of whose records have `n` fields, in any
    read segmentation, `tuc -m` with the bounds of `K` does what `tuc` without `-m` does with `t'`:
    same bytes, same exit status.

    The program-level form of `readAndCutStr_complement` (C15Runs), obtained not from it but from
    `specRun_complement`: both command lines are the specification's run
    (`Canon.Accepted.fields_eq_spec`, which contains the engine choice: the rewritten command line may be
    served by the fast lane); this way `--json` is covered too. -/
theorem tucMain_complement_fields (regexOk : Arg → Bool) (K : Canon) (t' : Arg) (hK : K.Accepted regexOk)
    (hm : K.m = true) (hK' : (K.rewrittenAs t').Accepted regexOk) (hmode : K.mode = .f ∨ K.mode = .dflt)
    (hd : K.d ≠ Option.some []) (he : K.e = none) (hM : K.mem = none) (n : Nat) (segs : List Bytes)
    (hn : ∀ r ∈ records K.eol.byte segs.flatten, HasNFields K.cfg n r)
    (hmark : markLast (mapBounds (complementBound · n) K.ubl.list) = Option.some (K.rewrittenAs t').ubl.list) :
    tucMain regexOk (canonArgv K) segs = tucMain regexOk (canonArgv (K.rewrittenAs t')) segs := by
  have hmode' : (K.rewrittenAs t').mode = .f ∨ (K.rewrittenAs t').mode = .dflt :=
    .inl (hmode.elim (congrArg Mode.orF) (congrArg Mode.orF))
  have hc : countBounds (mapBounds (complementBound · n) K.ubl.list) ≠ 0 :=
    Nat.ne_of_gt (countBounds_pos_of_markLast_some _ _ hmark).1
  rw [hK.fields_eq_spec hmode hd he hM, hK'.fields_eq_spec hmode' hd he hM, K.cfg_of_m hm]
  exact congrArg MainResult.run
    (specRun_complement n segs.flatten (K.sameButBofs_rewrittenAs t' _) (markLast_eraseLast _ _ hmark) hc hn)

/-- **C15 at the level of the program, nothing left.**  If on some record (not suppressed by `-s`)
    every bound of `K` covers all the fields, `tuc -m` fails: the run's status is failure, and —
    the records before it having succeeded — nothing is printed for that record (only the `[` of
    `--json`).  Lifts `readAndCutStr_complement_empty` / `specRecord_complement_empty`. -/
theorem tucMain_complement_empty_fields (regexOk : Arg → Bool) (K : Canon) (hK : K.Accepted regexOk)
    (hm : K.m = true) (hmode : K.mode = .f ∨ K.mode = .dflt) (hd : K.d ≠ Option.some [])
    (he : K.e = none) (hM : K.mem = none) (segs : List Bytes) (before after : List Bytes) (r : Bytes)
    (tok : Tok) (hrec : records K.eol.byte segs.flatten = before ++ r :: after)
    (ht : recordTok K.cfg r = Option.some tok) (hs : (K.s && tok.numFields == 1) = false)
    (hall : ∀ b ∈ boundsOnly K.ubl.list, resolve b tok.numFields = Option.some (1, tok.numFields)) :
    ∃ run, tucMain regexOk (canonArgv K) segs = .run run ∧ run.status = .fail ∧
      ((specRunRecords K.cfg before).status = .ok →
        run.out = (specRunRecords K.cfg before).out ++ openBracket K.cfg) := by
  refine ⟨_, hK.fields_eq_spec hmode hd he hM segs, ?_⟩
  have h := specRecord_complement_empty K.cfg r tok ht hs ((complement_empty_iff tok.numFields K.ubl.list).2 hall)
  rw [← K.cfg_of_m hm] at h
  unfold specRun specRecords
  rw [show K.cfg.eol = K.eol.byte from rfl, hrec]
  exact specRunRecords_fails_at K.cfg before after r _ h

/-- **C15 at the level of the program, `-l`.**  The number of parts is the number of lines of the
    input (`(records K.eol.byte segs.flatten).length`).  The `-m`
    side is served by the buffered algorithm; the rewritten request has positive indexes only and
    may be served one line at a time, whence `hfwd` (the domain of C05 for that algorithm: a plain
    list of bounds that resolve).  Other hypotheses: the domain of C05 (no `-s -t -g -p -r`, valid
    UTF-8, neither empty nor a lone EOL).  The program-level form of `readAndCutLines_complement`,
    obtained like the field-mode form: both command lines are `specLines` (`Canon.Accepted.lines_buffered_eq_spec`,
    `Canon.Accepted.lines_eq_spec`), then `specLines_complement_marked` (C15Runs). -/
theorem tucMain_complement_lines (regexOk : Arg → Bool) (K : Canon) (t' : Arg) (hK : K.Accepted regexOk)
    (hm : K.m = true) (hK' : (K.rewrittenAs t').Accepted regexOk) (hmode : K.mode = .l) (he : K.e = none)
    (hM : K.mem = none) (hs : K.s = false) (ht : K.tr = none) (hg : K.g = false) (hp : K.p = false)
    (hr : K.r = none) (segs : List Bytes) (hutf : validUtf8 segs.flatten = true)
    (h0 : segs.flatten ≠ []) (h1 : segs.flatten ≠ [K.eol.byte])
    (hmark : markLast (mapBounds (complementBound · (records K.eol.byte segs.flatten).length) K.ubl.list) =
      Option.some (K.rewrittenAs t').ubl.list)
    (hfwd : isForwardOnly (K.rewrittenAs t').ubl.list = true →
      ∃ bs : List UserBounds, (K.rewrittenAs t').ubl.list = bs.map .bound ∧
        ∀ b ∈ bs, resolve b (records K.eol.byte segs.flatten).length ≠ none) :
    tucMain regexOk (canonArgv K) segs = tucMain regexOk (canonArgv (K.rewrittenAs t')) segs := by
  have hmode' : (K.rewrittenAs t').mode = .l := congrArg Mode.orF hmode
  have hc : countBounds (mapBounds (complementBound · (records K.eol.byte segs.flatten).length) K.ubl.list) ≠ 0 :=
    Nat.ne_of_gt (countBounds_pos_of_markLast_some _ _ hmark).1
  rw [hK.lines_buffered_eq_spec hmode he hM hs ht hg hp hr
      (.inl hm) segs hutf,
    hK'.lines_eq_spec hmode' he hM hs ht hg hp hr segs hutf
      h0 h1 (fun _ => hfwd), K.cfg_of_m hm]
  exact congrArg MainResult.run
    (specLines_complement_marked segs.flatten (K.sameButBofs_rewrittenAs t' _) (markLast_eraseLast _ _ hmark) hc)

/-- … with `hfwd` discharged for a plain request (no format text) all of whose bounds resolve
    (`complement_plain_resolves`, C15Runs). -/
theorem tucMain_complement_lines_plain (regexOk : Arg → Bool) (K : Canon) (t' : Arg) (hK : K.Accepted regexOk)
    (hm : K.m = true) (hK' : (K.rewrittenAs t').Accepted regexOk) (hmode : K.mode = .l) (he : K.e = none)
    (hM : K.mem = none) (hs : K.s = false) (ht : K.tr = none) (hg : K.g = false) (hp : K.p = false)
    (hr : K.r = none) (segs : List Bytes) (hutf : validUtf8 segs.flatten = true)
    (h0 : segs.flatten ≠ []) (h1 : segs.flatten ≠ [K.eol.byte])
    (bs : List UserBounds) (hplain : K.ubl.list = bs.map .bound)
    (hres : ∀ b ∈ bs, resolve b (records K.eol.byte segs.flatten).length ≠ none)
    (hmark : markLast (mapBounds (complementBound · (records K.eol.byte segs.flatten).length) K.ubl.list) =
      Option.some (K.rewrittenAs t').ubl.list) :
    tucMain regexOk (canonArgv K) segs = tucMain regexOk (canonArgv (K.rewrittenAs t')) segs :=
  tucMain_complement_lines regexOk K t' hK hm hK' hmode he hM hs ht hg hp hr segs hutf h0 h1 hmark
    fun _ => complement_plain_resolves hres (hplain ▸ hmark)

/-- `tuc -f 2 -d : -m` -/
def exCompl : Canon := { mode := .f, bounds := ['2'], d := Option.some [':'], m := true }

theorem exCompl_accepted : exCompl.Accepted (fun _ => true) := .of_accepted (by decide +kernel) rfl rfl

/-- on records of three fields `-m -f 2` is `-f 1,3`: `tuc -f 2 -d : -m` and `tuc -f 1,3 -d :` on
    `a:b:c⏎x:y:z⏎` read in two pieces -/
example :
    tucMain (fun _ => true) (canonArgv exCompl) [[97, 58, 98, 58, 99, 10, 120], [58, 121, 58, 122, 10]] =
      tucMain (fun _ => true) (canonArgv (exCompl.rewrittenAs ['1', ',', '3']))
        [[97, 58, 98, 58, 99, 10, 120], [58, 121, 58, 122, 10]] :=
  tucMain_complement_fields _ exCompl _ exCompl_accepted rfl
    (.of_accepted (by decide +kernel) rfl rfl) (Or.inl rfl) (by decide) rfl rfl 3 _ (by decide +kernel)
    (by decide +kernel)

example :
    canonArgv exCompl = [['-', 'f'], ['2'], ['-', 'd'], [':'], ['-', 'm']] ∧
    canonArgv (exCompl.rewrittenAs ['1', ',', '3']) = [['-', 'f'], ['1', ',', '3'], ['-', 'd'], [':']] ∧
    tucMain (fun _ => true) (canonArgv exCompl) [[97, 58, 98, 58, 99, 10, 120], [58, 121, 58, 122, 10]] =
      .run (Run.ok [97, 99, 10, 120, 122, 10]) := by
  decide +kernel

/-- `tuc -f 1: -d : -m` leaves nothing out -/
def exComplAll : Canon := { mode := .f, bounds := ['1', ':'], d := Option.some [':'], m := true }

/-- … the run fails on the first record, nothing printed -/
example :
    ∃ run, tucMain (fun _ => true) (canonArgv exComplAll) [[97, 58, 98, 10]] = .run run ∧
      run.status = .fail ∧
      ((specRunRecords exComplAll.cfg []).status = .ok →
        run.out = (specRunRecords exComplAll.cfg []).out ++ openBracket exComplAll.cfg) :=
  tucMain_complement_empty_fields (fun _ => true) exComplAll
    (.of_accepted (by decide +kernel) rfl rfl) rfl (Or.inl rfl) (by decide) rfl rfl [[97, 58, 98, 10]]
    [] [] [97, 58, 98] ⟨[97], [(1, [98])]⟩ (by decide +kernel) (by decide +kernel) (by decide +kernel)
    (by decide +kernel)

example : tucMain (fun _ => true) (canonArgv exComplAll) [[97, 58, 98, 10]] = .run Run.fail := by
  decide +kernel

/-- `tuc -l 2 -m` on `a⏎b⏎c⏎` (buffered) is `tuc -l 1,3` (one line at a time) -/
def exComplLines : Canon := { mode := .l, bounds := ['2'], m := true }

example :
    tucMain (fun _ => true) (canonArgv exComplLines) [[97, 10, 98], [10, 99, 10]] =
      tucMain (fun _ => true) (canonArgv (exComplLines.rewrittenAs ['1', ',', '3'])) [[97, 10, 98], [10, 99, 10]] :=
  tucMain_complement_lines_plain _ exComplLines _ (.of_accepted (by decide +kernel) rfl rfl) rfl
    (.of_accepted (by decide +kernel) rfl rfl) rfl rfl rfl rfl rfl rfl rfl rfl _ (by decide +kernel)
    (by decide +kernel) (by decide +kernel) [{ l := .some 2, r := .some 2, isLast := true }]
    (by decide +kernel) (by decide +kernel) (by decide +kernel)

example :
    tucMain (fun _ => true) (canonArgv exComplLines) [[97, 10, 98], [10, 99, 10]] = .run (Run.ok [97, 10, 99, 10]) := by
  decide +kernel

/-! ## 2. C13 at the level of the program -/

theorem Canon.cfg_fallback_none {K : Canon} (hg : K.fallback = none) : K.cfg.fallback = none := by
  show K.fallback.map utf8 = none
  rw [hg]; rfl

/-- **C13 at the level of the program, field mode, no fallback at all ⇒ failure** (`-f` or no mode
    option; general engine and fast lane; with or without `--json`; any of `-g -p -s -t -z -m -j
    --no-join -r`; every input, every read segmentation).  If on the record `r` of the input (tokens
    `tok`, not suppressed by `-s`) the bound `b` of the command line does not resolve, has no
    fallback of its own (`=…`) and there is no `--fallback-oob`, then `tuc` exits with status 1 —
    never a silent success — and, the records before `r` having succeeded, stdout holds the output
    of those records followed by what `r` printed before `b` (after the `[` of `--json`).

    Lifts `readAndCutStr_never_silent` (C13Runs) and `readAndCutFast_never_silent` (C13RunsFast) —
    by their own proof: the run is the specification's (`Canon.Accepted.fields_eq_spec`, engine choice
    inside) and `specRun_fails_at`; `--json` comes along. -/
theorem tucMain_never_silent_fields (regexOk : Arg → Bool) (K : Canon) (hK : K.Accepted regexOk)
    (hmode : K.mode = .f ∨ K.mode = .dflt) (hd : K.d ≠ Option.some []) (he : K.e = none)
    (hM : K.mem = none) (segs : List Bytes) (before after : List Bytes) (r : Bytes)
    (hrec : records K.eol.byte segs.flatten = before ++ r :: after)
    (tok : Tok) (pre post : List BoF) (b : UserBounds) (ht : recordTok K.cfg r = Option.some tok)
    (hs : (K.s && tok.numFields == 1) = false) (hb : K.ubl.list = pre ++ .bound b :: post)
    (h : resolve b tok.numFields = none) (hf : b.fallback = none) (hg : K.fallback = none) :
    ∃ run, tucMain regexOk (canonArgv K) segs = .run run ∧ run.status = .fail ∧
      ((specRunRecords K.cfg before).status = .ok →
        run.out = (specRunRecords K.cfg before).out ++
          (openBracket K.cfg ++ (emitThen K.cfg tok (specSep K.cfg) (specJoiner K.cfg)
            (rewriteList K.cfg tok.numFields pre)).out)) :=
  ⟨_, hK.fields_eq_spec hmode hd he hM segs,
    specRun_fails_at K.cfg segs.flatten before after r hrec tok pre post b ht hs hb h hf
      (K.cfg_fallback_none hg)⟩

/-- **C13 at the level of the program, field mode, a fallback in force ⇒ it is printed at the
    bound's place.**  Same command lines and inputs.  If the bound `b` does not resolve on the record
    `r` and `f` is its own fallback, or it has none and `f` is the value of `--fallback-oob`
    (`fallbackFor`), the run is: the records before `r`; for `r`: what the elements before `b` print,
    then `f` — `emitText`: written verbatim without `--json` (`emitText_verbatim`; as a JSON string
    with it), followed by the joiner if a bound follows — then what the elements after `b` print, the
    EOL; then the records after `r`.  (`rewriteList`: under `-m` / `--json` the elements before and
    after `b` are rewritten, `b` itself stays where it is.)

    Lifts the rule (`general_own_fallback`, `general_generic_fallback`, `fast_rule` of C13, `emit_rule`
    of C13Runs) to the run of the program, via `specRun_at` and `specRecord_fallback_at` (C13Runs). -/
theorem tucMain_fallback_fields (regexOk : Arg → Bool) (K : Canon) (hK : K.Accepted regexOk)
    (hmode : K.mode = .f ∨ K.mode = .dflt) (hd : K.d ≠ Option.some []) (he : K.e = none)
    (hM : K.mem = none) (segs : List Bytes) (before after : List Bytes) (r : Bytes)
    (hrec : records K.eol.byte segs.flatten = before ++ r :: after)
    (tok : Tok) (pre post : List BoF) (b : UserBounds) (f : Bytes)
    (ht : recordTok K.cfg r = Option.some tok)
    (hs : (K.s && tok.numFields == 1) = false) (hb : K.ubl.list = pre ++ .bound b :: post)
    (h : resolve b tok.numFields = none) (hf : fallbackFor (K.fallback.map utf8) b = Option.some f) :
    tucMain regexOk (canonArgv K) segs =
      .run ((specRunRecords K.cfg before).seq
        ((Run.pre (openBracket K.cfg)
            (((emitThen K.cfg tok (specSep K.cfg) (specJoiner K.cfg) (rewriteList K.cfg tok.numFields pre)).seq
                (emitText K.cfg tok (specSep K.cfg) (specJoiner K.cfg) (rewriteList K.cfg tok.numFields post) f)).seq
              (Run.ok (closeBracket K.cfg ++ [K.eol.byte])))).seq
          (specRunRecords K.cfg after))) := by
  rw [hK.fields_eq_spec hmode hd he hM segs, specRun_at K.cfg segs.flatten before after r hrec,
    specRecord_fallback_at K.cfg r tok pre post b f ht hs hb h hf]
  rfl

/-- **C13 at the level of the program, `-M`, no fallback ⇒ failure — for admissible inputs.**  The
    restriction of `stream_never_silent` is kept: `hadm`, no requested closed range straddles the end
    of a record (on such a record `-M` has already written the fields of the range when it finds
    the record too short: the known finding of C03).  Every read segmentation.
    Proved like the field-mode form: `Canon.Accepted.fixedMemory_eq_spec`, then `specRun_fails_at`. -/
theorem tucMain_never_silent_fixedMemory_admissible (regexOk : Arg → Bool) (K : Canon)
    (hK : K.Accepted regexOk) (hM : K.mem.isSome = true) (hst : (flagsOf K.table).streamOk = true)
    (segs : List Bytes)
    (hadm : ∀ r ∈ records K.eol.byte segs.flatten, Admissible K.ubl.list (r.count K.delimiterByte + 1))
    (before after : List Bytes) (r : Bytes)
    (hrec : records K.eol.byte segs.flatten = before ++ r :: after)
    (tok : Tok) (pre post : List BoF) (b : UserBounds) (ht : recordTok K.cfg r = Option.some tok)
    (hs : (K.s && tok.numFields == 1) = false) (hb : K.ubl.list = pre ++ .bound b :: post)
    (h : resolve b tok.numFields = none) (hf : b.fallback = none) (hg : K.fallback = none) :
    ∃ run, tucMain regexOk (canonArgv K) segs = .run run ∧ run.status = .fail ∧
      ((specRunRecords K.cfg before).status = .ok →
        run.out = (specRunRecords K.cfg before).out ++
          (openBracket K.cfg ++ (emitThen K.cfg tok (specSep K.cfg) (specJoiner K.cfg)
            (rewriteList K.cfg tok.numFields pre)).out)) :=
  ⟨_, hK.fixedMemory_eq_spec hM hst segs hadm,
    specRun_fails_at K.cfg segs.flatten before after r hrec tok pre post b ht hs hb h hf
      (K.cfg_fallback_none hg)⟩

/-- **C13 at the level of the program, `-M`, a fallback in force ⇒ printed at the bound's place —
    for admissible inputs** (the restriction: a closed range that straddles the end of a record and
    has a fallback is the known finding — `-M` writes the fields of the range and then fails). -/
theorem tucMain_fallback_fixedMemory_admissible (regexOk : Arg → Bool) (K : Canon)
    (hK : K.Accepted regexOk) (hM : K.mem.isSome = true) (hst : (flagsOf K.table).streamOk = true)
    (segs : List Bytes)
    (hadm : ∀ r ∈ records K.eol.byte segs.flatten, Admissible K.ubl.list (r.count K.delimiterByte + 1))
    (before after : List Bytes) (r : Bytes)
    (hrec : records K.eol.byte segs.flatten = before ++ r :: after)
    (tok : Tok) (pre post : List BoF) (b : UserBounds) (f : Bytes)
    (ht : recordTok K.cfg r = Option.some tok)
    (hs : (K.s && tok.numFields == 1) = false) (hb : K.ubl.list = pre ++ .bound b :: post)
    (h : resolve b tok.numFields = none) (hf : fallbackFor (K.fallback.map utf8) b = Option.some f) :
    tucMain regexOk (canonArgv K) segs =
      .run ((specRunRecords K.cfg before).seq
        ((Run.pre (openBracket K.cfg)
            (((emitThen K.cfg tok (specSep K.cfg) (specJoiner K.cfg) (rewriteList K.cfg tok.numFields pre)).seq
                (emitText K.cfg tok (specSep K.cfg) (specJoiner K.cfg) (rewriteList K.cfg tok.numFields post) f)).seq
              (Run.ok (closeBracket K.cfg ++ [K.eol.byte])))).seq
          (specRunRecords K.cfg after))) := by
  rw [hK.fixedMemory_eq_spec hM hst segs hadm,
    specRun_at K.cfg segs.flatten before after r hrec,
    specRecord_fallback_at K.cfg r tok pre post b f ht hs hb h hf]
  rfl

/-- **C13 at the level of the program, `-l`, no fallback ⇒ failure, whichever algorithm
    `read_and_cut_lines` picks** (buffered or one line at a time; no restriction on the shape of the
    bounds); bounds are resolved against the number of lines of the input.  Hypotheses: the domain of C05 (no
    `-s -t -g -p -r`; valid UTF-8, neither empty nor a lone EOL).
    Lifts `readAndCutLines_never_silent_status` (= `readAndCutLines_never_silent` + `fwd_never_silent`). -/
theorem tucMain_never_silent_lines (regexOk : Arg → Bool) (K : Canon) (hK : K.Accepted regexOk)
    (hmode : K.mode = .l) (he : K.e = none) (hM : K.mem = none) (hs : K.s = false) (ht : K.tr = none)
    (hg : K.g = false) (hp : K.p = false) (hr : K.r = none) (segs : List Bytes)
    (hutf : validUtf8 segs.flatten = true) (h0 : segs.flatten ≠ []) (h1 : segs.flatten ≠ [K.eol.byte])
    (pre post : List BoF) (b : UserBounds) (hb : K.ubl.list = pre ++ .bound b :: post)
    (h : resolve b (records K.eol.byte segs.flatten).length = none) (hf : b.fallback = none)
    (hgen : K.fallback = none) :
    ∃ run, tucMain regexOk (canonArgv K) segs = .run run ∧ run.status = .fail := by
  obtain ⟨hdl, hty, hjson, honly, htrim, hgr, hcp, hrepl⟩ := K.lines_facts_of_noConflict hK.noConflict hmode hs ht hg hp hr
  rw [← K.optOf_bounds] at hb
  exact ⟨_, hK.main_lines hmode he hM segs,
    readAndCutLines_never_silent_status (optOf K.table) segs.flatten hdl hty rfl hjson hK.good.1 hK.good.2 honly
      htrim hgr hcp hrepl hutf h0 h1 pre post b hb h hf (K.cfg_fallback_none hgen)⟩

/-- … and when the buffered algorithm serves the request (`-m`, or bounds that are not
    forward-only), what was written is what the elements before `b` printed.
    The program-level form of `readAndCutLines_never_silent`: `Canon.Accepted.lines_buffered_eq_spec`, then
    `specLines_fails_at`. -/
theorem tucMain_never_silent_lines_buffered (regexOk : Arg → Bool) (K : Canon) (hK : K.Accepted regexOk)
    (hmode : K.mode = .l) (he : K.e = none) (hM : K.mem = none) (hs : K.s = false) (ht : K.tr = none)
    (hg : K.g = false) (hp : K.p = false) (hr : K.r = none)
    (hbuf : K.m = true ∨ isForwardOnly K.ubl.list = false) (segs : List Bytes)
    (hutf : validUtf8 segs.flatten = true) (h0 : segs.flatten ≠ []) (h1 : segs.flatten ≠ [K.eol.byte])
    (pre post : List BoF) (b : UserBounds) (hb : K.ubl.list = pre ++ .bound b :: post)
    (h : resolve b (records K.eol.byte segs.flatten).length = none) (hf : b.fallback = none)
    (hgen : K.fallback = none) :
    tucMain regexOk (canonArgv K) segs =
      .run ⟨(emitThen (linesCfg K.cfg) (linesTok K.eol.byte segs.flatten)
        (fun k => repeatBytes [K.eol.byte] k) [K.eol.byte]
        (rewriteList (linesCfg K.cfg) (records K.eol.byte segs.flatten).length pre)).out, .fail⟩ := by
  rw [hK.lines_buffered_eq_spec hmode he hM hs ht hg hp hr hbuf
    segs hutf, specLines_fails_at K.cfg segs.flatten pre post b h0 h1 hb h hf (K.cfg_fallback_none hgen)]
  rfl

/-- **C13 at the level of the program, `-l` served by the buffered algorithm, a fallback in force ⇒
    printed at the bound's place**: what the elements before `b` print, the fallback text verbatim
    (`emitText_verbatim`: `linesCfg` has no `--json`) followed by the EOL if a bound follows and the
    bounds are joined, what the elements after `b` print, the final EOL.

    The restriction to the buffered algorithm (`hbuf`) is the known one: served one line at a time, a
    closed range that straddles the end of the input and has a fallback prints its lines and fails
    (`lines_straddling_fails`, C13; executed on `-l 1:5=x` at the end of §2, and in the example on
    `hfwd` at the end of C09Runs); and the refinement theorem of that algorithm (C05) is about
    resolvable requests only. -/
theorem tucMain_fallback_lines_buffered (regexOk : Arg → Bool) (K : Canon) (hK : K.Accepted regexOk)
    (hmode : K.mode = .l) (he : K.e = none) (hM : K.mem = none) (hs : K.s = false) (ht : K.tr = none)
    (hg : K.g = false) (hp : K.p = false) (hr : K.r = none)
    (hbuf : K.m = true ∨ isForwardOnly K.ubl.list = false) (segs : List Bytes)
    (hutf : validUtf8 segs.flatten = true) (h0 : segs.flatten ≠ []) (h1 : segs.flatten ≠ [K.eol.byte])
    (pre post : List BoF) (b : UserBounds) (f : Bytes) (hb : K.ubl.list = pre ++ .bound b :: post)
    (h : resolve b (records K.eol.byte segs.flatten).length = none)
    (hf : fallbackFor (K.fallback.map utf8) b = Option.some f) :
    tucMain regexOk (canonArgv K) segs =
      .run (((emitThen (linesCfg K.cfg) (linesTok K.eol.byte segs.flatten)
            (fun k => repeatBytes [K.eol.byte] k) [K.eol.byte]
            (rewriteList (linesCfg K.cfg) (records K.eol.byte segs.flatten).length pre)).seq
          (emitText (linesCfg K.cfg) (linesTok K.eol.byte segs.flatten)
            (fun k => repeatBytes [K.eol.byte] k) [K.eol.byte]
            (rewriteList (linesCfg K.cfg) (records K.eol.byte segs.flatten).length post) f)).seq
        (Run.ok [K.eol.byte])) := by
  rw [hK.lines_buffered_eq_spec hmode he hM hs ht hg hp hr hbuf
    segs hutf, specLines_unresolved K.cfg segs.flatten pre post b h0 h1 hb h,
    emit_fallback_at (linesCfg K.cfg) _ _ _ _ _ b f (linesTok_numFields K.eol.byte segs.flatten h0 ▸ h) hf]
  rfl

/-- **C13 at the level of the program, `-b`, no fallback ⇒ failure**: bounds are resolved against the
    number of bytes of the (non-empty) input, any byte values; stdout holds what the elements before `b` printed.
    The program-level form of `readAndCutBytes_never_silent`: `Canon.Accepted.bytes_eq_spec`, then `specBytes_fails_at`. -/
theorem tucMain_never_silent_bytes (regexOk : Arg → Bool) (K : Canon) (hK : K.Accepted regexOk)
    (hmode : K.mode = .b) (he : K.e = none) (hM : K.mem = none) (segs : List Bytes)
    (hne : segs.flatten ≠ []) (pre post : List BoF) (b : UserBounds)
    (hb : K.ubl.list = pre ++ .bound b :: post) (h : resolve b segs.flatten.length = none)
    (hf : b.fallback = none) (hgen : K.fallback = none) :
    tucMain regexOk (canonArgv K) segs =
      .run ⟨(emitThen { K.cfg with json := false, join := false } (bytesTok segs.flatten) (fun _ => []) []
        pre).out, .fail⟩ := by
  rw [hK.bytes_eq_spec hmode he hM segs,
    specBytes_fails_at K.cfg segs.flatten pre post b hne hb h hf (K.cfg_fallback_none hgen)]

/-- **C13 at the level of the program, `-b`, a fallback in force ⇒ printed verbatim at the bound's
    place** (`bytes_rule` of C13 at the level of the run) -/
theorem tucMain_fallback_bytes (regexOk : Arg → Bool) (K : Canon) (hK : K.Accepted regexOk)
    (hmode : K.mode = .b) (he : K.e = none) (hM : K.mem = none) (segs : List Bytes)
    (hne : segs.flatten ≠ []) (pre post : List BoF) (b : UserBounds) (f : Bytes)
    (hb : K.ubl.list = pre ++ .bound b :: post) (h : resolve b segs.flatten.length = none)
    (hf : fallbackFor (K.fallback.map utf8) b = Option.some f) :
    tucMain regexOk (canonArgv K) segs =
      .run ((emitThen { K.cfg with json := false, join := false } (bytesTok segs.flatten) (fun _ => []) [] pre).seq
        (emitText { K.cfg with json := false, join := false } (bytesTok segs.flatten) (fun _ => []) [] post f)) := by
  obtain ⟨hspec, hn⟩ := specBytes_eq_emit K.cfg segs.flatten hne
  have key := emit_fallback_at { K.cfg with json := false, join := false } (bytesTok segs.flatten) (fun _ => []) []
    pre post b f (hn ▸ h) hf
  rw [← hb] at key
  rw [hK.bytes_eq_spec hmode he hM segs, hspec]
  exact congrArg MainResult.run key

/-! ### Instances of §2, and the two counter-examples (`hbuf` for `-l`, `hadm` for `-M`) -/

/-- `tuc -f 1,5,2 -d :` -/
def exOob : Canon := { mode := .f, bounds := ['1', ',', '5', ',', '2'], d := Option.some [':'] }

/-- on `a:b:c⏎` (read as `a:b` + `:c⏎`) field 5 does not exist and nothing stands in for it: `a` is
    printed, then the run fails -/
example :
    ∃ run, tucMain (fun _ => true) (canonArgv exOob) [[97, 58, 98], [58, 99, 10]] = .run run ∧
      run.status = .fail ∧
      ((specRunRecords exOob.cfg []).status = .ok →
        run.out = (specRunRecords exOob.cfg []).out ++
          (openBracket exOob.cfg ++ (emitThen exOob.cfg ⟨[97], [(1, [98]), (1, [99])]⟩ (specSep exOob.cfg)
            (specJoiner exOob.cfg) (rewriteList exOob.cfg 3 [.bound { l := .some 1, r := .some 1 }])).out)) :=
  tucMain_never_silent_fields _ exOob (.of_accepted (by decide +kernel) rfl rfl) (Or.inl rfl) (by decide) rfl rfl
    _ [] [] [97, 58, 98, 58, 99] (by decide +kernel) ⟨[97], [(1, [98]), (1, [99])]⟩
    [.bound { l := .some 1, r := .some 1 }] [.bound { l := .some 2, r := .some 2, isLast := true }]
    { l := .some 5, r := .some 5 } (by decide +kernel) (by decide +kernel) (by decide +kernel) (by decide +kernel)
    rfl rfl

example : tucMain (fun _ => true) (canonArgv exOob) [[97, 58, 98], [58, 99, 10]] = .run ⟨[97], .fail⟩ := by
  decide +kernel

/-- `tuc -f 1,5=x,2 -d :` prints `x` in the place of field 5: `axb⏎` -/
def exOobOwn : Canon := { exOob with bounds := ['1', ',', '5', '=', 'x', ',', '2'] }

example : tucMain (fun _ => true) (canonArgv exOobOwn) [[97, 58, 98], [58, 99, 10]] = .run (Run.ok [97, 120, 98, 10]) :=
  (tucMain_fallback_fields _ exOobOwn (.of_accepted (by decide +kernel) rfl rfl) (Or.inl rfl) (by decide) rfl rfl
    _ [] [] [97, 58, 98, 58, 99] (by decide +kernel) ⟨[97], [(1, [98]), (1, [99])]⟩
    [.bound { l := .some 1, r := .some 1 }] [.bound { l := .some 2, r := .some 2, isLast := true }]
    { l := .some 5, r := .some 5, fallback := Option.some [120] } [120] (by decide +kernel) (by decide +kernel)
    (by decide +kernel) (by decide +kernel) rfl).trans (by decide +kernel)

/-- `tuc -f 1,5,2 -d : --fallback-oob y -j` prints the generic fallback, joined: `a:y:b⏎` -/
def exOobGen : Canon := { exOob with fallback := Option.some ['y'], j := true }

example : tucMain (fun _ => true) (canonArgv exOobGen) [[97, 58, 98], [58, 99, 10]] =
    .run (Run.ok [97, 58, 121, 58, 98, 10]) :=
  (tucMain_fallback_fields _ exOobGen (.of_accepted (by decide +kernel) rfl rfl) (Or.inl rfl) (by decide) rfl rfl
    _ [] [] [97, 58, 98, 58, 99] (by decide +kernel) ⟨[97], [(1, [98]), (1, [99])]⟩
    [.bound { l := .some 1, r := .some 1 }] [.bound { l := .some 2, r := .some 2, isLast := true }]
    { l := .some 5, r := .some 5 } [121] (by decide +kernel) (by decide +kernel)
    (by decide +kernel) (by decide +kernel) (by decide +kernel)).trans (by decide +kernel)

/-- `tuc -f 1,5 -d : -M 1` on `a:b:c⏎` in pieces of 2 and 4 bytes: `a`, then failure;
    with `-f 1,5=x`: `ax⏎` -/
def exOobMem : Canon := { mode := .f, bounds := ['1', ',', '5'], d := Option.some [':'], mem := Option.some ['1'] }

example :
    ∃ run, tucMain (fun _ => true) (canonArgv exOobMem) [[97, 58], [98, 58, 99, 10]] = .run run ∧
      run.status = .fail ∧
      ((specRunRecords exOobMem.cfg []).status = .ok →
        run.out = (specRunRecords exOobMem.cfg []).out ++
          (openBracket exOobMem.cfg ++ (emitThen exOobMem.cfg ⟨[97], [(1, [98]), (1, [99])]⟩ (specSep exOobMem.cfg)
            (specJoiner exOobMem.cfg) (rewriteList exOobMem.cfg 3 [.bound { l := .some 1, r := .some 1 }])).out)) :=
  tucMain_never_silent_fixedMemory_admissible _ exOobMem (.of_accepted (by decide +kernel) rfl rfl) rfl
    (by decide +kernel) _ (by decide +kernel) [] [] [97, 58, 98, 58, 99] (by decide +kernel)
    ⟨[97], [(1, [98]), (1, [99])]⟩ [.bound { l := .some 1, r := .some 1 }] []
    { l := .some 5, r := .some 5, isLast := true } (by decide +kernel) (by decide +kernel) (by decide +kernel)
    (by decide +kernel) rfl rfl

example :
    tucMain (fun _ => true) (canonArgv exOobMem) [[97, 58], [98, 58, 99, 10]] = .run ⟨[97], .fail⟩ := by
  decide +kernel

example :
    tucMain (fun _ => true) (canonArgv { exOobMem with bounds := ['1', ',', '5', '=', 'x'] }) [[97, 58], [98, 58, 99, 10]] =
      .run (Run.ok [97, 120, 10]) :=
  (tucMain_fallback_fixedMemory_admissible _ { exOobMem with bounds := ['1', ',', '5', '=', 'x'] }
    (.of_accepted (by decide +kernel) rfl rfl) rfl (by decide +kernel) _ (by decide +kernel) [] []
    [97, 58, 98, 58, 99] (by decide +kernel) ⟨[97], [(1, [98]), (1, [99])]⟩
    [.bound { l := .some 1, r := .some 1 }] []
    { l := .some 5, r := .some 5, isLast := true, fallback := Option.some [120] } [120] (by decide +kernel)
    (by decide +kernel) (by decide +kernel) (by decide +kernel) rfl).trans (by decide +kernel)

/-- `tuc -l 1,5` on `a⏎b⏎c⏎` (one line at a time): failure -/
example :
    ∃ run, tucMain (fun _ => true) (canonArgv { mode := .l, bounds := ['1', ',', '5'] }) [[97, 10, 98], [10, 99, 10]] =
      .run run ∧ run.status = .fail :=
  tucMain_never_silent_lines _ { mode := .l, bounds := ['1', ',', '5'] } (.of_accepted (by decide +kernel) rfl rfl)
    rfl rfl rfl rfl rfl rfl rfl rfl _ (by decide +kernel) (by decide +kernel) (by decide +kernel)
    [.bound { l := .some 1, r := .some 1 }] [] { l := .some 5, r := .some 5, isLast := true }
    (by decide +kernel) (by decide +kernel) rfl rfl

/-- `tuc -l 3,5,1` on `a⏎b⏎c⏎` (buffered): `c⏎`, then failure; `tuc -l 3,5=x,1`: `c⏎x⏎a⏎` -/
def exOobLines : Canon := { mode := .l, bounds := ['3', ',', '5', ',', '1'] }

example :
    tucMain (fun _ => true) (canonArgv exOobLines) [[97, 10, 98], [10, 99, 10]] = .run ⟨[99, 10], .fail⟩ :=
  (tucMain_never_silent_lines_buffered _ exOobLines (.of_accepted (by decide +kernel) rfl rfl)
    rfl rfl rfl rfl rfl rfl rfl rfl (Or.inr (by decide +kernel)) _ (by decide +kernel) (by decide +kernel)
    (by decide +kernel) [.bound { l := .some 3, r := .some 3 }]
    [.bound { l := .some 1, r := .some 1, isLast := true }] { l := .some 5, r := .some 5 }
    (by decide +kernel) (by decide +kernel) rfl rfl).trans (by decide +kernel)

example :
    tucMain (fun _ => true) (canonArgv { exOobLines with bounds := ['3', ',', '5', '=', 'x', ',', '1'] })
      [[97, 10, 98], [10, 99, 10]] = .run (Run.ok [99, 10, 120, 10, 97, 10]) :=
  (tucMain_fallback_lines_buffered _ { exOobLines with bounds := ['3', ',', '5', '=', 'x', ',', '1'] }
    (.of_accepted (by decide +kernel) rfl rfl)
    rfl rfl rfl rfl rfl rfl rfl rfl (Or.inr (by decide +kernel)) _ (by decide +kernel) (by decide +kernel)
    (by decide +kernel) [.bound { l := .some 3, r := .some 3 }]
    [.bound { l := .some 1, r := .some 1, isLast := true }]
    { l := .some 5, r := .some 5, fallback := Option.some [120] } [120]
    (by decide +kernel) (by decide +kernel) rfl).trans (by decide +kernel)

/-- `tuc -b 2,9,1` on `00 0A FF`: `0A`, then failure; `tuc -b 2,9=x,1`: `0A 78 00` -/
def exOobBytes : Canon := { mode := .b, bounds := ['2', ',', '9', ',', '1'] }

example : tucMain (fun _ => true) (canonArgv exOobBytes) [[0, 10], [255]] = .run ⟨[10], .fail⟩ :=
  (tucMain_never_silent_bytes _ exOobBytes (.of_accepted (by decide +kernel) rfl rfl) rfl rfl rfl _
    (by decide) [.bound { l := .some 2, r := .some 2 }] [.bound { l := .some 1, r := .some 1, isLast := true }]
    { l := .some 9, r := .some 9 } (by decide +kernel) (by decide +kernel) rfl rfl).trans (by decide +kernel)

example :
    tucMain (fun _ => true) (canonArgv { exOobBytes with bounds := ['2', ',', '9', '=', 'x', ',', '1'] })
      [[0, 10], [255]] = .run (Run.ok [10, 120, 0]) :=
  (tucMain_fallback_bytes _ { exOobBytes with bounds := ['2', ',', '9', '=', 'x', ',', '1'] }
    (.of_accepted (by decide +kernel) rfl rfl) rfl rfl rfl _
    (by decide) [.bound { l := .some 2, r := .some 2 }] [.bound { l := .some 1, r := .some 1, isLast := true }]
    { l := .some 9, r := .some 9, fallback := Option.some [120] } [120] (by decide +kernel) (by decide +kernel)
    rfl).trans (by decide +kernel)

/-- **the restriction of the `-l` fallback theorem is needed** (known finding): `tuc -l 1:5=x` on
    `a⏎b⏎c⏎` is served one line at a time, prints the three lines and fails, although the bound
    `1:5` does not resolve and has a fallback; the buffered algorithm (`-l 1:5=x,1`, not
    forward-only) prints `x⏎a⏎` -/
example :
    tucMain (fun _ => true) (canonArgv { mode := .l, bounds := ['1', ':', '5', '=', 'x'] }) [[97, 10, 98, 10, 99, 10]] =
      .run ⟨[97, 10, 98, 10, 99], .fail⟩ ∧
    tucMain (fun _ => true) (canonArgv { mode := .l, bounds := ['1', ':', '5', '=', 'x', ',', '1'] })
      [[97, 10, 98, 10, 99, 10]] = .run (Run.ok [120, 10, 97, 10]) := by
  decide +kernel

/-- … and the restriction of the `-M` theorems (`hadm`): `tuc -f 1:3=x -d : -M 1` on `a:b⏎` has
    written `a:b` when it finds the record too short, and then adds the fallback: `a:bx⏎`, status 0;
    without `-M` it prints `x⏎` (the specification) -/
example :
    let K : Canon := { mode := .f, bounds := ['1', ':', '3', '=', 'x'], d := Option.some [':'], mem := Option.some ['1'] }
    tucMain (fun _ => true) (canonArgv K) [[97, 58, 98, 10]] = .run (Run.ok [97, 58, 98, 120, 10]) ∧
    tucMain (fun _ => true) (canonArgv { K with mem := none }) [[97, 58, 98, 10]] = .run (Run.ok [120, 10]) := by
  decide +kernel

/-! ## 3. C09 at the level of the program -/

/-- **C09 at the level of the program, field mode** (`-f` or no mode option; general engine and
    fast lane; with or without `--json`; any of `-g -p -s -t -z -m -j --no-join -r --fallback-oob`,
    format text and fallbacks in the bounds).  Let `K` be an accepted canonical command line, `t'`
    another bounds text such that `K` with `t'` is accepted too, and let the bounds `t'` parses to
    be the bounds of `K` with any of its negative indexes `-k` rewritten into `n+1-k`
    (`MirrorList n`; `mirrorBofs n` rewrites them all).  On an input all of whose records have `n`
    fields — in any read segmentation — `tuc` with the one and with the other command line does the
    same: the same bytes on stdout, the same exit status.

    Lifts `specRun_mirror` (C09Runs), the law behind `readAndCutStr_mirror` and
    `readAndCutFast_mirror`, through `Canon.Accepted.fields_eq_spec` (which contains the choice between
    the fast lane and the general engine, C02, and C01 / C08) on both command lines. -/
theorem tucMain_mirror_fields (regexOk : Arg → Bool) (K : Canon) (t' : Arg) (hK : K.Accepted regexOk)
    (hK' : (K.withBounds t').Accepted regexOk) (hmode : K.mode = .f ∨ K.mode = .dflt)
    (hd : K.d ≠ Option.some []) (he : K.e = none) (hM : K.mem = none) (n : Nat) (segs : List Bytes)
    (hn : ∀ r ∈ records K.eol.byte segs.flatten, HasNFields K.cfg n r)
    (hm : MirrorList n K.ubl.list (K.withBounds t').ubl.list) :
    tucMain regexOk (canonArgv (K.withBounds t')) segs = tucMain regexOk (canonArgv K) segs := by
  have hmode' : (K.withBounds t').mode = .f ∨ (K.withBounds t').mode = .dflt :=
    .inl (hmode.elim (congrArg Mode.orF) (congrArg Mode.orF))
  rw [hK.fields_eq_spec hmode hd he hM, hK'.fields_eq_spec hmode' hd he hM]
  exact congrArg MainResult.run (specRun_mirror (K.sameButBofs_withBounds t') n segs.flatten hn hm)

/-- **C09 at the level of the program, `-l`.**  The mirror is taken at the number of lines of the input.  The
    command line with the negative index is served by the buffered algorithm, the rewritten one
    possibly one line at a time.  Hypotheses: those of `readAndCutLines_mirror` (the domain of C05:
    no `-s -t -g -p -r`, valid UTF-8, neither empty nor a lone EOL; `hfwd`: if the rewritten request
    is served one line at a time it is a plain list of bounds that resolve — see the example on
    `hfwd` at the end of C09Runs for what happens otherwise).  The program-level form of
    `readAndCutLines_mirror`: `Canon.Accepted.lines_eq_spec` on both command lines (`MirrorList.forwardOnly_domain`
    for `hfwd` on the original one), then `specLines_mirror`. -/
theorem tucMain_mirror_lines (regexOk : Arg → Bool) (K : Canon) (t' : Arg) (hK : K.Accepted regexOk)
    (hK' : (K.withBounds t').Accepted regexOk) (hmode : K.mode = .l) (he : K.e = none)
    (hM : K.mem = none) (hs : K.s = false) (ht : K.tr = none) (hg : K.g = false) (hp : K.p = false)
    (hr : K.r = none) (segs : List Bytes) (hutf : validUtf8 segs.flatten = true)
    (h0 : segs.flatten ≠ []) (h1 : segs.flatten ≠ [K.eol.byte])
    (hm : MirrorList (records K.eol.byte segs.flatten).length K.ubl.list (K.withBounds t').ubl.list)
    (hfwd : K.m = false → isForwardOnly (K.withBounds t').ubl.list = true →
      ∃ bs : List UserBounds, (K.withBounds t').ubl.list = bs.map .bound ∧
        ∀ b ∈ bs, resolve b (records K.eol.byte segs.flatten).length ≠ none) :
    tucMain regexOk (canonArgv (K.withBounds t')) segs = tucMain regexOk (canonArgv K) segs := by
  have hmode' : (K.withBounds t').mode = .l := congrArg Mode.orF hmode
  rw [hK'.lines_eq_spec hmode' he hM hs ht hg hp hr segs hutf
      h0 h1 hfwd,
    hK.lines_eq_spec hmode he hM hs ht hg hp hr segs hutf
      h0 h1 (hm.forwardOnly_domain hfwd)]
  exact congrArg MainResult.run (specLines_mirror (K.sameButBofs_withBounds t') segs.flatten hm)

/-- **C09 at the level of the program, `-b`.**  The mirror is taken at the number of bytes of the input;
    no side condition.  The program-level form of `readAndCutBytes_mirror`: `Canon.Accepted.bytes_eq_spec` on both
    command lines, then `specBytes_mirror`. -/
theorem tucMain_mirror_bytes (regexOk : Arg → Bool) (K : Canon) (t' : Arg) (hK : K.Accepted regexOk)
    (hK' : (K.withBounds t').Accepted regexOk) (hmode : K.mode = .b) (he : K.e = none)
    (hM : K.mem = none) (segs : List Bytes)
    (hm : MirrorList segs.flatten.length K.ubl.list (K.withBounds t').ubl.list) :
    tucMain regexOk (canonArgv (K.withBounds t')) segs = tucMain regexOk (canonArgv K) segs := by
  have hmode' : (K.withBounds t').mode = .b := congrArg Mode.orF hmode
  rw [hK.bytes_eq_spec hmode he hM,
    hK'.bytes_eq_spec hmode' he hM]
  exact congrArg MainResult.run (specBytes_mirror (K.sameButBofs_withBounds t') segs.flatten hm)

/-- `tuc -f 2,-1 -d :` -/
def exMirror : Canon := { mode := .f, bounds := ['2', ',', '-', '1'], d := Option.some [':'] }

theorem exMirror_accepted : exMirror.Accepted (fun _ => true) := .of_accepted (by decide +kernel) rfl rfl

/-- on records of three fields `-f 2,-1` is `-f 2,3` (fast lane; the first scans whole records, the
    second stops after field 3) -/
example :
    tucMain (fun _ => true) (canonArgv (exMirror.withBounds ['2', ',', '3']))
        [[97, 58, 98, 58, 99, 10, 120], [58, 121, 58, 122, 10]] =
      tucMain (fun _ => true) (canonArgv exMirror) [[97, 58, 98, 58, 99, 10, 120], [58, 121, 58, 122, 10]] :=
  tucMain_mirror_fields _ exMirror _ exMirror_accepted
    (.of_accepted (by decide +kernel) rfl rfl) (Or.inl rfl) (by decide) rfl rfl 3 _ (by decide +kernel)
    (.of_eq (by decide +kernel))

example :
    canonArgv exMirror = [['-', 'f'], ['2', ',', '-', '1'], ['-', 'd'], [':']] ∧
    canonArgv (exMirror.withBounds ['2', ',', '3']) = [['-', 'f'], ['2', ',', '3'], ['-', 'd'], [':']] ∧
    tucMain (fun _ => true) (canonArgv exMirror) [[97, 58, 98, 58, 99, 10, 120], [58, 121, 58, 122, 10]] =
      .run (Run.ok [98, 99, 10, 121, 122, 10]) := by
  decide +kernel

/-- the same with `-g --json` (general engine; `["b","c"]`) -/
example :
    let K : Canon := { exMirror with g := true, json := true }
    tucMain (fun _ => true) (canonArgv (K.withBounds ['2', ',', '3'])) [[97, 58, 58, 98, 58, 99, 10]] =
      tucMain (fun _ => true) (canonArgv K) [[97, 58, 58, 98, 58, 99, 10]] :=
  tucMain_mirror_fields _ { exMirror with g := true, json := true } _ (.of_accepted (by decide +kernel) rfl rfl)
    (.of_accepted (by decide +kernel) rfl rfl) (Or.inl rfl) (by decide) rfl rfl 3 _ (by decide +kernel)
    (.of_eq (by decide +kernel))

/-- `tuc -l 1,-1` (buffered) and `tuc -l 1,3` (one line at a time) on `a⏎b⏎c⏎` -/
def exMirrorLines : Canon := { mode := .l, bounds := ['1', ',', '-', '1'] }

theorem exMirrorLines_accepted : exMirrorLines.Accepted (fun _ => true) :=
  .of_accepted (by decide +kernel) rfl rfl

example :
    tucMain (fun _ => true) (canonArgv (exMirrorLines.withBounds ['1', ',', '3'])) [[97, 10, 98], [10, 99, 10]] =
      tucMain (fun _ => true) (canonArgv exMirrorLines) [[97, 10, 98], [10, 99, 10]] :=
  tucMain_mirror_lines _ exMirrorLines _ exMirrorLines_accepted
    (.of_accepted (by decide +kernel) rfl rfl) rfl rfl rfl rfl rfl rfl rfl rfl _ (by decide +kernel)
    (by decide +kernel) (by decide +kernel)
    (.of_eq (by decide +kernel))
    (fun _ _ => ⟨[{ l := .some 1, r := .some 1 }, { l := .some 3, r := .some 3, isLast := true }],
      by decide +kernel, by decide +kernel⟩)

example :
    tucMain (fun _ => true) (canonArgv exMirrorLines) [[97, 10, 98], [10, 99, 10]] = .run (Run.ok [97, 10, 99, 10]) ∧
    isForwardOnly exMirrorLines.ubl.list = false ∧
    isForwardOnly (exMirrorLines.withBounds ['1', ',', '3']).ubl.list = true := by
  decide +kernel

/-- `tuc -b 1,-1` and `tuc -b 1,4` on the bytes `FF 00 0A 61` -/
def exMirrorBytes : Canon := { mode := .b, bounds := ['1', ',', '-', '1'] }

theorem exMirrorBytes_accepted : exMirrorBytes.Accepted (fun _ => true) :=
  .of_accepted (by decide +kernel) rfl rfl

example :
    tucMain (fun _ => true) (canonArgv (exMirrorBytes.withBounds ['1', ',', '4'])) [[0xFF, 0], [10, 97]] =
      tucMain (fun _ => true) (canonArgv exMirrorBytes) [[0xFF, 0], [10, 97]] :=
  tucMain_mirror_bytes _ exMirrorBytes _ exMirrorBytes_accepted
    (.of_accepted (by decide +kernel) rfl rfl) rfl rfl rfl _
    (.of_eq (by decide +kernel))

example : tucMain (fun _ => true) (canonArgv exMirrorBytes) [[0xFF, 0], [10, 97]] = .run (Run.ok [0xFF, 97]) := by
  decide +kernel

/-- **`-M` is outside C09**: `StreamOpt::try_from` refuses negative indexes, so
    `tuc -f 1,-1 -d : -M 1` is rejected up front while its mirror `tuc -f 1,3 -d : -M 1` runs -/
example :
    let K : Canon := { mode := .f, bounds := ['1', ',', '-', '1'], d := Option.some [':'], mem := Option.some ['1'] }
    K.accepted = true ∧ (K.withBounds ['1', ',', '3']).accepted = true ∧
    (K.withBounds ['1', ',', '3']).ubl.list = mirrorBofs 3 K.ubl.list ∧
    tucMain (fun _ => true) (canonArgv K) [[97, 58, 98, 58, 99, 10]] = .reject ∧
    tucMain (fun _ => true) (canonArgv (K.withBounds ['1', ',', '3'])) [[97, 58, 98, 58, 99, 10]] =
      .run (Run.ok [97, 99, 10]) := by
  decide +kernel

/-! ## 4. C09 and C15 with the second command line computed from the first -/

theorem Canon.Accepted.withM_printed {regexOk : Arg → Bool} {K : Canon} (hK : K.Accepted regexOk) (b : Bool)
    (l : List BoF) (hp : printableListB l = true) (hL : LastMarked l) (hdash : noDash (boundsToText l) = true) :
    ((K.withM b).withBounds (boundsToText l)).Accepted regexOk ∧
      ((K.withM b).withBounds (boundsToText l)).ubl.list = l := by
  have hpl := printableList_of_B hp
  obtain ⟨li, h⟩ := boundsListOfString_boundsToText l hpl hL
  refine ⟨hK.withM_withBounds b _ hdash _ h (printableList_noFiller hpl), ?_⟩
  unfold Canon.ubl
  rw [Canon.withBounds_boundsText, h]

/-- **the mirrored command line**: `K` with the bounds text replaced by the text of its bounds with
    every negative index that designates one of `n` parts turned into the positive one -/
def Canon.mirrored (K : Canon) (n : Nat) : Canon := K.withBounds (boundsToText (mirrorBofs n K.ubl.list))

/-- `hdash` excludes an index below `-n` in first position, which stays negative -/
theorem Canon.Accepted.mirrored_eq {regexOk : Arg → Bool} {K : Canon} (hK : K.Accepted regexOk) (n : Nat)
    (hp : printableListB (mirrorBofs n K.ubl.list) = true)
    (hdash : noDash (boundsToText (mirrorBofs n K.ubl.list)) = true) :
    (K.mirrored n).Accepted regexOk ∧ (K.mirrored n).ubl.list = mirrorBofs n K.ubl.list := by
  have h := hK.withM_printed K.m _ hp
    ((mirrorBofs_mirrorList n K.ubl.list).lastMarked (K.optOf_bounds ▸ hK.good.2)) hdash
  rw [K.withM_self] at h
  exact h

/-- … with the conclusion in the form `tucMain_mirror_fields` / `_bytes` ask for: the two bounds
    lists are related by `MirrorList n` -/
theorem Canon.Accepted.mirrored {regexOk : Arg → Bool} {K : Canon} (hK : K.Accepted regexOk) (n : Nat)
    (hp : printableListB (mirrorBofs n K.ubl.list) = true)
    (hdash : noDash (boundsToText (mirrorBofs n K.ubl.list)) = true) :
    (K.mirrored n).Accepted regexOk ∧ MirrorList n K.ubl.list (K.mirrored n).ubl.list := by
  have h := hK.mirrored_eq n hp hdash
  exact ⟨h.1, .of_eq h.2⟩

/-- **C09 at the level of the program, field mode, the mirrored command line computed**
    (`hp`, `hdash`: the mirrored list can be printed and its text does not start with `-`, see
    `Canon.Accepted.mirrored_eq`) -/
theorem tucMain_mirrored_fields (regexOk : Arg → Bool) (K : Canon) (hK : K.Accepted regexOk)
    (hmode : K.mode = .f ∨ K.mode = .dflt) (hd : K.d ≠ Option.some []) (he : K.e = none) (hM : K.mem = none)
    (n : Nat) (hp : printableListB (mirrorBofs n K.ubl.list) = true)
    (hdash : noDash (boundsToText (mirrorBofs n K.ubl.list)) = true) (segs : List Bytes)
    (hn : ∀ r ∈ records K.eol.byte segs.flatten, HasNFields K.cfg n r) :
    tucMain regexOk (canonArgv (K.mirrored n)) segs = tucMain regexOk (canonArgv K) segs :=
  have h := hK.mirrored n hp hdash
  tucMain_mirror_fields regexOk K _ hK h.1 hmode hd he hM n segs hn h.2

/-- **C09 at the level of the program, `-b`, the mirrored command line computed**
    (mirrored at the number of bytes of the input) -/
theorem tucMain_mirrored_bytes (regexOk : Arg → Bool) (K : Canon) (hK : K.Accepted regexOk)
    (hmode : K.mode = .b) (he : K.e = none) (hM : K.mem = none) (segs : List Bytes)
    (hp : printableListB (mirrorBofs segs.flatten.length K.ubl.list) = true)
    (hdash : noDash (boundsToText (mirrorBofs segs.flatten.length K.ubl.list)) = true) :
    tucMain regexOk (canonArgv (K.mirrored segs.flatten.length)) segs = tucMain regexOk (canonArgv K) segs :=
  have h := hK.mirrored segs.flatten.length hp hdash
  tucMain_mirror_bytes regexOk K _ hK h.1 hmode he hM segs h.2

/-- **C09 at the level of the program, `-l`, the mirrored command line computed** (mirrored at the
    number of lines; `hres`: every mirrored bound resolves, which discharges `hfwd`) -/
theorem tucMain_mirrored_lines (regexOk : Arg → Bool) (K : Canon) (hK : K.Accepted regexOk)
    (hmode : K.mode = .l) (he : K.e = none) (hM : K.mem = none) (hs : K.s = false) (ht : K.tr = none)
    (hg : K.g = false) (hp : K.p = false) (hr : K.r = none) (segs : List Bytes)
    (hutf : validUtf8 segs.flatten = true) (h0 : segs.flatten ≠ []) (h1 : segs.flatten ≠ [K.eol.byte])
    (hpr : printableListB (mirrorBofs (records K.eol.byte segs.flatten).length K.ubl.list) = true)
    (hdash : noDash (boundsToText (mirrorBofs (records K.eol.byte segs.flatten).length K.ubl.list)) = true)
    (hres : ∀ b ∈ boundsOnly (mirrorBofs (records K.eol.byte segs.flatten).length K.ubl.list),
      resolve b (records K.eol.byte segs.flatten).length ≠ none) :
    tucMain regexOk (canonArgv (K.mirrored (records K.eol.byte segs.flatten).length)) segs =
      tucMain regexOk (canonArgv K) segs := by
  have h := hK.mirrored_eq _ hpr hdash
  refine tucMain_mirror_lines regexOk K _ hK h.1 hmode he hM hs ht hg hp hr segs hutf h0 h1 (.of_eq h.2)
    (fun _ _ => ⟨_, h.2.trans (printableList_of_B hpr).eq_map, hres⟩)

/-- **C15 at the level of the program, field mode, the rewritten command line computed**: `rw` is the
    rewritten list (`hmark`), printed by `boundsToText` -/
theorem tucMain_complement_fields_printed (regexOk : Arg → Bool) (K : Canon) (hK : K.Accepted regexOk)
    (hm : K.m = true) (hmode : K.mode = .f ∨ K.mode = .dflt) (hd : K.d ≠ Option.some []) (he : K.e = none)
    (hM : K.mem = none) (n : Nat) (rw : List BoF)
    (hmark : markLast (mapBounds (complementBound · n) K.ubl.list) = Option.some rw)
    (hp : printableListB rw = true) (hdash : noDash (boundsToText rw) = true) (segs : List Bytes)
    (hn : ∀ r ∈ records K.eol.byte segs.flatten, HasNFields K.cfg n r) :
    tucMain regexOk (canonArgv K) segs = tucMain regexOk (canonArgv (K.rewrittenAs (boundsToText rw))) segs := by
  obtain ⟨hK', h2⟩ := hK.withM_printed false rw hp
    (markLast_lastMarked _ _ (mapBounds_complement_noneMarked n _) hmark) hdash
  exact tucMain_complement_fields regexOk K _ hK hm hK' hmode hd he hM n segs hn
    (hmark.trans (congrArg Option.some h2.symm))

/-- `tuc -f 2,-1 -d :` mirrored for three fields is `tuc -f 2,3 -d :` -/
example : canonArgv (exMirror.mirrored 3) = [['-', 'f'], ['2', ',', '3'], ['-', 'd'], [':']] := by decide +kernel

example :
    tucMain (fun _ => true) (canonArgv (exMirror.mirrored 3)) [[97, 58, 98, 58, 99, 10, 120], [58, 121, 58, 122, 10]] =
      tucMain (fun _ => true) (canonArgv exMirror) [[97, 58, 98, 58, 99, 10, 120], [58, 121, 58, 122, 10]] :=
  tucMain_mirrored_fields _ exMirror exMirror_accepted (Or.inl rfl) (by decide) rfl rfl 3
    (by decide +kernel) (by decide +kernel) _ (by decide +kernel)

/-- `tuc -l 1,-1` mirrored for three lines is `tuc -l 1,3`; `tuc -b 1,-1` for four bytes `tuc -b 1,4` -/
example :
    canonArgv (exMirrorLines.mirrored 3) = [['-', 'l'], ['1', ',', '3']] ∧
    canonArgv (exMirrorBytes.mirrored 4) = [['-', 'b'], ['1', ',', '4']] := by decide +kernel

example :
    tucMain (fun _ => true)
        (canonArgv (exMirrorLines.mirrored (records exMirrorLines.eol.byte [[97, 10, 98], [10, 99, 10]].flatten).length))
        [[97, 10, 98], [10, 99, 10]] =
      tucMain (fun _ => true) (canonArgv exMirrorLines) [[97, 10, 98], [10, 99, 10]] :=
  tucMain_mirrored_lines _ exMirrorLines exMirrorLines_accepted rfl rfl rfl rfl rfl rfl rfl rfl _
    (by decide +kernel) (by decide +kernel) (by decide +kernel) (by decide +kernel) (by decide +kernel)
    (by decide +kernel)

example :
    tucMain (fun _ => true) (canonArgv (exMirrorBytes.mirrored [[0xFF, 0], [10, 97]].flatten.length)) [[0xFF, 0], [10, 97]] =
      tucMain (fun _ => true) (canonArgv exMirrorBytes) [[0xFF, 0], [10, 97]] :=
  tucMain_mirrored_bytes _ exMirrorBytes exMirrorBytes_accepted rfl rfl rfl [[0xFF, 0], [10, 97]]
    (by decide +kernel) (by decide +kernel)

/-- `tuc -f 2 -d : -m` for three fields is `tuc -f 1,3 -d :`, the text computed from the rewritten list -/
example :
    tucMain (fun _ => true) (canonArgv exCompl) [[97, 58, 98, 58, 99, 10, 120], [58, 121, 58, 122, 10]] =
      tucMain (fun _ => true)
        (canonArgv (exCompl.rewrittenAs (boundsToText
          [.bound { l := .some 1, r := .some 1 }, .bound { l := .some 3, r := .some 3, isLast := true }])))
        [[97, 58, 98, 58, 99, 10, 120], [58, 121, 58, 122, 10]] :=
  tucMain_complement_fields_printed _ exCompl exCompl_accepted rfl (Or.inl rfl) (by decide)
    rfl rfl 3 _ (by decide +kernel) (by decide +kernel) (by decide +kernel) _ (by decide +kernel)

example :
    canonArgv (exCompl.rewrittenAs (boundsToText
      [.bound { l := .some 1, r := .some 1 }, .bound { l := .some 3, r := .some 3, isLast := true }])) =
    [['-', 'f'], ['1', ',', '3'], ['-', 'd'], [':']] := by decide +kernel

/-- a mirrored list that cannot be printed: `-2:3` on five fields would be `4:3`, which
    `UserBounds::from_str` refuses (`tuc -f 4:3` is rejected) — both select nothing -/
example :
    printableListB (mirrorBofs 5 [.bound { l := .some (-2), r := .some 3, isLast := true }]) = false ∧
    tucMain (fun _ => true) (canonArgv { mode := .f, bounds := ['4', ':', '3'] }) [] = .reject := by
  decide +kernel

end Tuc
