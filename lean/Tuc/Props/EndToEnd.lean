import Tuc.Model.Main
import Tuc.Props.C19
import Tuc.Props.C19Argv
import Tuc.Props.C02
import Tuc.Props.C03Parsed
import Tuc.Props.C05Buffered
import Tuc.Props.C06
import Tuc.Props.C07Spec
/-!
# End to end — from the argument vector to the abstract specification

`tucMain regexOk argv segs` (`Tuc.Model.Main`) is `main` of `src/bin/tuc.rs`: `parseArgv` (pico_args
+ `parse_args`), the regex bag, `dispatch` on a stdin that delivers `segs.flatten` in the pieces
`segs`.  It is the very function the driver's case kind `argv` prints and `tool/argv_diff.py`
compares with the real binary.  Here, for the canonical command line `canonArgv K` of a record `K`
of options (`Canon`: each option at most once, first key, value as a separate argument, values not
starting with `-`) with `K.accepted` (decidable: values parse, no conflict decided in
`parse_args`), the request is `K.cfg : Spec.Cfg` in closed form and, mode by mode (`-f` with or
without `--json`, `-M`, `-b`, `-c`, `-l`), what `tuc` writes to stdout and its exit status are the
specification's run of that request; and `tuc` rejects up front iff the option set is one of C19's
conflicts (`tuc_reject_iff_conflict`).

In every theorem the bounds hypotheses of the engine theorems (no index 0, `is_last` on the last
bound, no two fillers in a row, well-formed ranges) are discharged from "the bounds text parses"
(`boundsListOfString_good`, Lemmas/CutStrSpec), and the conclusion is an equation
between `MainResult`s: `.run r` with `r : Run` = the bytes on stdout AND the exit status.

Hypotheses kept because no canonical command line guarantees them: `-d` is not the empty string (C01), `-l` without
`-s -t -g -p -r` (C05: `parse_args` accepts them, `cut_lines` obeys them, `specLines` ignores
them), the input-side hypotheses of C03 (`Admissible`), C05 (valid UTF-8; forward-only requests:
no format text, resolvable, input not empty) and C07 (valid UTF-8).  The end of the file has a
kernel-checked counter-example for `hd` (`-d ''`), `hr` (`-l` with `-r`), `h0` (the empty input),
the "no format text" half of `hfwd` and `hadm`.  The remaining ones are needed too, without an
example here: `tuc -l 1,1` on a lone LF prints two LFs where `specLines` says one (`h1`);
`tuc -l 1:5` on `a⏎b⏎c⏎` prints the three lines and fails where `specLines` fails having written
nothing (the "resolvable" half of `hfwd`; executed with a fallback at the end of MainLevel2 §2); `tuc -l 1`
on `FF 0A` fails having written nothing where `specLines` prints the two bytes (`hutf` of both
`-l` theorems); with `-c`, input that is not UTF-8 is `unmodelled`.  `regexOk "\\b|\\B"` is asked
in every mode only because `Sensible` (C19Argv) bundles it.

Outside: every NON-canonical spelling pico_args accepts (`-d:`, `--delimiter=:`, clusters `-gp`,
repeated options, values that look like options such as `-d -` or `-l -1`, `-h`/`-V`) — covered
only by the differential test of the argv model (`tool/argv_diff.py`), not by a theorem
(at the argv layer alone, bounds values that start with `-` are: `parseArgv_canonB` of C19Argv);
`-e RE` (regex delimiters: `Re.parse` goes through the `partial def`s `Re.parseAlt` / `parseSeq` /
`parseAtom`, so nothing can be proved about it; C16 is per-record); read and write
faults, short writes and the `BufWriter` (C12/C14: `deliver`, `dispatchReadFault`, not part of
`tucMain`); argv that is not UTF-8; the regex engine's verdict `regexOk`.
-/
namespace Tuc
open Tuc.Spec

/-- the bounds of `K` as `UserBoundsList::from_str` parses them; the empty list when the text does
    not parse, which acceptance excludes (`Canon.Accepted.parsed`) -/
def Canon.ubl (K : Canon) : UserBoundsList :=
  match boundsListOfString K.boundsText with
  | .ok l => l
  | _ => ⟨[], .cont⟩

/-- **the specification's request (`Cfg`) of the command line `canonArgv K`**: `cfgOf` (Spec/Record) of the
    `Opt` that `parse_args` builds, written on `K` (`Canon.cfgOf_optOf`).  `replace` and `join` are the two
    `let`s of `parse_args` (`replaceDelimiter`, `join` of `parseWith`, Model/Argv; tuc.rs:163–175); `compress` is
    `-p` in the modes where `cfgOf` keeps it -/
def Canon.cfg (K : Canon) : Cfg :=
  { delimiter := K.delimiter
    eol := K.eol.byte
    bofs := K.ubl.list
    chars := decide (K.mode = .c)
    onlyDelimited := K.s
    greedy := K.g
    compress := K.p && (decide (K.mode = .f) || decide (K.mode = .dflt) || decide (K.mode = .l))
    replace := if K.json = true then Option.some [44] else if K.mode = .c then Option.some [] else K.r.map utf8
    trim := K.tr.bind fun v => (trimArg v).toOption
    complement := K.m
    join := K.j || K.json || K.r.isSome || (decide (K.mode = .l) && !K.noJoin) || decide (K.mode = .c)
    json := K.json
    fallback := K.fallback.map utf8 }

theorem Canon.table_bounds (K : Canon) : K.table.bounds = K.ubl := by
  simp only [Table.bounds, Canon.ubl, Canon.table_boundsText]
  cases boundsListOfString K.boundsText <;> rfl

theorem Canon.cfgOf_optOf (K : Canon) (bag : Option RegexBag) :
    cfgOf { optOf K.table with regexBag := bag } = K.cfg := by
  simp only [cfgOf, optOf, Canon.cfg, Canon.delimiter, K.table_mode, K.table_bounds]
  cases K.mode <;> rfl

theorem Canon.Accepted.main {regexOk : Arg → Bool} {K : Canon} (h : K.Accepted regexOk)
    (segs : List Bytes) :
    tucMain regexOk (canonArgv K) segs =
      tucRun (optOf K.table) K.table.memKb.isSome K.table.regexText segs := by
  unfold tucMain
  rw [h.parse]

/-- the general path is the specification (`fields_run_eq_spec`: C01, and C08 with `--json`, are one
    theorem), and so is the fast lane when `main` picks it (C02) -/
theorem dispatch_fields_eq_spec (o : Opt) (arg : Arg) (hparse : boundsListOfString arg = .ok o.bounds)
    (hd : o.delimiter ≠ []) (hre : o.regexBag = none) (hty : o.boundsType = .fields) (segs : List Bytes) :
    dispatch o false segs = Option.some (specRun (cfgOf o) segs.flatten) := by
  have hg := boundsListOfString_good arg o.bounds hparse
  have hstr := fields_run_eq_spec o segs.flatten hd hre (Or.inl hty) hg.1 hg.2
  unfold dispatch
  simp only [Bool.false_eq_true, if_false, hty, reduceCtorEq]
  cases hf : fastOptOf o with
  | none => simp only [hstr]
  | some fo =>
    obtain ⟨l, _, hl⟩ := parsed_fromVec arg o.bounds hparse
    simp only [readAndCutFast_eq_readAndCutStr o fo hf l hl hg.1, hstr]

theorem Canon.optOf_bounds (K : Canon) : (optOf K.table).bounds = K.ubl := K.table_bounds

theorem Canon.optOf_cfg (K : Canon) : cfgOf (optOf K.table) = K.cfg := K.cfgOf_optOf none

theorem Canon.memKb_none (K : Canon) (hM : K.mem = none) : K.table.memKb = none := by
  show (K.mem.bind fun v => (usizeArg v).toOption) = none
  rw [hM]; rfl

theorem Canon.memKb_isSome (K : Canon) (hK : K.accepted = true) (hM : K.mem.isSome = true) :
    K.table.memKb.isSome = true := by
  obtain ⟨v, hv⟩ := Option.isSome_iff_exists.mp hM
  obtain ⟨n, hn⟩ := Option.isSome_iff_exists.mp ((K.valuesOk_parts (K.accepted_parts hK).2.2.1).2.1 v hv)
  show (K.mem.bind fun v => (usizeArg v).toOption).isSome = true
  rw [hv, Option.bind_some, usizeArg, hn]
  rfl

theorem utf8EncodeChar_ne_nil (c : Char) : String.utf8EncodeChar c ≠ [] :=
  List.ne_nil_of_length_pos (String.length_utf8EncodeChar c ▸ c.utf8Size_pos)

theorem utf8_ne_nil {x : Arg} (h : x ≠ []) : utf8 x ≠ [] := by
  cases x with
  | nil => exact absurd rfl h
  | cons c t =>
    have := utf8EncodeChar_ne_nil c
    simp [utf8, this]

theorem Canon.fields_delimiter_ne_nil (K : Canon) (hmode : K.mode = .f ∨ K.mode = .dflt)
    (hd : K.d ≠ Option.some []) : (optOf K.table).delimiter ≠ [] := by
  rw [K.optOf_delimiter]
  unfold Canon.delimiter
  cases hdd : K.d with
  | none => rcases hmode with h | h <;> simp [h]
  | some x =>
    have hx : x ≠ [] := by intro hx; rw [hx] at hdd; exact hd hdd
    rcases hmode with h | h <;> simp [h, utf8_ne_nil hx]

theorem Canon.parsed (K : Canon) (h : (boundsListOfString K.boundsText).isOk = true) :
    boundsListOfString K.boundsText = .ok K.ubl := by
  have := Table.bounds_eq (t := K.table) (by rw [K.table_boundsText]; exact h)
  rwa [K.table_boundsText, K.table_bounds] at this

/-- the bounds text of an accepted command line parses to `K.ubl` -/
theorem Canon.Accepted.parsed {regexOk : Arg → Bool} {K : Canon} (h : K.Accepted regexOk) :
    boundsListOfString K.boundsText = .ok K.ubl := by
  have := h.sensible.bounds
  rw [K.table_boundsText] at this
  exact K.parsed this

theorem Canon.Accepted.parsed' {regexOk : Arg → Bool} {K : Canon} (h : K.Accepted regexOk) :
    boundsListOfString K.boundsText = .ok (optOf K.table).bounds := by
  rw [K.optOf_bounds]; exact h.parsed

theorem Canon.Accepted.good {regexOk : Arg → Bool} {K : Canon} (h : K.Accepted regexOk) :
    AllNonzero (optOf K.table).bounds.list ∧ LastMarked (optOf K.table).bounds.list :=
  boundsListOfString_good _ _ h.parsed'

theorem Canon.noConflict_facts (K : Canon) (h : upFrontReject (flagsOf K.table) = false) :
    (K.json = true → K.mode ≠ .b ∧ K.mode ≠ .l) ∧ (K.mode = .c → K.e = none) := by
  have hm : (flagsOf K.table).mode = K.mode := K.table_mode
  refine ⟨fun hjs => ?_, fun hc => ?_⟩
  · have := upFrontReject_json h hjs
    rw [Flags.isFields, hm] at this
    constructor <;> intro hmd <;> simp [hmd] at this
  · cases he : K.e with
    | none => rfl
    | some v => exact absurd (hm.trans hc) (upFrontReject_e h (show K.e.isSome = true by rw [he]; rfl))

theorem tucRun_plain (o : Opt) (fm : Bool) (segs : List Bytes) (hbt : o.boundsType ≠ .characters)
    (hbag : o.regexBag = none) :
    tucRun o fm none segs = MainResult.ofDispatch (dispatch o fm segs) := by
  have ho : { o with regexBag := none } = o := by
    cases o; simp only at hbag; subst hbag; rfl
  simp only [tucRun, compileBag, hbt, if_false, ho, decide_false, Bool.false_and, Bool.false_eq_true]

theorem tucRun_chars (o : Opt) (fm : Bool) (re : Option Arg) (segs : List Bytes)
    (hbt : o.boundsType = .characters) :
    tucRun o fm re segs =
      if validUtf8 segs.flatten = true then
        MainResult.ofDispatch (dispatch { o with regexBag := Option.some charsBag } fm segs)
      else .unmodelled := by
  simp only [tucRun, compileBag, hbt, if_true]
  cases validUtf8 segs.flatten <;> simp

theorem Canon.compileBag_noRegex (K : Canon) (he : K.e = none) :
    compileBag (optOf K.table) K.table.regexText =
      Option.some (K.table.regexText.map fun _ => charsBag) := by
  unfold compileBag
  rw [K.optOf_boundsType]
  by_cases hc : K.mode = .c
  · rw [if_pos (by rw [hc]; rfl), show K.table.regexText = Option.some charsRegexText by
      unfold Table.regexText; rw [K.table_mode, if_pos hc]]
    rfl
  · rw [if_neg (mt boundsTypeOf_eq_characters.mp hc), K.regexText_none hc he]
    rfl

theorem tucRun_canon_noRegex (K : Canon) (he : K.e = none) (fm : Bool) (segs : List Bytes)
    (hutf : K.mode = .c → validUtf8 segs.flatten = true) :
    tucRun (optOf K.table) fm K.table.regexText segs =
      MainResult.ofDispatch
        (dispatch (fillBag (fun _ => charsBag) (optOf K.table) K.table.regexText) fm segs) := by
  unfold tucRun
  rw [K.compileBag_noRegex he]
  refine if_neg fun h => ?_
  simp only [Bool.and_eq_true, decide_eq_true_eq, Bool.not_eq_true'] at h
  rw [K.optOf_boundsType, boundsTypeOf_eq_characters] at h
  rw [hutf h.1] at h
  cases h.2

theorem Canon.Accepted.main_plain {regexOk : Arg → Bool} {K : Canon} (h : K.Accepted regexOk)
    (hc : K.mode ≠ .c) (he : K.e = none) (segs : List Bytes) :
    tucMain regexOk (canonArgv K) segs =
      MainResult.ofDispatch (dispatch (optOf K.table) K.table.memKb.isSome segs) := by
  rw [h.main, tucRun_canon_noRegex K he _ segs (fun h => absurd h hc), K.regexText_none hc he]
  rfl

theorem Canon.Accepted.main_bytes {regexOk : Arg → Bool} {K : Canon} (h : K.Accepted regexOk)
    (hmode : K.mode = .b) (he : K.e = none) (hM : K.mem = none) (segs : List Bytes) :
    tucMain regexOk (canonArgv K) segs = .run (readAndCutBytes (optOf K.table) segs.flatten) := by
  rw [h.main_plain (by rw [hmode]; decide) he, K.memKb_none hM, Option.isSome_none,
    dispatch_bytes _ _ (by rw [K.optOf_boundsType, hmode]; rfl)]
  rfl

theorem Canon.Accepted.main_lines {regexOk : Arg → Bool} {K : Canon} (h : K.Accepted regexOk)
    (hmode : K.mode = .l) (he : K.e = none) (hM : K.mem = none) (segs : List Bytes) :
    tucMain regexOk (canonArgv K) segs = .run (readAndCutLines (optOf K.table) segs.flatten) := by
  rw [h.main_plain (by rw [hmode]; decide) he, K.memKb_none hM, Option.isSome_none,
    dispatch_lines _ _ (by rw [K.optOf_boundsType, hmode]; rfl)]
  rfl

theorem Canon.Accepted.fields_eq_spec {regexOk : Arg → Bool} {K : Canon} (h : K.Accepted regexOk)
    (hmode : K.mode = .f ∨ K.mode = .dflt) (hd : K.d ≠ Option.some []) (he : K.e = none)
    (hM : K.mem = none) (segs : List Bytes) :
    tucMain regexOk (canonArgv K) segs = .run (specRun K.cfg segs.flatten) := by
  have hty : (optOf K.table).boundsType = .fields := by
    rw [K.optOf_boundsType]; rcases hmode with h | h <;> rw [h] <;> rfl
  rw [h.main_plain (Canon.fields_ne_c hmode) he, K.memKb_none hM, Option.isSome_none,
    dispatch_fields_eq_spec (optOf K.table) K.boundsText h.parsed'
      (K.fields_delimiter_ne_nil hmode hd) rfl hty segs, K.optOf_cfg]
  rfl

/-- **Field mode, end to end** (`-f`, or no mode option at all = `-f 1:`): for every accepted
    canonical command line with a literal, non-empty delimiter (`-d X`, default TAB) and any subset
    of `-g -p -s -t -z -m -j --no-join -r R --fallback-oob`, without `-e`, `-M`, `--json`, and for
    every input in every read segmentation, what `tuc` writes to stdout and its exit status are
    exactly the specification's `specRun` of the request `K.cfg` on the input.

    Composes `Canon.Accepted.main` (argv → `Opt`), the engine choice of `dispatch`, C02
    (`readAndCutFast_eq_readAndCutStr`, when `main` picks the fast lane) and C01
    (`fields_run_eq_spec` on `boundsListOfString_good`).  `hd` (the value of `-d` is not the empty string) is NOT
    guaranteed by a canonical command line: `tuc -d ''` is accepted by `parse_args`; C01 excludes
    it (see the counter-example at the end of the file).  `hjson` is not used: the statement is an
    instance of `Canon.Accepted.fields_eq_spec`. -/
theorem tuc_fields_eq_spec (regexOk : Arg → Bool) (hcre : regexOk charsRegexText = true) (K : Canon)
    (hK : K.accepted = true) (hmode : K.mode = .f ∨ K.mode = .dflt) (hd : K.d ≠ Option.some [])
    (he : K.e = none) (hM : K.mem = none) (hjson : K.json = false) (segs : List Bytes) :
    tucMain regexOk (canonArgv K) segs = .run (specRun K.cfg segs.flatten) :=
  (Canon.Accepted.of_noRegex hK he hcre).fields_eq_spec hmode hd he hM segs

/-- `tuc -f 1,3 -d :` on `a:b:c⏎`, read as `a:b` + `:c⏎`, prints `ac⏎` and exits with 0 -/
def exFields : Canon := { mode := .f, bounds := ['1', ',', '3'], d := Option.some [':'] }

example : canonArgv exFields = [['-', 'f'], ['1', ',', '3'], ['-', 'd'], [':']] := by decide +kernel

example : tucMain (fun _ => true) (canonArgv exFields) [[97, 58, 98], [58, 99, 10]] =
    .run (Run.ok [97, 99, 10]) := by
  rw [tuc_fields_eq_spec (fun _ => true) rfl exFields (by decide +kernel) (Or.inl rfl) (by decide) rfl rfl rfl]
  decide +kernel

/-- **Field mode with `--json`, end to end**: as `tuc_fields_eq_spec`, with `--json` (which implies
    `-j -r ,`; `parse_args` refuses it together with `-r`, `--no-join` and format text in the
    bounds: part of `K.accepted`).  The other instance of `Canon.Accepted.fields_eq_spec`: with `--json`
    the engine is never the fast lane and the run is C08's (the same `fields_run_eq_spec`). -/
theorem tuc_fields_json_eq_spec (regexOk : Arg → Bool) (hcre : regexOk charsRegexText = true) (K : Canon)
    (hK : K.accepted = true) (hmode : K.mode = .f ∨ K.mode = .dflt) (hd : K.d ≠ Option.some [])
    (he : K.e = none) (hM : K.mem = none) (hjson : K.json = true) (segs : List Bytes) :
    tucMain regexOk (canonArgv K) segs = .run (specRun K.cfg segs.flatten) :=
  (Canon.Accepted.of_noRegex hK he hcre).fields_eq_spec hmode hd he hM segs

/-- `tuc -f 2:3 -d : --json` on `a:b:c⏎` prints `["b","c"]⏎` -/
def exJson : Canon := { mode := .f, bounds := ['2', ':', '3'], d := Option.some [':'], json := true }

example : tucMain (fun _ => true) (canonArgv exJson) [[97, 58, 98, 58, 99, 10]] =
    .run (Run.ok [0x5B, 0x22, 98, 0x22, 0x2C, 0x22, 99, 0x22, 0x5D, 10]) := by
  rw [tuc_fields_json_eq_spec (fun _ => true) rfl exJson (by decide +kernel) (Or.inl rfl) (by decide) rfl rfl rfl]
  decide +kernel

def admissibleB (bs : List BoF) (n : Nat) : Bool :=
  (boundsOnly bs).all fun b =>
    match b.r with
    | .some hi => decide (hi ≤ (n : Int)) || decide ((n : Int) < BLo b)
    | .cont => true

theorem admissibleB_iff (bs : List BoF) (n : Nat) : admissibleB bs n = true ↔ Admissible bs n := by
  unfold admissibleB Admissible
  rw [List.all_eq_true]
  constructor
  · intro h b hb hi hr
    have := h b (mem_boundsOnly_iff.mpr hb)
    simpa [hr] using this
  · intro h b hb
    have := h b (mem_boundsOnly_iff.mp hb)
    cases hr : b.r with
    | cont => rfl
    | some hi => simpa using this hi hr

instance (bs : List BoF) (n : Nat) : Decidable (Admissible bs n) :=
  decidable_of_iff _ (admissibleB_iff bs n)

/-- the delimiter byte of a command line whose delimiter is one byte long -/
def Canon.delimiterByte (K : Canon) : UInt8 := K.delimiter.headD 9

theorem Canon.streamOk_facts (K : Canon) (h : (flagsOf K.table).streamOk = true) :
    (K.mode = .f ∨ K.mode = .dflt) ∧ K.e = none := by
  have hm : (flagsOf K.table).mode = K.mode := K.table_mode
  obtain ⟨hf, hre⟩ := Flags.streamOk_fields h
  have hmode : K.mode = .f ∨ K.mode = .dflt := by simpa [Flags.isFields, hm] using hf
  refine ⟨hmode, ?_⟩
  cases hke : K.e with
  | none => rfl
  | some v =>
    have he : (flagsOf K.table).e = true := show K.e.isSome = true by rw [hke]; rfl
    simp [Flags.regex, hm, he, Canon.fields_ne_c hmode] at hre

theorem Canon.Accepted.fixedMemory_eq_spec {regexOk : Arg → Bool} {K : Canon} (hA : K.Accepted regexOk)
    (hM : K.mem.isSome = true) (hst : (flagsOf K.table).streamOk = true) (segs : List Bytes)
    (hadm : ∀ r ∈ records K.eol.byte segs.flatten, Admissible K.ubl.list (r.count K.delimiterByte + 1)) :
    tucMain regexOk (canonArgv K) segs = .run (specRun K.cfg segs.flatten) := by
  obtain ⟨hmode, he⟩ := K.streamOk_facts hst
  have hc := Canon.fields_ne_c hmode
  have hso := streamOptOf_optOf (fun _ => charsBag) K.table hA.sensible.bounds hA.sensible.trim
  rw [K.regexText_none hc he, hst] at hso
  obtain ⟨so, (hsome : streamOptOf (optOf K.table) = Option.some so)⟩ := Option.isSome_iff_exists.mp hso
  have hbyte : K.delimiterByte = so.delimiter := by
    rw [Canon.delimiterByte, ← K.optOf_delimiter, (streamOptOf_facts _ _ hsome).delimiter]; rfl
  rw [hA.main_plain hc he, K.memKb_isSome hA.accepted hM,
    dispatch_fixedMemory_eq_spec (optOf K.table) so hsome K.boundsText hA.parsed' segs
      (by rw [K.optOf_bounds, ← hbyte]; exact hadm), K.optOf_cfg]
  rfl

/-- **`-M` (fixed memory), end to end.**  For every accepted canonical command line with `-M N`
    that `StreamOpt::try_from` accepts (`Flags.streamOk`, a decidable condition on the option set:
    field mode, a one-byte `-d`, a one-byte `-r` if any, none of `-m -g -p -s -t -e --json`, bounds
    strictly ascending, positive, no field requested twice), for EVERY read segmentation `segs`,
    and every input all of whose records are admissible (`hadm`: no requested closed range
    straddles the end of a record — a hypothesis of C03, about the input, that no command line can
    guarantee): stdout and exit status are the specification's.

    Composes `Canon.Accepted.main`, `streamOptOf_optOf` (the `Opt` of the command line passes
    `StreamOpt::try_from` iff `streamOk`) and C03 (`dispatch_fixedMemory_eq_spec` =
    `stream_refines_spec_of_parsed`). -/
theorem tuc_fixedMemory_eq_spec (regexOk : Arg → Bool) (hcre : regexOk charsRegexText = true) (K : Canon)
    (hK : K.accepted = true) (hM : K.mem.isSome = true) (hst : (flagsOf K.table).streamOk = true)
    (segs : List Bytes)
    (hadm : ∀ r ∈ records K.eol.byte segs.flatten, Admissible K.ubl.list (r.count K.delimiterByte + 1)) :
    tucMain regexOk (canonArgv K) segs = .run (specRun K.cfg segs.flatten) :=
  (Canon.Accepted.of_noRegex hK (K.streamOk_facts hst).2 hcre).fixedMemory_eq_spec hM hst segs hadm

/-- `tuc -f 1,3 -d : -M 1` on `a:b:c⏎x:y:z⏎` read in pieces of 4, 3 and 5 bytes -/
def exMem : Canon := { mode := .f, bounds := ['1', ',', '3'], d := Option.some [':'], mem := Option.some ['1'] }

example : tucMain (fun _ => true) (canonArgv exMem) [[97, 58, 98, 58], [99, 10, 120], [58, 121, 58, 122, 10]] =
    .run (Run.ok [97, 99, 10, 120, 122, 10]) := by
  rw [tuc_fixedMemory_eq_spec (fun _ => true) rfl exMem (by decide +kernel) rfl (by decide +kernel) _
    (by decide +kernel)]
  decide +kernel

theorem Canon.Accepted.bytes_eq_spec {regexOk : Arg → Bool} {K : Canon} (hA : K.Accepted regexOk)
    (hmode : K.mode = .b) (he : K.e = none) (hM : K.mem = none) (segs : List Bytes) :
    tucMain regexOk (canonArgv K) segs = .run (specBytes K.cfg segs.flatten) := by
  rw [hA.main_bytes hmode he hM,
    readAndCutBytes_eq_spec _ _ (fun b hb => hA.good.1 b (mem_boundsOnly_iff.mp hb)), K.optOf_cfg]

/-- **Byte mode, end to end**: for every accepted canonical command line with `-b` (no `-e`, no
    `-M`; `parse_args` itself refuses `-d` and `--json` with `-b`; every other option is accepted
    and ignored by the engine and by `specBytes` alike) and EVERY input — any byte values, any
    segmentation — stdout and exit status are the specification's `specBytes`.
    Composes `Canon.Accepted.main`, the engine choice and C06 (`readAndCutBytes_eq_spec`), whose
    hypothesis (no index 0) is discharged by `boundsListOfString_good`. -/
theorem tuc_bytes_eq_spec (regexOk : Arg → Bool) (hcre : regexOk charsRegexText = true) (K : Canon)
    (hK : K.accepted = true) (hmode : K.mode = .b) (he : K.e = none) (hM : K.mem = none)
    (segs : List Bytes) :
    tucMain regexOk (canonArgv K) segs = .run (specBytes K.cfg segs.flatten) :=
  (Canon.Accepted.of_noRegex hK he hcre).bytes_eq_spec hmode he hM segs

/-- `tuc -b 1:2` on the bytes `FF 00 0A 61` prints `FF 00` (nothing added) -/
def exBytes : Canon := { mode := .b, bounds := ['1', ':', '2'] }

example : tucMain (fun _ => true) (canonArgv exBytes) [[0xFF, 0], [10, 97]] = .run (Run.ok [0xFF, 0]) := by
  rw [tuc_bytes_eq_spec (fun _ => true) rfl exBytes (by decide +kernel) rfl rfl rfl]
  decide +kernel

theorem Canon.Accepted.chars_eq_spec {regexOk : Arg → Bool} {K : Canon} (hA : K.Accepted regexOk)
    (hmode : K.mode = .c) (hM : K.mem = none) (segs : List Bytes) (hutf : validUtf8 segs.flatten = true) :
    tucMain regexOk (canonArgv K) segs = .run (specRun K.cfg segs.flatten) := by
  have he : K.e = none := (K.noConflict_facts hA.noConflict).2 hmode
  have hty : (optOf K.table).boundsType = .characters := by rw [K.optOf_boundsType, hmode]; rfl
  have hrep : (optOf K.table).replaceDelimiter.isSome = true := by
    rw [K.optOf_replaceDelimiter, hmode]
    cases K.json <;> rfl
  rw [hA.main, K.memKb_none hM, tucRun_chars _ _ _ _ hty, if_pos hutf,
    Option.isSome_none, dispatch_chars { optOf K.table with regexBag := Option.some charsBag } segs hty rfl,
    chars_run_eq_spec_gen { optOf K.table with regexBag := Option.some charsBag } _ hty rfl
      (fun _ => hrep) (by show (_ || _) = true; rw [hrep]; exact Bool.or_true _) hA.good.1 hA.good.2 hutf,
    K.cfgOf_optOf]
  rfl

/-- **Character mode, end to end**: for every accepted canonical command line with `-c` (no `-M`;
    `parse_args` itself refuses `-d`, `-e` and `--no-join` with `-c`; `--json` is allowed and
    covered) and every input that is valid UTF-8, in any segmentation: stdout and exit status are
    the specification's (every scalar value is a field).  `hutf` is a hypothesis of C07 about the
    input (on other input the model says `unmodelled`).
    Composes `Canon.Accepted.main`, the engine choice (the general path with the `\b|\B` bag) and
    C07 ∧ C08 (`chars_run_eq_spec_gen`). -/
theorem tuc_chars_eq_spec (regexOk : Arg → Bool) (hcre : regexOk charsRegexText = true) (K : Canon)
    (hK : K.accepted = true) (hmode : K.mode = .c) (hM : K.mem = none)
    (segs : List Bytes) (hutf : validUtf8 segs.flatten = true) :
    tucMain regexOk (canonArgv K) segs = .run (specRun K.cfg segs.flatten) :=
  (Canon.Accepted.of_noRegex hK ((K.noConflict_facts (K.accepted_parts hK).2.2.2).2 hmode) hcre).chars_eq_spec hmode hM
    segs hutf

/-- `tuc -c 2:3` on `héllo⏎` prints `él⏎` -/
def exChars : Canon := { mode := .c, bounds := ['2', ':', '3'] }

example : tucMain (fun _ => true) (canonArgv exChars) [[104, 0xC3], [0xA9, 108, 108, 111, 10]] =
    .run (Run.ok [0xC3, 0xA9, 108, 10]) := by
  rw [tuc_chars_eq_spec (fun _ => true) rfl exChars (by decide +kernel) rfl rfl _ (by decide +kernel)]
  decide +kernel

theorem Canon.lines_facts_of_noConflict (K : Canon) (hu : upFrontReject (flagsOf K.table) = false) (hmode : K.mode = .l)
    (hs : K.s = false) (ht : K.tr = none) (hg : K.g = false) (hp : K.p = false) (hr : K.r = none) :
    (optOf K.table).delimiter = [(optOf K.table).eol.byte] ∧ (optOf K.table).boundsType = .lines ∧
    (optOf K.table).json = false ∧ (optOf K.table).onlyDelimited = false ∧ (optOf K.table).trim = none ∧
    (optOf K.table).greedyDelimiter = false ∧ (optOf K.table).compressDelimiter = false ∧
    (optOf K.table).replaceDelimiter = none := by
  have hjson : K.json = false := by
    cases hj : K.json with
    | false => rfl
    | true => exact absurd hmode ((K.noConflict_facts hu).1 hj).2
  refine ⟨?_, ?_, hjson, hs, ?_, hg, hp, ?_⟩
  · rw [K.optOf_delimiter, Canon.delimiter, hmode]; rfl
  · rw [K.optOf_boundsType, hmode]; rfl
  · rw [K.optOf_trim, ht]; rfl
  · rw [K.optOf_replaceDelimiter, hmode, hjson, hr]; rfl

theorem Canon.lines_facts (K : Canon) (hK : K.accepted = true) (hmode : K.mode = .l)
    (hs : K.s = false) (ht : K.tr = none) (hg : K.g = false) (hp : K.p = false) (hr : K.r = none) :
    (optOf K.table).delimiter = [(optOf K.table).eol.byte] ∧ (optOf K.table).boundsType = .lines ∧
    (optOf K.table).json = false ∧ (optOf K.table).onlyDelimited = false ∧ (optOf K.table).trim = none ∧
    (optOf K.table).greedyDelimiter = false ∧ (optOf K.table).compressDelimiter = false ∧
    (optOf K.table).replaceDelimiter = none :=
  K.lines_facts_of_noConflict (K.accepted_parts hK).2.2.2 hmode hs ht hg hp hr

theorem Canon.Accepted.lines_eq_spec {regexOk : Arg → Bool} {K : Canon} (hA : K.Accepted regexOk)
    (hmode : K.mode = .l) (he : K.e = none) (hM : K.mem = none)
    (hs : K.s = false) (ht : K.tr = none) (hg : K.g = false) (hp : K.p = false) (hr : K.r = none)
    (segs : List Bytes) (hutf : validUtf8 segs.flatten = true) (h0 : segs.flatten ≠ [])
    (h1 : segs.flatten ≠ [K.eol.byte])
    (hfwd : K.m = false → isForwardOnly K.ubl.list = true →
      ∃ bs : List UserBounds, K.ubl.list = bs.map .bound ∧
        ∀ b ∈ bs, resolve b (records K.eol.byte segs.flatten).length ≠ none) :
    tucMain regexOk (canonArgv K) segs = .run (specLines K.cfg segs.flatten) := by
  obtain ⟨hd, hty, hjson, honly, htrim, hgr, hcp, hrepl⟩ :=
    K.lines_facts_of_noConflict hA.noConflict hmode hs ht hg hp hr
  rw [hA.main_lines hmode he hM,
    readAndCutLines_eq_specLines (optOf K.table) _ hd hty rfl hjson hA.good.1 hA.good.2 honly htrim hgr hcp hrepl
      hutf h0 h1 (by rw [K.optOf_bounds]; exact hfwd), K.optOf_cfg]

theorem Canon.Accepted.lines_buffered_eq_spec {regexOk : Arg → Bool} {K : Canon} (hA : K.Accepted regexOk)
    (hmode : K.mode = .l) (he : K.e = none) (hM : K.mem = none)
    (hs : K.s = false) (ht : K.tr = none) (hg : K.g = false) (hp : K.p = false) (hr : K.r = none)
    (hbuf : K.m = true ∨ isForwardOnly K.ubl.list = false)
    (segs : List Bytes) (hutf : validUtf8 segs.flatten = true) :
    tucMain regexOk (canonArgv K) segs = .run (specLines K.cfg segs.flatten) := by
  obtain ⟨hd, hty, hjson, honly, htrim, hgr, hcp, hrepl⟩ :=
    K.lines_facts_of_noConflict hA.noConflict hmode hs ht hg hp hr
  rw [hA.main_lines hmode he hM,
    readAndCutLines_buffered_eq_spec (optOf K.table) _ (K.optOf_bounds.symm ▸ hbuf) hd hty rfl hjson hA.good.1
      hA.good.2 honly htrim hgr hcp hrepl hutf, K.optOf_cfg]

/-- **Line mode, end to end, whichever algorithm `read_and_cut_lines` picks**: for every accepted
    canonical command line with `-l` and any of `-z -m -j --no-join --fallback-oob`, without
    `-e`, `-M` and without `-s -t -g -p -r` (`hs … hr`: `parse_args` ACCEPTS these with `-l`, and
    `cut_lines` hands them to `cut_str`, where they act on the whole input taken as one record,
    while `specLines` does not know them — C05 excludes them, a canonical command line does not),
    for every input that is valid UTF-8 other than the empty one and a lone EOL, in any
    segmentation; `hfwd` is the hypothesis of the one-line-at-a-time theorem of C05 for the
    requests `read_and_cut_lines` serves that way (no `-m`, forward-only bounds): no format text in
    the bounds and every bound resolvable on the input.

    Composes `Canon.Accepted.main`, the engine choice and C05 (`readAndCutLines_eq_specLines`). -/
theorem tuc_lines_eq_spec (regexOk : Arg → Bool) (hcre : regexOk charsRegexText = true) (K : Canon)
    (hK : K.accepted = true) (hmode : K.mode = .l) (he : K.e = none) (hM : K.mem = none)
    (hs : K.s = false) (ht : K.tr = none) (hg : K.g = false) (hp : K.p = false) (hr : K.r = none)
    (segs : List Bytes) (hutf : validUtf8 segs.flatten = true) (h0 : segs.flatten ≠ [])
    (h1 : segs.flatten ≠ [K.eol.byte])
    (hfwd : K.m = false → isForwardOnly K.ubl.list = true →
      ∃ bs : List UserBounds, K.ubl.list = bs.map .bound ∧
        ∀ b ∈ bs, resolve b (records K.eol.byte segs.flatten).length ≠ none) :
    tucMain regexOk (canonArgv K) segs = .run (specLines K.cfg segs.flatten) :=
  (Canon.Accepted.of_noRegex hK he hcre).lines_eq_spec hmode he hM hs ht hg hp hr segs hutf h0 h1 hfwd

/-- **Line mode, end to end, the buffered algorithm**: with `-m`, or with bounds that are not
    forward-only (reordered, overlapping or negative indexes, e.g. `-l 2,1` or `-l 1,-1`), the same
    for EVERY valid UTF-8 input and any bounds (format text, fallbacks).  Composes `Canon.Accepted.main` and C05 (`readAndCutLines_buffered_eq_spec`). -/
theorem tuc_lines_buffered_eq_spec (regexOk : Arg → Bool) (hcre : regexOk charsRegexText = true) (K : Canon)
    (hK : K.accepted = true) (hmode : K.mode = .l) (he : K.e = none) (hM : K.mem = none)
    (hs : K.s = false) (ht : K.tr = none) (hg : K.g = false) (hp : K.p = false) (hr : K.r = none)
    (hbuf : K.m = true ∨ isForwardOnly K.ubl.list = false)
    (segs : List Bytes) (hutf : validUtf8 segs.flatten = true) :
    tucMain regexOk (canonArgv K) segs = .run (specLines K.cfg segs.flatten) :=
  (Canon.Accepted.of_noRegex hK he hcre).lines_buffered_eq_spec hmode he hM hs ht hg hp hr hbuf segs hutf

/-- `tuc -l 2:` on `a⏎b⏎c⏎` prints `b⏎c⏎` (one line at a time) -/
def e2eLines : Canon := { mode := .l, bounds := ['2', ':'] }

example : tucMain (fun _ => true) (canonArgv e2eLines) [[97, 10, 98], [10, 99, 10]] =
    .run (Run.ok [98, 10, 99, 10]) := by
  rw [tuc_lines_eq_spec (fun _ => true) rfl e2eLines (by decide +kernel) rfl rfl rfl rfl rfl rfl rfl rfl _
    (by decide +kernel) (by decide +kernel) (by decide +kernel)
    (fun _ _ => ⟨[{ l := .some 2, r := .cont, isLast := true }], by decide +kernel, by decide +kernel⟩)]
  decide +kernel

/-- `tuc -l 3,1 --no-join` on `a⏎b⏎c⏎` prints `ca⏎` (buffered) -/
def exLinesBuf : Canon := { mode := .l, bounds := ['3', ',', '1'], noJoin := true }

example : tucMain (fun _ => true) (canonArgv exLinesBuf) [[97, 10, 98], [10, 99, 10]] =
    .run (Run.ok [99, 97, 10]) := by
  rw [tuc_lines_buffered_eq_spec (fun _ => true) rfl exLinesBuf (by decide +kernel) rfl rfl rfl rfl rfl rfl
    rfl rfl (Or.inr (by decide +kernel)) _ (by decide +kernel)]
  decide +kernel

/-- **Rejection, end to end (C19).**  For every well-formed canonical command line without `-e`:
    `tuc` exits with 1 having read and written nothing — by an error of `parse_args` or by
    `StreamOpt::try_from` at the head of `main` — iff the option set is one of the property's
    contradictory or unsupported combinations (`conflict`), whatever the input.  (With `-c` the
    input is taken to be valid UTF-8, otherwise the model of the run says `unmodelled`.)
    Composes `parseArgv_canonArgv`, `rejectsUpFront_tableAnswer` (= `decision_reject_iff` +
    `streamOptOf_optOf`) and `reject_iff_conflict` (C19). -/
theorem tuc_reject_iff_conflict (regexOk : Arg → Bool) (hcre : regexOk charsRegexText = true) (K : Canon)
    (hW : K.wellFormed = true) (he : K.e = none) (segs : List Bytes)
    (hutf : K.mode = .c → validUtf8 segs.flatten = true) :
    tucMain regexOk (canonArgv K) segs = .reject ↔ conflict (flagsOf K.table) = true := by
  have hs := K.sensible regexOk hW (by rw [he]; rfl) hcre
  have hc : K.clean = true := by
    simp only [Canon.wellFormed, Bool.and_eq_true] at hW; exact hW.1.1
  rw [← reject_iff_conflict, ← rejectsUpFront_tableAnswer (fun _ => charsBag) segs K.table hs.bounds hs.trim hs.mem]
  unfold tucMain
  rw [parseArgv_canonArgv regexOk K hc hs]
  unfold tableAnswer
  cases hu : upFrontReject (flagsOf K.table) with
  | true => simp [rejectsUpFront]
  | false =>
    simp only [Bool.false_eq_true, if_false, rejectsUpFront]
    rw [tucRun_canon_noRegex K he _ segs hutf]
    cases dispatch (fillBag (fun _ => charsBag) (optOf K.table) K.table.regexText)
      K.table.memKb.isSome segs <;> simp [MainResult.ofDispatch]

/-- `tuc -f 1 -j --no-join` and `tuc -f 2,1 -M 1` (bounds not ascending) are rejected;
    `tuc -f 1,2 -M 1` is not -/
example : tucMain (fun _ => true)
    (canonArgv { mode := .f, bounds := ['1'], j := true, noJoin := true }) [[97, 10]] = .reject :=
  (tuc_reject_iff_conflict (fun _ => true) rfl _ (by decide +kernel) rfl _ (by decide)).mpr (by decide +kernel)

example : tucMain (fun _ => true)
    (canonArgv { mode := .f, bounds := ['2', ',', '1'], mem := Option.some ['1'] }) [[97, 10]] = .reject :=
  (tuc_reject_iff_conflict (fun _ => true) rfl _ (by decide +kernel) rfl _ (by decide)).mpr (by decide +kernel)

example : tucMain (fun _ => true)
    (canonArgv { mode := .f, bounds := ['1', ',', '2'], mem := Option.some ['1'] }) [[97, 10]] ≠ .reject :=
  fun h => absurd ((tuc_reject_iff_conflict (fun _ => true) rfl _ (by decide +kernel) rfl _ (by decide)).mp h)
    (by decide +kernel)

/-- no argument at all: the short help -/
example (regexOk : Arg → Bool) (segs : List Bytes) : tucMain regexOk [] segs = .help := rfl

/-! ## the hypotheses that a canonical command line does not guarantee are needed

Each of the following command lines is accepted (`K.accepted`), the model of `main` (which agrees
with the real binary: `tool/argv_diff.py`, and these very cases were run through it) does one
thing and the specification says another — the hypothesis named is the one that excludes it.  None
is a defect of `tuc`: the specifications of C01 / C03 / C05 are stated on a smaller domain. -/

/-- `hd` of `tuc_fields_eq_spec`: `tuc -f 2 -d ''` on `a:b⏎` prints `a⏎` (an empty needle matches
    at every position); `specRun` with the empty delimiter says `⏎` -/
example :
    let K : Canon := { mode := .f, bounds := ['2'], d := Option.some [] }
    K.accepted = true ∧
    tucMain (fun _ => true) (canonArgv K) [[97, 58, 98, 10]] = .run (Run.ok [97, 10]) ∧
    specRun K.cfg [97, 58, 98, 10] = Run.ok [10] := by
  decide +kernel

/-- `hr` of `tuc_lines_buffered_eq_spec`: `tuc -l 2,1 -r X` on `a⏎b⏎` prints `bXa⏎` (`cut_lines`
    hands `-r` to `cut_str`); `specLines` says `b⏎a⏎`.  Likewise `-s`, `-t`, `-g`, `-p`. -/
example :
    let K : Canon := { mode := .l, bounds := ['2', ',', '1'], r := Option.some ['X'] }
    K.accepted = true ∧
    tucMain (fun _ => true) (canonArgv K) [[97, 10, 98, 10]] = .run (Run.ok [98, 88, 97, 10]) ∧
    specLines K.cfg [97, 10, 98, 10] = Run.ok [98, 10, 97, 10] := by
  decide +kernel

/-- `h0` of `tuc_lines_eq_spec`: `tuc -l 1` on the empty input fails (`Out of bounds: 1`);
    `specLines` takes the empty input for an empty record and says `⏎` -/
example :
    let K : Canon := { mode := .l, bounds := ['1'] }
    K.accepted = true ∧
    tucMain (fun _ => true) (canonArgv K) [] = .run Run.fail ∧
    specLines K.cfg [] = Run.ok [10] := by
  decide +kernel

/-- `hfwd` of `tuc_lines_eq_spec` (no format text when the request is served one line at a time):
    `tuc -l 'a{1}b'` on `a⏎b⏎` prints `a⏎a⏎b⏎` (an EOL after every element); `specLines` says
    `aab⏎` -/
example :
    let K : Canon := { mode := .l, bounds := ['a', '{', '1', '}', 'b'] }
    K.accepted = true ∧
    tucMain (fun _ => true) (canonArgv K) [[97, 10, 98, 10]] = .run (Run.ok [97, 10, 97, 10, 98, 10]) ∧
    specLines K.cfg [97, 10, 98, 10] = Run.ok [97, 97, 98, 10] := by
  decide +kernel

/-- `hadm` of `tuc_fixedMemory_eq_spec`: `tuc -f 1:3 -d : -M 1` on `a:b⏎` has written `a:b` when it
    finds the record too short; the specification (and `tuc` without `-M`) writes nothing -/
example :
    let K : Canon := { mode := .f, bounds := ['1', ':', '3'], d := Option.some [':'], mem := Option.some ['1'] }
    K.accepted = true ∧ (flagsOf K.table).streamOk = true ∧
    tucMain (fun _ => true) (canonArgv K) [[97, 58, 98, 10]] = .run ⟨[97, 58, 98], .fail⟩ ∧
    specRun K.cfg [97, 58, 98, 10] = Run.fail := by
  decide +kernel

end Tuc
