import Tuc.Lemmas.CutStrSpec
import Tuc.Lemmas.SpecLaws
import Tuc.Props.C05Utf8
/-!
# C05 — line mode, the buffered algorithm (`cut_lines`) against the specification

`cut_lines` serves `-l` requests with negative or reordered indexes, with `-m` or with `-p`: the
whole input minus one trailing EOL is one record, cut by the general engine (`cut_str`) with the
EOL as delimiter.  The fields of that record are the lines of the input (`splitFields_stripEol`),
so `specLines cfg` is `specRecord (asLines cfg)` of it for every request and input
(`specLines_eq_specRecord`), and by the record theorem of `Tuc.Lemmas.CutStrSpec`
(`fields_record_eq_spec`, the theorem behind C01) the buffered algorithm is `specLines` on every valid
UTF-8 input, for every bounds list with no index 0 and `is_last` on its last bound (every list the
parser returns: `cutLines_eq_specLines_of_parsed`), given the EOL as delimiter, no `-e`, no
`--json` and none of `-s -t -g -p -r` (`cutLines_eq_specLines_all`).  On a plain request (no
format text) that is forward-only and resolves on the input, without `-m`, under the same
hypotheses and for an input that is neither empty nor a lone EOL, both algorithms print the same
(`lines_algorithms_agree`).
-/
namespace Tuc
open Tuc.Spec

/-- line by line (`records_ind`): a line and its EOL in front of more input is a field and its delimiter
    (`splitFields_field_append`), and `stripEol` only touches what comes last -/
theorem splitFields_stripEol (eol : UInt8) (input : Bytes) (h0 : input ≠ []) :
    splitFields [eol] (stripEol eol input) = records eol input := by
  revert h0
  refine records_ind (eol := eol)
    (P := fun x rs => x ≠ [] → splitFields [eol] (stripEol eol x) = rs) (fun l h hne => ?_)
    (fun l rest h ih _ => ?_) input
  · rw [LinesLoop.stripEol_noeol eol l h, splitFields_noOcc _ l (field_of_ne eol l h).noOcc,
      if_neg (by simpa using hne)]
  · by_cases hr : rest = []
    · subst hr
      rw [show records eol [] = [] from rfl, LinesLoop.stripEol_append_eol,
        splitFields_noOcc _ l (field_of_ne eol l h).noOcc]
    · rw [show l ++ eol :: rest = (l ++ [eol]) ++ rest by simp,
        LinesLoop.stripEol_append_of_ne_nil _ _ hr,
        splitFields_field_append [eol] (by simp) l _ (field_of_ne eol l h), ih hr]

/-- the request of `-l` read as a request of field mode: the EOL is the delimiter and nothing else
    of field mode is on (what `parse_args` makes of `-l`, for any `cfg`) -/
def Spec.asLines (cfg : Cfg) : Cfg :=
  { delimiter := [cfg.eol], eol := cfg.eol, bofs := cfg.bofs, complement := cfg.complement,
    join := cfg.join, fallback := cfg.fallback }

/-- the lines of the input as tokens (`-l`) -/
def linesTok (eol : UInt8) (input : Bytes) : Tok :=
  (tokOfParts 1 (records eol input)).getD ⟨[], []⟩

theorem linesTok_numFields (eol : UInt8) (input : Bytes) (h0 : input ≠ []) :
    (linesTok eol input).numFields = (records eol input).length := by
  unfold linesTok
  cases hrec : records eol input with
  | nil => exact absurd ((records_eq_nil_iff _ _).1 hrec) h0
  | cons p ps => exact congrArg (· + 1) (List.length_map ..)

theorem recordTok_lines (cfg : Cfg) (input : Bytes) (h0 : input ≠ []) (h1 : input ≠ [cfg.eol]) :
    recordTok (asLines cfg) (stripEol cfg.eol input) = some (linesTok cfg.eol input) := by
  obtain ⟨p, ps, hrec, hcond⟩ := records_of_input h0 h1
  have hkey := splitFields_stripEol cfg.eol input h0
  -- the record is not empty: its fields would be one empty line
  have hemp : (stripEol cfg.eol input).isEmpty = false := by
    cases hs : stripEol cfg.eol input with
    | cons _ _ => rfl
    | nil =>
      rw [hs, hrec] at hkey
      cases (hkey : [[]] = p :: ps)
      cases hcond
  show (if (stripEol cfg.eol input).isEmpty then none
    else some (tokenize [cfg.eol] false false (stripEol cfg.eol input))) = _
  rw [hemp, tokenize_plain, hkey]
  unfold linesTok
  rw [hrec]
  rfl

/-- **`-l` is field mode on the whole input**, minus one trailing EOL, with the EOL as delimiter:
    every request, every input (the empty one and a lone EOL are the empty record).  It is what
    `cut_lines` does, and it makes every law of `specRecord` a law of `specLines`. -/
theorem specLines_eq_specRecord (cfg : Cfg) (input : Bytes) :
    specLines cfg input = specRecord (asLines cfg) (stripEol cfg.eol input) := by
  by_cases h0 : input = []
  · subst h0; rfl
  by_cases h1 : input = [cfg.eol]
  · subst h1
    simp [specLines, specRecord, stripEol, records, splitRecords, tokOfParts, asLines]
  obtain ⟨p, ps, hrec, hcond⟩ := records_of_input h0 h1
  rw [specRecord_of_recordTok (recordTok_lines cfg input h0 h1)]
  unfold specLines linesTok specBody
  rw [hrec]
  simp only [tokOfParts, Option.getD_some, hcond, Bool.false_eq_true, if_false]
  rw [emit_cfg_congr (cfg := asLines cfg) (cfg' := { cfg with json := false }) rfl rfl rfl]
  rfl

theorem hasNFields_lines (cfg : Cfg) (input : Bytes) :
    HasNFields (asLines cfg) (records cfg.eol input).length (stripEol cfg.eol input) := by
  intro tok ht
  by_cases h0 : input = []
  · subst h0; cases ht
  by_cases h1 : input = [cfg.eol]
  · subst h1
    rw [show stripEol cfg.eol [cfg.eol] = [] by simp [stripEol]] at ht
    cases ht
  rw [recordTok_lines cfg input h0 h1] at ht
  cases ht
  exact linesTok_numFields cfg.eol input h0

theorem Spec.SameButBofs.asLines {cfg cfg' : Cfg} (h : SameButBofs cfg cfg') :
    SameButBofs (asLines cfg) (asLines cfg') :=
  ⟨⟨congrArg (fun e => [e]) h.eol, h.eol, rfl, rfl, rfl, rfl, rfl⟩, rfl, h.complement, h.join, rfl,
    h.fallback⟩

/-- the `Opt` of a `-l` invocation without `-s -t -g -p -r --json` is already in that form -/
theorem specRecord_stripEol (o : Opt) (input : Bytes) (hd : o.delimiter = [o.eol.byte])
    (hty : o.boundsType = .lines) (hjson : o.json = false)
    (honly : o.onlyDelimited = false) (htrim : o.trim = none) (hg : o.greedyDelimiter = false)
    (hp : o.compressDelimiter = false) (hrepl : o.replaceDelimiter = none) :
    specRecord (cfgOf o) (stripEol o.eol.byte input) = specLines (cfgOf o) input := by
  have h : asLines (cfgOf o) = cfgOf o := by
    simp [asLines, cfgOf, hd, hty, hjson, honly, htrim, hg, hp, hrepl]
  rw [specLines_eq_specRecord, h]
  rfl

/-- **the buffered algorithm, every option but `-e`**: `cut_lines` is the record
    specification of the input minus one trailing EOL, also with `-s -t -g -p -r` and any literal
    delimiter (which `cut_lines` hands to `cut_str`, and `specLines` does not know) -/
theorem cutLines_eq_specRecord (o : Opt) (input : Bytes) (hd : o.delimiter ≠ [])
    (hty : o.boundsType = .fields ∨ o.boundsType = .lines) (hre : o.regexBag = none)
    (hz : AllNonzero o.bounds.list) (hL : LastMarked o.bounds.list)
    (hutf : validUtf8 input = true) :
    cutLines o input = specRecord (cfgOf o) (stripEol o.eol.byte input) := by
  unfold cutLines
  rw [hutf]
  exact fields_record_eq_spec o _ hd hre hty hz hL

/-- **C05, the buffered algorithm, every input.**  With the EOL as delimiter and none of
    `-s -t -g -p -r` (`parse_args` ACCEPTS them together with `-l` and the buffered `cut_lines` obeys
    them — `-l 2,1 -r X` prints `bXa` — while `specLines` ignores them; C05 quantifies over
    `{--no-join, -z, -m}` only, so they are hypotheses here, not facts about `main`), `cut_lines`
    is `specLines` — output and status — on every valid UTF-8 input (the empty one and a lone EOL
    included), without `-e` and `--json`, for every bounds list with no index 0 and its last bound
    marked (`hz`, `hL`: every list the parser returns, see `cutLines_eq_specLines_of_parsed`):
    fillers, fallbacks, negative and reordered indexes, `-m`, `--no-join`. -/
theorem cutLines_eq_specLines_all (o : Opt) (input : Bytes)
    (hd : o.delimiter = [o.eol.byte]) (hty : o.boundsType = .lines)
    (hre : o.regexBag = none) (hjson : o.json = false)
    (hz : AllNonzero o.bounds.list) (hL : LastMarked o.bounds.list)
    (honly : o.onlyDelimited = false) (htrim : o.trim = none) (hg : o.greedyDelimiter = false)
    (hp : o.compressDelimiter = false) (hrepl : o.replaceDelimiter = none)
    (hutf : validUtf8 input = true) :
    cutLines o input = specLines (cfgOf o) input :=
  (cutLines_eq_specRecord o input (by rw [hd]; nofun) (Or.inr hty) hre hz hL hutf).trans
    (specRecord_stripEol o input hd hty hjson honly htrim hg hp hrepl)

/-- **C05, the buffered algorithm** (the statement of the property: inputs other than the empty
    one or a lone EOL).  An instance of `cutLines_eq_specLines_all`, which needs neither
    exclusion. -/
theorem cutLines_eq_specLines (o : Opt) (input : Bytes)
    (hd : o.delimiter = [o.eol.byte]) (hty : o.boundsType = .lines)
    (hre : o.regexBag = none) (hjson : o.json = false)
    (hz : AllNonzero o.bounds.list) (hL : LastMarked o.bounds.list)
    (honly : o.onlyDelimited = false) (htrim : o.trim = none) (hg : o.greedyDelimiter = false)
    (hp : o.compressDelimiter = false) (hrepl : o.replaceDelimiter = none)
    (hutf : validUtf8 input = true) (_h0 : input ≠ []) (_h1 : input ≠ [o.eol.byte]) :
    cutLines o input = specLines (cfgOf o) input :=
  cutLines_eq_specLines_all o input hd hty hre hjson hz hL honly htrim hg hp hrepl hutf

/-- the same for every bounds argument the parser accepts -/
theorem cutLines_eq_specLines_of_parsed (o : Opt) (input : Bytes) (arg : List Char)
    (hparse : boundsListOfString arg = .ok o.bounds)
    (hd : o.delimiter = [o.eol.byte]) (hty : o.boundsType = .lines)
    (hre : o.regexBag = none) (hjson : o.json = false)
    (honly : o.onlyDelimited = false) (htrim : o.trim = none) (hg : o.greedyDelimiter = false)
    (hp : o.compressDelimiter = false) (hrepl : o.replaceDelimiter = none)
    (hutf : validUtf8 input = true) :
    cutLines o input = specLines (cfgOf o) input :=
  have h := boundsListOfString_good arg o.bounds hparse
  cutLines_eq_specLines_all o input hd hty hre hjson h.1 h.2 honly htrim hg hp hrepl hutf

/-- input that is not UTF-8 is refused before anything is written -/
theorem cutLines_not_utf8 (o : Opt) (input : Bytes) (h : validUtf8 input = false) :
    cutLines o input = Run.fail := by
  simp [cutLines, h]

/-- **C05: both line algorithms print the same.**  For a plain forward-only request resolvable
    on the input (what `read_and_cut_lines` serves one line at a time), the buffered algorithm —
    which it would use had the request been written with a negative index or out of order —
    computes exactly the same run. -/
theorem lines_algorithms_agree (o : Opt) (input : Bytes) (bs : List UserBounds)
    (hplain : o.bounds.list = bs.map .bound)
    (hfwd : isForwardOnly o.bounds.list = true)
    (hres : ∀ b ∈ bs, resolve b (records o.eol.byte input).length ≠ none)
    (hL : LastMarked o.bounds.list)
    (hd : o.delimiter = [o.eol.byte]) (hty : o.boundsType = .lines)
    (hre : o.regexBag = none) (hjson : o.json = false)
    (honly : o.onlyDelimited = false) (htrim : o.trim = none) (hg : o.greedyDelimiter = false)
    (hp : o.compressDelimiter = false) (hrepl : o.replaceDelimiter = none)
    (hc : o.complement = false)
    (hutf : validUtf8 input = true) (h0 : input ≠ []) (h1 : input ≠ [o.eol.byte]) :
    readAndCutLines o input = cutLines o input := by
  have hz : AllNonzero o.bounds.list := by
    intro b hb
    rw [hplain] at hb
    obtain ⟨b', hb', hbb⟩ := List.mem_map.mp hb
    cases hbb
    exact nonzero_of_resolve (hres b hb')
  rw [cutLines_eq_specLines_all o input hd hty hre hjson hz hL honly htrim hg hp hrepl hutf]
  exact readAndCutLines_eq_spec o input bs hplain hfwd hres
    (validUtf8_records o.eol.byte (EOL.byte_ascii o.eol) input hutf) h0 h1 hc hp

theorem readAndCutLines_buffered (o : Opt) (input : Bytes)
    (h : o.complement = true ∨ o.compressDelimiter = true ∨ isForwardOnly o.bounds.list = false) :
    readAndCutLines o input = cutLines o input := by
  unfold readAndCutLines
  rcases h with h | h | h <;> simp [h]

/-- **C05 on the buffered path**: with `-m`, or for a request that is not forward-only (negative
    or reordered indexes, mixed signs), `read_and_cut_lines` is the buffered algorithm and hence
    `specLines` (under the hypotheses of `cutLines_eq_specLines_all`) -/
theorem readAndCutLines_buffered_eq_spec (o : Opt) (input : Bytes)
    (hbuf : o.complement = true ∨ isForwardOnly o.bounds.list = false)
    (hd : o.delimiter = [o.eol.byte]) (hty : o.boundsType = .lines)
    (hre : o.regexBag = none) (hjson : o.json = false)
    (hz : AllNonzero o.bounds.list) (hL : LastMarked o.bounds.list)
    (honly : o.onlyDelimited = false) (htrim : o.trim = none) (hg : o.greedyDelimiter = false)
    (hp : o.compressDelimiter = false) (hrepl : o.replaceDelimiter = none)
    (hutf : validUtf8 input = true) :
    readAndCutLines o input = specLines (cfgOf o) input := by
  rw [readAndCutLines_buffered o input (hbuf.imp_right Or.inr)]
  exact cutLines_eq_specLines_all o input hd hty hre hjson hz hL honly htrim hg hp hrepl hutf

/-- **C05, whichever algorithm is picked**: `read_and_cut_lines` is `specLines` — for a plain
    request resolvable on the input when it is forward-only and without `-m` (the hypotheses of
    the one-line-at-a-time theorem), for any request otherwise. -/
theorem readAndCutLines_eq_specLines (o : Opt) (input : Bytes)
    (hd : o.delimiter = [o.eol.byte]) (hty : o.boundsType = .lines)
    (hre : o.regexBag = none) (hjson : o.json = false)
    (hz : AllNonzero o.bounds.list) (hL : LastMarked o.bounds.list)
    (honly : o.onlyDelimited = false) (htrim : o.trim = none) (hg : o.greedyDelimiter = false)
    (hp : o.compressDelimiter = false) (hrepl : o.replaceDelimiter = none)
    (hutf : validUtf8 input = true) (h0 : input ≠ []) (h1 : input ≠ [o.eol.byte])
    (hfwdcase : o.complement = false → isForwardOnly o.bounds.list = true →
      ∃ bs : List UserBounds, o.bounds.list = bs.map .bound ∧
        ∀ b ∈ bs, resolve b (records o.eol.byte input).length ≠ none) :
    readAndCutLines o input = specLines (cfgOf o) input := by
  by_cases hbuf : o.complement = true ∨ isForwardOnly o.bounds.list = false
  · exact readAndCutLines_buffered_eq_spec o input hbuf hd hty hre hjson hz hL honly htrim hg hp
      hrepl hutf
  · rw [not_or, Bool.not_eq_true, Bool.not_eq_false] at hbuf
    obtain ⟨bs, hplain, hres⟩ := hfwdcase hbuf.1 hbuf.2
    exact readAndCutLines_eq_spec o input bs hplain hbuf.2 hres
      (validUtf8_records o.eol.byte (EOL.byte_ascii o.eol) input hutf) h0 h1 hbuf.1 hp

def c05bOpt (join m : Bool) (l : List BoF) : Opt :=
  { delimiter := [10], boundsType := .lines, join := join, complement := m,
    bounds := ⟨l, .cont⟩ }

/-- lines `""`, `a`, `bc` (a final EOL or not): `-l -1,1:2` joined is `bc⏎⏎a⏎`;
    `-m -l 2` is `⏎bc⏎`; `--no-join` glues the bounds -/
example :
    let l : List BoF := [.bound { l := .some (-1), r := .some (-1) },
                         .bound { l := .some 1, r := .some 2, isLast := true }]
    cutLines (c05bOpt true false l) [10, 97, 10, 98, 99, 10] = Run.ok [98, 99, 10, 10, 97, 10] ∧
    cutLines (c05bOpt true false l) [10, 97, 10, 98, 99] = Run.ok [98, 99, 10, 10, 97, 10] ∧
    specLines (cfgOf (c05bOpt true false l)) [10, 97, 10, 98, 99] = Run.ok [98, 99, 10, 10, 97, 10] ∧
    cutLines (c05bOpt false false l) [10, 97, 10, 98, 99] = Run.ok [98, 99, 10, 97, 10] ∧
    cutLines (c05bOpt true true [.bound { l := .some 2, r := .some 2, isLast := true }])
      [10, 97, 10, 98, 99] = Run.ok [10, 98, 99, 10] := by
  decide +kernel

end Tuc
