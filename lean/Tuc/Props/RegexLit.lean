import Tuc.Model.RegexLit
import Tuc.Model.Regex
import Tuc.Lemmas.Total
import Tuc.Lemmas.RegexSpec
import Tuc.Props.TextLoops
/-!
# Tuc.Props.RegexLit — the regex twins of the helpers of `cut_str.rs` refine the normal-form model

`Tuc.Model.RegexLit` follows the Rust text of `fill_with_fields_locations_using_regex`,
`compress_delimiter_with_regex`, `trim_regex` (cut_str.rs) and of `Regex::replace_all` → `replacen`
(regex 1.11.1, the `NoExpand` path) statement by statement, over the list `re line` of the
`(start, end)` that `re.find_iter(line)` yields, with every slice CHECKED.  Nothing is assumed of
that list in the model.  This file proves, for EVERY line, EVERY match list, every replacement, any
previous content of the reused buffer, that the outcome of a literal function is EXACTLY its normal form when a
decidable predicate of the match list holds, and a panic otherwise (`replaceAll_eq`, `trimRegexLit_eq`;
`fillWithFieldsLocationsUsingRegexLit_refines` unconditionally).

So the outcome of a literal function is its normal form or a panic, never a different value, and the
decidable predicates say EXACTLY which part of the contract of `find_iter` each function needs:

| function | needs | does not need |
|---|---|---|
| `fill_with_fields_locations_using_regex` | nothing | — |
| `replace_all` / `compress_delimiter_with_regex` (`ChainOK`) | sorted + non-overlapping (`prev.end ≤ start`), every start in range, the last end in range | `start ≤ end` |
| `trim_regex` (`TrimOK`) | left/both: the first match, if it starts at 0, ends in range; right/both: the last match, if it ends at `len`, has `start ≤ end` | order, non-overlap, anything about the other matches |

The project's contract `SortedMatches len 0 ms` (`Tuc.Lemmas.Total`; `RegexBag.OK` = both regexes of
the bag, every haystack) implies both predicates (`chainOK_of_sorted`, `trimOK_of_sorted`): under the contract NO slice of
`trim_regex` or `replace_all` panics and literal = normal form (`bag_refines`: the call sites of `cut_str`).  The evaluation ends with the witnesses that
the hypothesis cannot be dropped (a list violating the needed part makes the literal function
panic, where the normal form — whose `slice` truncates — returns a value).

**Can the real program reach a violating list?**  Only if `regex::bytes::Regex::find_iter` broke its
documented contract ("successive non-overlapping matches", spans of the haystack): the lists are
produced by `regex_automata`'s searcher (`util/iter.rs`), outside the model — this is the obligation
the regex crate carries, and C16's correspondence check compares its match positions with the
model's case by case.  Nothing in `cut_str.rs` re-checks it.

**EMPTY matches** (`start = end`; they do occur: `-e ' *'`, `-e 'x?'`).  `SortedMatches` says
`start ≤ end`, not `<`, so every theorem here covers them — at the edges, in the middle, repeated,
the empty line; the `-c` mode already runs the normal form on empty matches only (`charMatches`).
The stricter `StrictMatches` (`start < end`) is what the executable matcher `Tuc.Model.Regex`
guarantees (it excludes empty-capable expressions) and what the SPECIFICATION-level theorems of C16
about `-r` assume; it plays no role between the Rust text and the normal form.  With empty matches:
`trim_regex` trims nothing at an edge where the match is empty; when the trims cross (one match
covers the whole line) `.max(idx_start)` (l.239) turns `&line[len..0]` into `&line[len..len]`;
`replace_all` inserts the replacement at each empty match.  Literal = normal form in all of them
(the first sweep of the evaluation exhaustively, the subsection EMPTY matches concretely).

The Rust text of `trim_regex` (cut_str.rs:219-245) has ONE slice,
`&line[idx_start..idx_end]` (l.244), behind two `if trim_kind == …` tests (l.227, 236).
-/

namespace Tuc
namespace RegexLit
open TextLoops

/-- what `replace_all` needs of the match list (`lo` = where the previous match ended): every match
    starts at or after the end of the previous one and within the haystack, and the last one ends
    within the haystack.  (`start ≤ end` is NOT part of it.) -/
def ChainOK (n : Nat) : Nat → List (Nat × Nat) → Prop
  | lo, [] => lo ≤ n
  | lo, (s, e) :: t => lo ≤ s ∧ s ≤ n ∧ ChainOK n e t

instance ChainOK.dec (n : Nat) : ∀ (lo : Nat) (ms : List (Nat × Nat)), Decidable (ChainOK n lo ms)
  | lo, [] => inferInstanceAs (Decidable (lo ≤ n))
  | lo, (s, e) :: t =>
    have := ChainOK.dec n e t
    inferInstanceAs (Decidable (lo ≤ s ∧ s ≤ n ∧ ChainOK n e t))

def FirstOK (n : Nat) : Option (Nat × Nat) → Prop
  | none => True
  | some m => m.1 = 0 → m.2 ≤ n

def LastOK (n : Nat) : Option (Nat × Nat) → Prop
  | none => True
  | some m => m.2 = n → m.1 ≤ n

instance (n : Nat) : ∀ o, Decidable (FirstOK n o)
  | none => inferInstanceAs (Decidable True)
  | some m => inferInstanceAs (Decidable (m.1 = 0 → m.2 ≤ n))

instance (n : Nat) : ∀ o, Decidable (LastOK n o)
  | none => inferInstanceAs (Decidable True)
  | some m => inferInstanceAs (Decidable (m.2 = n → m.1 ≤ n))

/-- `TrimOK` on the first and the last match, all it depends on -/
def TrimOK' (n : Nat) (k : TrimKind) (first last : Option (Nat × Nat)) : Prop :=
  ((k = .both ∨ k = .left) → FirstOK n first) ∧ ((k = .both ∨ k = .right) → LastOK n last)

/-- what `trim_regex` needs of the match list: the first match in range when it is trimmed, the
    last match not reversed when it is trimmed.  (Nothing about the matches in between, nothing about
    order or overlap.) -/
def TrimOK (n : Nat) (k : TrimKind) (ms : List (Nat × Nat)) : Prop := TrimOK' n k ms.head? ms.getLast?

instance (n : Nat) (k : TrimKind) (f l : Option (Nat × Nat)) : Decidable (TrimOK' n k f l) :=
  inferInstanceAs (Decidable (_ ∧ _))

instance (n : Nat) (k : TrimKind) (ms : List (Nat × Nat)) : Decidable (TrimOK n k ms) :=
  inferInstanceAs (Decidable (TrimOK' _ _ _ _))

instance sortedDec (n : Nat) : ∀ (lo : Nat) (ms : List (Nat × Nat)), Decidable (SortedMatches n lo ms)
  | _, [] => inferInstanceAs (Decidable True)
  | lo, (s, e) :: t =>
    have := sortedDec n e t
    inferInstanceAs (Decidable (lo ≤ s ∧ s ≤ e ∧ e ≤ n ∧ SortedMatches n e t))

/-- every match list of at most `depth` items that satisfies the contract `SortedMatches n lo`
    (EMPTY matches included, also several at the same place) -/
def contractLists (n : Nat) : Nat → Nat → List (List (Nat × Nat))
  | 0, _ => [[]]
  | depth + 1, lo =>
    [] :: (List.range (n + 1)).flatMap fun s => (List.range (n + 1)).flatMap fun e =>
      if lo ≤ s ∧ s ≤ e then (contractLists n depth e).map fun t => (s, e) :: t else []

/-- every list of at most `depth` pairs with both sides in `0..=n+1`, contract or not -/
def anyLists (n : Nat) : Nat → List (List (Nat × Nat))
  | 0 => [[]]
  | depth + 1 =>
    [] :: (List.range (n + 2)).flatMap fun s => (List.range (n + 2)).flatMap fun e =>
      (anyLists n depth).map fun t => (s, e) :: t

/-- the line `a b c …` of `n` distinct bytes -/
def lineOf (n : Nat) : Bytes := (List.range n).map fun i => (97 + i).toUInt8

def kinds : List TrimKind := [.left, .right, .both]
def dirtyRanges : List Range := [⟨7, 9⟩, ⟨0, 0⟩]

#guard (contractLists 4 4 0).length == 791
#guard (contractLists 4 4 0).all fun ms => decide (SortedMatches 4 0 ms)
#guard (anyLists 3 2).length == 651

#guard (List.range 5).all fun n => (anyLists n 2).all fun ms =>
  fillWithFieldsLocationsUsingRegexLit dirtyRanges (lineOf n) (fun _ => ms) ==
    .ok (fillWithFieldsLocationsUsingRegex dirtyRanges (lineOf n) ms)

theorem fillReFor_cons (m : Nat × Nat) (t : List (Nat × Nat)) (buffer : List Range) (prev : Nat) :
    fillReFor (m :: t) buffer prev = fillReFor t (buffer ++ [⟨prev, m.1⟩]) m.2 := rfl

theorem fillReFor_eq (len : Nat) :
    ∀ (ms : List (Nat × Nat)) (buffer : List Range) (prev : Nat),
      push (fillReFor ms buffer prev).1 ⟨(fillReFor ms buffer prev).2, len⟩ =
        buffer ++ rangesBetweenMatches len prev ms := by
  intro ms
  induction ms with
  | nil => intro buffer prev; rfl
  | cons m t ih =>
    intro buffer prev
    obtain ⟨s, e⟩ := m
    rw [fillReFor_cons, ih]
    simp [rangesBetweenMatches]

/-- **`fill_with_fields_locations_using_regex`: the loop is the normal form**, for every line, EVERY
    match list (no part of the contract is needed: the function only copies offsets) and any
    previous content of the buffer; it cannot panic. -/
theorem fillWithFieldsLocationsUsingRegexLit_refines (buffer : List Range) (line : Bytes)
    (re : Bytes → List (Nat × Nat)) :
    fillWithFieldsLocationsUsingRegexLit buffer line re =
      .ok (fillWithFieldsLocationsUsingRegex buffer line (re line)) := by
  unfold fillWithFieldsLocationsUsingRegexLit fillWithFieldsLocationsUsingRegex
  by_cases hl : line.isEmpty = true
  · simp only [hl, if_true]; rfl
  · simp only [hl, Bool.false_eq_true, if_false]
    have := fillReFor_eq line.length (re line) (clear buffer) 0
    simp only [clear, List.nil_append] at this
    rw [← this]
    rfl

/-! `bind_panic`, `sliceRange_eq`, `sliceFrom_eq` in this namespace: the laws themselves are `TextLoops.*` of `Lemmas/Checked` -/

theorem bind_panic {α β : Type} (f : α → Outcome β) : (Outcome.panic : Outcome α).bind f = .panic :=
  TextLoops.bind_panic f

theorem sliceRange_eq {α : Type} (l : List α) (a b : Nat) :
    sliceRange l a b = if a ≤ b ∧ b ≤ l.length then .ok (slice l a b) else .panic :=
  TextLoops.sliceRange_eq l a b

theorem sliceFrom_eq {α : Type} (l : List α) (a : Nat) :
    sliceFrom l a = if a ≤ l.length then .ok (l.drop a) else .panic :=
  TextLoops.sliceFrom_eq l a

/-- l.946, `limit > 0 && i >= limit - 1`: the subtraction is guarded and cannot underflow -/
theorem replacenBreak (limit i : Nat) :
    (if limit > 0 then (checkedSub limit 1).bind fun l => Outcome.ok (decide (i ≥ l))
      else .ok false) = .ok (decide (limit > 0 ∧ i ≥ limit - 1)) := by
  by_cases h : limit > 0
  · rw [if_pos h, checkedSub_ok h, bind_ok]
    simp [h]
  · simp [h]

theorem replacenFor_eq (haystack rep : Bytes) (limit : Nat) :
    ∀ (ms : List (Nat × Nat)) (i : Nat) (new : Bytes) (lastMatch : Nat), limit = 0 ∨ i < limit →
      (replacenFor haystack rep limit (enumerateFrom i ms) new lastMatch).bind
          (replacenFinish haystack) =
        if ChainOK haystack.length lastMatch (if limit = 0 then ms else ms.take (limit - i)) then
          .ok (Cow.owned (new ++ replaceMatches haystack rep lastMatch
            (if limit = 0 then ms else ms.take (limit - i))))
        else .panic := by
  intro ms
  induction ms with
  | nil =>
    intro i new lastMatch _
    simp only [List.take_nil, ite_self, enumerateFrom, replacenFor, bind_ok, replacenFinish,
      sliceFrom_eq, replaceMatches, extend]
    by_cases h : lastMatch ≤ haystack.length
    · rw [if_pos h, if_pos (show ChainOK haystack.length lastMatch [] from h)]; rfl
    · rw [if_neg h, if_neg (show ¬ ChainOK haystack.length lastMatch [] from h)]; rfl
  | cons m t ih =>
    intro i new lastMatch hi
    obtain ⟨s, e⟩ := m
    -- the matches taken: this one, and unless the loop breaks here those taken from `i + 1` on
    have htake : (if limit = 0 then (s, e) :: t else ((s, e) :: t).take (limit - i)) =
        (s, e) :: (if limit > 0 ∧ i ≥ limit - 1 then []
          else if limit = 0 then t else t.take (limit - (i + 1))) := by
      rcases hi with rfl | hi
      · simp
      · have h1 : limit - i = limit - (i + 1) + 1 := by omega
        have h0 : limit ≠ 0 := by omega
        rw [if_neg h0, if_neg h0, h1, List.take_succ_cons]
        by_cases hb : limit > 0 ∧ i ≥ limit - 1
        · have h2 : limit - (i + 1) = 0 := by omega
          rw [if_pos hb, h2, List.take_zero]
        · rw [if_neg hb]
    rw [htake]
    simp only [enumerateFrom, replacenFor, sliceRange_eq, mStart, mEnd, replacenBreak, bind_ok]
    by_cases h : lastMatch ≤ s ∧ s ≤ haystack.length
    · rw [if_pos h]
      simp only [bind_ok]
      by_cases hb : limit > 0 ∧ i ≥ limit - 1
      · simp only [hb, and_self, decide_true, if_true, bind_ok, replacenFinish, sliceFrom_eq,
          replaceMatches, extend]
        by_cases he : e ≤ haystack.length
        · rw [if_pos he, if_pos (show ChainOK haystack.length lastMatch [(s, e)] from ⟨h.1, h.2, he⟩)]
          simp only [bind_ok, List.append_assoc]
        · rw [if_neg he, if_neg (fun hc : ChainOK haystack.length lastMatch [(s, e)] => he hc.2.2)]
          rfl
      · simp only [hb, decide_false, Bool.false_eq_true, if_false]
        rw [ih (i + 1) _ _ (by omega)]
        generalize (if limit = 0 then t else t.take (limit - (i + 1))) = t'
        by_cases hc : ChainOK haystack.length e t'
        · rw [if_pos hc, if_pos (show ChainOK haystack.length lastMatch ((s, e) :: t') from
            ⟨h.1, h.2, hc⟩)]
          simp only [extend, replaceMatches, List.append_assoc]
        · rw [if_neg hc, if_neg (fun hc' : ChainOK haystack.length lastMatch ((s, e) :: t') =>
            hc hc'.2.2)]
    · rw [if_neg h, bind_panic, bind_panic, if_neg]
      exact fun hc => h ⟨hc.1, hc.2.1⟩

/-- **`Regex::replace_all` with `NoExpand`, exactly**: `Cow::Borrowed(haystack)` when there is no
    match, `Cow::Owned(normal form)` otherwise — provided the chain of slices holds; a panic when
    it does not.  Every haystack, every replacement, EVERY match list. -/
theorem replaceAll_eq (re : Bytes → List (Nat × Nat)) (haystack rep : Bytes) :
    replaceAll re haystack rep =
      if ChainOK haystack.length 0 (re haystack) then
        .ok (if (re haystack).isEmpty then Cow.borrowed haystack
             else Cow.owned (replaceMatches haystack rep 0 (re haystack)))
      else .panic := by
  unfold replaceAll replacen noExpansion enumerate
  cases hms : re haystack with
  | nil => rw [if_pos (show ChainOK haystack.length 0 [] from Nat.zero_le _)]; rfl
  | cons m t =>
    have := replacenFor_eq haystack rep 0 (m :: t) 0 [] 0 (Or.inl rfl)
    simp only [enumerateFrom] at this ⊢
    rw [this]
    simp

theorem replaceAll_deref (re : Bytes → List (Nat × Nat)) (haystack rep : Bytes) :
    omap Cow.deref (replaceAll re haystack rep) =
      if ChainOK haystack.length 0 (re haystack) then
        .ok (replaceMatches haystack rep 0 (re haystack))
      else .panic := by
  rw [replaceAll_eq]
  by_cases h : ChainOK haystack.length 0 (re haystack)
  · simp only [h, if_true, omap, bind_ok]
    cases hms : re haystack with
    | nil => simp [Cow.deref, replaceMatches]
    | cons m t => simp [Cow.deref]
  · simp only [h, if_false, omap, bind_panic]

/-- `iter.last().or(first_match)` after `iter.next()` gave `first_match`: the last of all items -/
theorem iterLast_or_first {α : Type} (m : α) (t : List α) :
    (iterLast t).or (some m) = (m :: t).getLast? := by
  unfold iterLast
  cases t with
  | nil => rfl
  | cons a t' => rw [List.getLast?_cons_cons]; cases h : (a :: t').getLast? with
    | none => simp at h
    | some x => rfl

/-- the two cursors of `trim_regex`, from the first and the last match -/
def trimIdxStart (k : TrimKind) (first : Option (Nat × Nat)) : Nat :=
  if k = .both ∨ k = .left then
    match first with
    | some (s, e) => if s = 0 then e else 0
    | none => 0
  else 0

def trimIdxEnd (n : Nat) (k : TrimKind) (idxStart : Nat) (last : Option (Nat × Nat)) : Nat :=
  if k = .both ∨ k = .right then
    match last with
    | some (s, e) => if e = n then max s idxStart else n
    | none => n
  else n

theorem trimRegexLit_idx (line : Bytes) (k : TrimKind) (ms : List (Nat × Nat)) :
    trimRegexLit line k (fun _ => ms) =
      sliceRange line (trimIdxStart k ms.head?)
        (trimIdxEnd line.length k (trimIdxStart k ms.head?) ms.getLast?) := by
  unfold trimIdxStart trimIdxEnd
  unfold trimRegexLit
  cases ms with
  | nil => cases k <;> simp [iterNext, iterLast]
  | cons m t =>
    obtain ⟨s, e⟩ := m
    -- `.left`: only `iter.next()` is consulted.  `.right`: `first_match` is still `None`, so l.237 is `iter.last()` of the
    -- whole iterator (`Option.or_none`).  `.both`: `iter.last()` runs on the iterator AFTER `next()` and falls back to the
    -- first match when nothing is left: together the last of all items (`iterLast_or_first`)
    cases k
    · simp [iterNext]
    · simp only [iterLast, Option.or_none, reduceCtorEq, or_false, false_or, if_false, eq_self,
        if_true]
      generalize ((s, e) :: t).getLast? = o
      cases o with
      | none => rfl
      | some m => obtain ⟨a, b⟩ := m; simp
    · simp only [iterNext, eq_self, true_or, if_true]
      rw [iterLast_or_first]
      generalize ((s, e) :: t).getLast? = o
      cases o with
      | none => rfl
      | some m => obtain ⟨a, b⟩ := m; rfl

theorem trimRegex_idx (line : Bytes) (k : TrimKind) (ms : List (Nat × Nat)) :
    trimRegex line k ms =
      slice line (trimIdxStart k ms.head?)
        (trimIdxEnd line.length k (trimIdxStart k ms.head?) ms.getLast?) := rfl

theorem trimIdxStart_le_iff (n : Nat) (k : TrimKind) (f : Option (Nat × Nat)) :
    trimIdxStart k f ≤ n ↔ ((k = .both ∨ k = .left) → FirstOK n f) := by
  unfold trimIdxStart FirstOK
  by_cases hk : k = .both ∨ k = .left
  · rw [if_pos hk]
    cases f with
    | none => simp
    | some m =>
      obtain ⟨s, e⟩ := m
      by_cases hs : s = 0 <;> simp [hk, hs]
  · simp [hk]

theorem trimIdxEnd_ok_iff (n : Nat) (k : TrimKind) (l : Nat) (last : Option (Nat × Nat)) :
    (l ≤ trimIdxEnd n k l last ∧ trimIdxEnd n k l last ≤ n) ↔
      l ≤ n ∧ ((k = .both ∨ k = .right) → LastOK n last) := by
  unfold trimIdxEnd LastOK
  by_cases hk : k = .both ∨ k = .right
  · rw [if_pos hk]
    cases last with
    | none => simp
    | some m =>
      obtain ⟨s, e⟩ := m
      by_cases he : e = n
      · simp only [he, if_true, hk, forall_const]
        omega
      · simp [hk, he]
  · simp [hk]

theorem trimIdx_ok_iff (n : Nat) (k : TrimKind) (f l : Option (Nat × Nat)) :
    (trimIdxStart k f ≤ trimIdxEnd n k (trimIdxStart k f) l ∧
      trimIdxEnd n k (trimIdxStart k f) l ≤ n) ↔ TrimOK' n k f l := by
  rw [trimIdxEnd_ok_iff, trimIdxStart_le_iff]
  rfl
/-- **`trim_regex`, exactly**: the normal form when the slice of l.244 is in bounds (`TrimOK`), a
    panic when it is not.  Every line, every kind, EVERY match list. -/
theorem trimRegexLit_eq (line : Bytes) (k : TrimKind) (re : Bytes → List (Nat × Nat)) :
    trimRegexLit line k re =
      if TrimOK line.length k (re line) then .ok (trimRegex line k (re line)) else .panic := by
  show trimRegexLit line k (fun _ => re line) = _
  rw [trimRegexLit_idx, trimRegex_idx, sliceRange_eq]
  have hiff := trimIdx_ok_iff line.length k (re line).head? (re line).getLast?
  by_cases h : TrimOK line.length k (re line)
  · rw [if_pos h, if_pos (hiff.mpr h)]
  · rw [if_neg h, if_neg (fun hc => h (hiff.mp hc))]

theorem compressDelimiterWithRegexLit_deref (line : Bytes) (re : Bytes → List (Nat × Nat))
    (newDelimiter : Bytes) :
    omap Cow.deref (compressDelimiterWithRegexLit line re newDelimiter) =
      if ChainOK line.length 0 (re line) then .ok (replaceMatches line newDelimiter 0 (re line))
      else .panic :=
  replaceAll_deref re line newDelimiter

theorem maybeReplaceDelimiterLit_deref (text : Bytes) (opt : Opt)
    (h : ∀ bag, opt.regexBag = some bag → ChainOK text.length 0 (bag.normal text)) :
    omap Cow.deref (maybeReplaceDelimiterLit text opt) =
      .ok (CutStrLit.maybeReplaceDelimiterLit text opt) := by
  unfold maybeReplaceDelimiterLit CutStrLit.maybeReplaceDelimiterLit
  by_cases hb : opt.boundsType = .characters
  · simp only [hb, if_true]; rfl
  · simp only [hb, if_false]
    cases hr : opt.replaceDelimiter with
    | none => rfl
    | some nd =>
      cases hg : opt.regexBag with
      | none => rfl
      | some bag =>
        dsimp only
        rw [replaceAll_deref, if_pos (h bag hg)]

theorem chainOK_of_sorted {n : Nat} : ∀ {ms : List (Nat × Nat)} {lo : Nat},
    SortedMatches n lo ms → lo ≤ n → ChainOK n lo ms
  | [], _, _, hlo => hlo
  | (_, _) :: _, _, h, _ => ⟨h.1, Nat.le_trans h.2.1 h.2.2.1, chainOK_of_sorted h.2.2.2 h.2.2.1⟩

theorem trimOK_of_inRange {n : Nat} (k : TrimKind) (ms : List (Nat × Nat))
    (h : ∀ m ∈ ms, m.1 ≤ m.2 ∧ m.2 ≤ n) : TrimOK n k ms := by
  refine ⟨fun _ => ?_, fun _ => ?_⟩
  · cases hh : ms.head? with
    | none => trivial
    | some m => exact fun _ => (h m (List.mem_of_mem_head? hh)).2
  · cases hl : ms.getLast? with
    | none => trivial
    | some m =>
      have := h m (List.mem_of_getLast? hl)
      exact fun _ => Nat.le_trans this.1 this.2

theorem trimOK_of_sorted {n lo : Nat} (k : TrimKind) {ms : List (Nat × Nat)}
    (h : SortedMatches n lo ms) : TrimOK n k ms :=
  trimOK_of_inRange k ms fun m hm => (h.mem m hm).2

theorem trimRegexLit_refines (line : Bytes) (k : TrimKind) (re : Bytes → List (Nat × Nat))
    (h : SortedMatches line.length 0 (re line)) :
    trimRegexLit line k re = .ok (trimRegex line k (re line)) := by
  rw [trimRegexLit_eq, if_pos (trimOK_of_sorted k h)]

theorem replaceAll_refines (re : Bytes → List (Nat × Nat)) (haystack rep : Bytes)
    (h : SortedMatches haystack.length 0 (re haystack)) :
    omap Cow.deref (replaceAll re haystack rep) = .ok (replaceMatches haystack rep 0 (re haystack)) := by
  rw [replaceAll_deref, if_pos (chainOK_of_sorted h (Nat.zero_le _))]

theorem compressDelimiterWithRegexLit_refines (line : Bytes) (re : Bytes → List (Nat × Nat))
    (newDelimiter : Bytes) (h : SortedMatches line.length 0 (re line)) :
    omap Cow.deref (compressDelimiterWithRegexLit line re newDelimiter) =
      .ok (replaceMatches line newDelimiter 0 (re line)) :=
  replaceAll_refines re line newDelimiter h

/-- the call sites of `cut_str` that hand a regex of the bag to a twin (l.286 `trim_regex(.., greedy)`,
    l.317-321 `compress_delimiter_with_regex(.., greedy, ..)`, l.334-342
    `fill_with_fields_locations_using_regex(.., greedy | normal)`), for a bag that honours the contract;
    `maybe_replace_delimiter` (l.154-156) is `maybeReplaceDelimiterLit_refines` -/
theorem bag_refines (bag : RegexBag) (hok : bag.OK) (line : Bytes) :
    (∀ k, trimRegexLit line k bag.greedy = .ok (trimRegex line k (bag.greedy line))) ∧
    (∀ nd, omap Cow.deref (compressDelimiterWithRegexLit line bag.greedy nd) =
      .ok (replaceMatches line nd 0 (bag.greedy line))) ∧
    (∀ buffer, fillWithFieldsLocationsUsingRegexLit buffer line bag.greedy =
      .ok (fillWithFieldsLocationsUsingRegex buffer line (bag.greedy line))) ∧
    (∀ buffer, fillWithFieldsLocationsUsingRegexLit buffer line bag.normal =
      .ok (fillWithFieldsLocationsUsingRegex buffer line (bag.normal line))) :=
  ⟨fun k => trimRegexLit_refines line k _ (hok line).2,
   fun nd => compressDelimiterWithRegexLit_refines line _ nd (hok line).2,
   fun buffer => fillWithFieldsLocationsUsingRegexLit_refines buffer line _,
   fun buffer => fillWithFieldsLocationsUsingRegexLit_refines buffer line _⟩

theorem maybeReplaceDelimiterLit_refines (text : Bytes) (opt : Opt)
    (hok : ∀ bag, opt.regexBag = some bag → bag.OK) :
    omap Cow.deref (maybeReplaceDelimiterLit text opt) =
      .ok (CutStrLit.maybeReplaceDelimiterLit text opt) :=
  maybeReplaceDelimiterLit_deref text opt fun bag hb =>
    chainOK_of_sorted (hok bag hb text).1 (Nat.zero_le _)

/-! ## `replacen` with a limit (not used by tuc; shows the transcription of l.946-948) -/

/-- `replacen(haystack, limit, NoExpand(rep))` with `limit > 0` replaces the first `limit` matches
    (and `limit - 1` at l.946 cannot underflow: it is guarded by `limit > 0`) -/
theorem replacen_limit_deref (re : Bytes → List (Nat × Nat)) (haystack rep : Bytes) (L : Nat) :
    omap Cow.deref (replacen re haystack (L + 1) rep) =
      if ChainOK haystack.length 0 ((re haystack).take (L + 1)) then
        .ok (replaceMatches haystack rep 0 ((re haystack).take (L + 1)))
      else .panic := by
  unfold replacen noExpansion enumerate
  cases hms : re haystack with
  | nil =>
    rw [List.take_nil, if_pos (show ChainOK haystack.length 0 [] from Nat.zero_le _)]
    simp [omap, enumerateFrom, Cow.deref, replaceMatches]
  | cons m t =>
    have := replacenFor_eq haystack rep (L + 1) (m :: t) 0 [] 0 (Or.inr (Nat.succ_pos L))
    simp only [enumerateFrom, Nat.sub_zero, Nat.succ_ne_zero, if_false] at this ⊢
    rw [this]
    by_cases hc : ChainOK haystack.length 0 ((m :: t).take (L + 1))
    · rw [if_pos hc, if_pos hc]; simp [omap, Cow.deref]
    · rw [if_neg hc, if_neg hc]; rfl

/-! ## evaluation: exhaustive comparison, the empty matches, the witnesses

`X` = 88, space = 32, `a b c d` = 97 98 99 100. -/

/-! ### every line of `n ≤ 4` distinct bytes × EVERY match list of at most 4 items that
satisfies the contract (empty matches, repeated empty matches, matches at both edges included):
literal = normal form, no panic -/

#guard (List.range 5).all fun n => (contractLists n 4 0).all fun ms => kinds.all fun k =>
  trimRegexLit (lineOf n) k (fun _ => ms) == .ok (trimRegex (lineOf n) k ms)

#guard (List.range 5).all fun n => (contractLists n 4 0).all fun ms =>
  replaceAll (fun _ => ms) (lineOf n) [88] ==
    .ok (if ms.isEmpty then Cow.borrowed (lineOf n) else Cow.owned (replaceMatches (lineOf n) [88] 0 ms))

#guard (List.range 5).all fun n => (contractLists n 4 0).all fun ms =>
  omap Cow.deref (compressDelimiterWithRegexLit (lineOf n) (fun _ => ms) []) ==
    .ok (replaceMatches (lineOf n) [] 0 ms)

#guard (List.range 5).all fun n => (contractLists n 4 0).all fun ms =>
  fillWithFieldsLocationsUsingRegexLit dirtyRanges (lineOf n) (fun _ => ms) ==
    .ok (fillWithFieldsLocationsUsingRegex dirtyRanges (lineOf n) ms)

/-! ### every line of `n ≤ 3` distinct bytes × EVERY list of at most 2 pairs with sides in
`0..=n+1`, contract or not: the literal function panics exactly when the predicate fails, and is the
normal form otherwise (`trimRegexLit_eq`, `replaceAll_eq` by evaluation) -/

#guard (List.range 4).all fun n => (anyLists n 2).all fun ms => kinds.all fun k =>
  trimRegexLit (lineOf n) k (fun _ => ms) ==
    if TrimOK n k ms then .ok (trimRegex (lineOf n) k ms) else .panic

#guard (List.range 4).all fun n => (anyLists n 2).all fun ms =>
  omap Cow.deref (replaceAll (fun _ => ms) (lineOf n) [88]) ==
    if ChainOK n 0 ms then .ok (replaceMatches (lineOf n) [88] 0 ms) else .panic

-- the contract implies both predicates, and is strictly stronger than each
#guard (List.range 4).all fun n => (anyLists n 2).all fun ms =>
  !decide (SortedMatches n 0 ms) || (decide (ChainOK n 0 ms) && kinds.all fun k => decide (TrimOK n k ms))
#guard decide (ChainOK 3 0 [(2, 1)]) && !decide (SortedMatches 3 0 [(2, 1)])
#guard decide (TrimOK 3 .both [(0, 2), (1, 3)]) && !decide (SortedMatches 3 0 [(0, 2), (1, 3)])

/-! ### the executable matcher of `Tuc.Model.Regex` (the bag of `-e ' '`: ` ` and `( )+`) on
every line of at most 6 bytes over `{a, space}` -/

def spaceBag : RegexBag := Re.bag (.byte 32)
def spaceLines : List Bytes := (List.range 7).flatMap (TextLoops.linesOfLength [97, 32])

#guard spaceLines.length == 127
#guard spaceLines.all fun line => kinds.all fun k =>
  trimRegexLit line k spaceBag.greedy == .ok (trimRegex line k (spaceBag.greedy line))
#guard spaceLines.all fun line =>
  omap Cow.deref (compressDelimiterWithRegexLit line spaceBag.greedy [88]) ==
    .ok (replaceMatches line [88] 0 (spaceBag.greedy line))
#guard spaceLines.all fun line =>
  omap Cow.deref (replaceAll spaceBag.normal line [88]) ==
    .ok (replaceMatches line [88] 0 (spaceBag.normal line))
#guard spaceLines.all fun line =>
  fillWithFieldsLocationsUsingRegexLit dirtyRanges line spaceBag.normal ==
    .ok (fillWithFieldsLocationsUsingRegex dirtyRanges line (spaceBag.normal line))

-- `  a  a ` : the greedy matches are the three runs; `-t` both removes the outer two
#guard spaceBag.greedy [32, 32, 97, 32, 32, 97, 32] == [(0, 2), (3, 5), (6, 7)]
#guard trimRegexLit [32, 32, 97, 32, 32, 97, 32] .both spaceBag.greedy == .ok [97, 32, 32, 97]
#guard omap Cow.deref (compressDelimiterWithRegexLit [32, 32, 97, 32, 32, 97, 32] spaceBag.greedy [88]) ==
  .ok [88, 97, 88, 97, 88]
-- a line that is one run of delimiters: the two trims CROSS (`idx_start = 3`, `m.start() = 0`):
-- `.max(idx_start)` of l.239 makes the slice `&line[3..3]`
#guard spaceBag.greedy [32, 32, 32] == [(0, 3)]
#guard trimRegexLit [32, 32, 32] .both spaceBag.greedy == .ok []
-- without the `.max(idx_start)` the slice would be `&line[3..0]`
#guard (sliceRange ([32, 32, 32] : Bytes) 3 0) == .panic

/-! ### EMPTY matches.  An expression that can match the empty string (`-e ' *'`, `-e 'x?'`)
makes `find_iter` report empty matches: for ` *` over `a b` the items are `(0,0) (1,2) (3,3)`, over
`ab` they are `(0,0) (1,1) (2,2)` (an empty match is reported at every position that is not the end of
the previous match, the two edges included).  They satisfy `SortedMatches` — which says `start ≤ end`,
NOT `start < end` — so the `…_refines` theorems (under `SortedMatches`) cover them. -/

/-- ` *` over `a b` -/
def starOverAB : List (Nat × Nat) := [(0, 0), (1, 2), (3, 3)]
def lineAB : Bytes := [97, 32, 98]

example : SortedMatches lineAB.length 0 starOverAB := by decide

-- `-t`: an empty match at an edge trims nothing (`idx_start = m.end() = 0`, `idx_end = m.start() = len`)
#guard kinds.all fun k => trimRegexLit lineAB k (fun _ => starOverAB) == .ok lineAB
#guard kinds.all fun k => trimRegex lineAB k starOverAB == lineAB
-- fields: an empty field before the first and after the last empty match
#guard fillWithFieldsLocationsUsingRegexLit [] lineAB (fun _ => starOverAB) ==
  .ok [⟨0, 0⟩, ⟨0, 1⟩, ⟨2, 3⟩, ⟨3, 3⟩]
-- `replace_all`: the replacement is inserted at the empty matches, `Xa X b X`… literally `XaXbX`
#guard replaceAll (fun _ => starOverAB) lineAB [88] == .ok (Cow.owned [88, 97, 88, 98, 88])
#guard replaceMatches lineAB [88] 0 starOverAB == [88, 97, 88, 98, 88]
-- empty matches only, in the middle too (` *` over `ab`)
#guard replaceAll (fun _ => [(0, 0), (1, 1), (2, 2)]) [97, 98] [88] == .ok (Cow.owned [88, 97, 88, 98, 88])
#guard trimRegexLit [97, 98] .both (fun _ => [(0, 0), (1, 1), (2, 2)]) == .ok [97, 98]
-- the empty line: one empty match `(0,0)`, first and last at once
#guard kinds.all fun k => trimRegexLit [] k (fun _ => [(0, 0)]) == .ok []
#guard replaceAll (fun _ => [(0, 0)]) [] [88] == .ok (Cow.owned [88])
-- leading run then empty match at the end: `  a` under ` *` gives `(0,2) (3,3)`
#guard trimRegexLit [32, 32, 97] .both (fun _ => [(0, 2), (3, 3)]) == .ok [97]
-- a list the contract allows but the crate never reports (empty match glued to the previous one)
#guard trimRegexLit [32, 32, 32] .both (fun _ => [(0, 3), (3, 3)]) == .ok []
#guard replaceAll (fun _ => [(0, 3), (3, 3)]) [32, 32, 32] [88] == .ok (Cow.owned [88, 88])

/-! ### the obligation the regex crate carries: WITNESSES.  A list that violates the part of
the contract a function needs makes it panic (never: differ silently — `trimRegexLit_eq` and
`replaceAll_eq` say the outcome is the normal form or a panic, nothing else). -/

/-- `replace_all` needs NON-OVERLAPPING: `(0,2) (1,3)` over `abc` → `&haystack[2..1]` -/
example : replaceAll (fun _ => [(0, 2), (1, 3)]) [97, 98, 99] [88] = .panic := by decide
/-- `replace_all` needs SORTED: `(2,3) (0,1)` over `abc` → `&haystack[3..0]` -/
example : replaceAll (fun _ => [(2, 3), (0, 1)]) [97, 98, 99] [88] = .panic := by decide
/-- `replace_all` needs IN RANGE (a start): `(4,5)` over `abc` → `&haystack[0..4]` -/
example : replaceAll (fun _ => [(4, 5)]) [97, 98, 99] [88] = .panic := by decide
/-- `replace_all` needs IN RANGE (the last end): `(0,5)` over `abc` → `&haystack[5..]` -/
example : replaceAll (fun _ => [(0, 5)]) [97, 98, 99] [88] = .panic := by decide
/-- `replace_all` does NOT need `start ≤ end`: `(2,1)` over `abc` gives `abXbc`, as the normal form -/
example : replaceAll (fun _ => [(2, 1)]) [97, 98, 99] [88] = .ok (Cow.owned [97, 98, 88, 98, 99]) := by
  decide
example : replaceMatches [97, 98, 99] [88] 0 [(2, 1)] = [97, 98, 88, 98, 99] := by decide

/-- `trim_regex` (left) needs IN RANGE of the first match: `(0,5)` over `abc` → `&line[5..3]` -/
example : trimRegexLit [97, 98, 99] .left (fun _ => [(0, 5)]) = .panic := by decide
/-- … where the normal form, whose slice cannot panic, says "empty" -/
example : trimRegex [97, 98, 99] .left [(0, 5)] = [] := by decide
/-- `trim_regex` (right) needs `start ≤ end` of the last match: `(4,3)` over `abc` → `&line[0..4]` -/
example : trimRegexLit [97, 98, 99] .right (fun _ => [(4, 3)]) = .panic := by decide
example : trimRegex [97, 98, 99] .right [(4, 3)] = [97, 98, 99] := by decide
/-- `trim_regex` needs NEITHER sorted NOR non-overlapping: `(0,2) (1,3)` over `abc` -/
example : trimRegexLit [97, 98, 99] .both (fun _ => [(0, 2), (1, 3)]) = .ok [] := by decide
/-- `fill_with_fields_locations_using_regex` needs nothing (it slices nothing; the ranges it builds
    are sliced by `cut_str`, l.420-425, whose checks are those of `Tuc.Model.CutStrLit`) -/
example : fillWithFieldsLocationsUsingRegexLit [] [97, 98, 99] (fun _ => [(7, 9), (2, 1)]) =
    .ok [⟨0, 7⟩, ⟨9, 2⟩, ⟨1, 3⟩] := by decide

/-- the bag of an expression of the family of `Tuc.Model.Regex` honours the contract
    (`Re.bag_ok`): `bag_refines` applies to it -/
example (line : Bytes) (k : TrimKind) :
    trimRegexLit line k spaceBag.greedy = .ok (trimRegex line k (spaceBag.greedy line)) :=
  (bag_refines spaceBag (Re.bag_ok _) line).1 k

/-- a contract-satisfying list with empty matches at both edges and a non-empty one in the middle -/
example : trimRegexLit lineAB .both (fun _ => starOverAB) = .ok (trimRegex lineAB .both starOverAB) :=
  trimRegexLit_refines lineAB .both _ (by decide)

example : omap Cow.deref (replaceAll (fun _ => starOverAB) lineAB [88]) =
    .ok (replaceMatches lineAB [88] 0 starOverAB) :=
  replaceAll_refines _ lineAB [88] (by decide)

example : omap Cow.deref (maybeReplaceDelimiterLit lineAB
      { delimiter := [], bounds := default, replaceDelimiter := some [88], regexBag := some spaceBag }) =
    .ok [97, 88, 98] := by
  rw [maybeReplaceDelimiterLit_refines _ _ (by intro b hb; cases hb; exact Re.bag_ok _)]
  simp [CutStrLit.maybeReplaceDelimiterLit, spaceBag, Re.bag, Re.findIter, Re.findIterAux, Re.matchLen,
    Re.run_byte_cons, replaceMatches, slice, lineAB]

-- `replacen` with a limit: the first `limit` matches (`limit = 0`: all of them)
#guard omap Cow.deref (replacen (fun _ => [(0, 1), (2, 3), (4, 5)]) [97, 98, 99, 100, 101] 2 [88]) ==
  .ok [88, 98, 88, 100, 101]
#guard omap Cow.deref (replacen (fun _ => [(0, 1), (2, 3), (4, 5)]) [97, 98, 99, 100, 101] 0 [88]) ==
  .ok [88, 98, 88, 100, 88]

end RegexLit
end Tuc
