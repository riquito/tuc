import Tuc.Model.Space2
import Tuc.Props.ReadLoops
import Tuc.Props.Space
import Tuc.Lemmas.Total
import Tuc.Lemmas.RegexSpec
import Tuc.Lemmas.Program
import Tuc.Props.C12          -- `charsBag_ok`, `unpackList_length_le`, `complementBof_length_le`
import Tuc.Props.CutStrLit    -- `trimStage_eq`
/-!
# Tuc.Props.Space2 — C17 for the GENERAL engine, by ghost instrumentation of the literal functions

C17: "… with `-f` or `-c` (no `-M`) [peak memory] is bounded in terms of the longest record, not the
number of records …".  `Tuc.Props.Space` proves this for `-l` forward-only, the fast lane and `-M` and
leaves out the general engine — `read_and_cut_str` / `cut_str`: `-f` off the fast lane (`-g`, `-p`,
`-r`, `-m`, `-t`, `-e`, multi-byte delimiters, format strings …), `-c`, `--json`.  `Tuc.Model.Space2`
copies the statement-level functions of that path (`Tuc.Model.ReadLoops`: bstr's
`for_byte_record[_with_terminator]`, std's `read_until`; `Tuc.Model.CutStrLit`: `cut_str` and its
helpers; `Tuc.Model.WholeLit`: the closure and `read_and_cut_str`) and adds ghost results: the largest
length of bstr's record-assembly buffer `bytes` (`Peak.bytes`), of the two scratch vectors `fields` /
`compressed_line_buf` that live across records, and of the per-record temporaries `line_holder`, the
complemented / unpacked bounds lists, an owned `field_to_print` (`RecPeak`; the table in the header of
the model file says where each is taken).  This file proves:

(a) ERASURE — dropping the ghost components gives exactly the frozen functions, for all arguments,
    all fuel, every reader (no hypothesis at all): `…_erase`, up to `readAndCutStrWholeI_erase :
    (readAndCutStrWholeI opt stdin).1 = WholeLit.readAndCutStrWhole opt stdin`.  The reader is erased up
    to a simulation of closures (`Sim R fI f`): the instrumented closure is the frozen one with a ghost
    next to its captured state.

(b) BOUNDS, for every option record, every input, every segmentation into non-empty reads.
    * CLOSED FORM — `readAndCutStrWholeI_peak`: the `cut_str` part of the ghost is
      `execSup (recPeak opt) (recOk opt) (records eol input)`: the componentwise maximum of a PER-RECORD
      peak (a function of the option record and of that record alone) over the EXECUTED records (all up
      to and including the first whose call returns `Err`); it does not depend on the chunking; and
      `bytes ≤ longestLine`.
    * `readAndCutStrWholeI_bytes_le`: `bytes ≤ longest record + 1` (the terminator); what `bytes` is used
      for: `readAndCutStrWholeI_bytes_single`.
    * `readAndCutStrWholeI_cut_le`: `cut ≤ recBound opt (longest record)`, i.e. with
      `len` = the longest record, `r` = the length of the replacement (`-r`; 0 without), `B` = the number
      of entries of the bounds list of the option record, `w = len + (len + 1) · r` (`wide`):
        - `fields` ≤ `w + 2` entries (`…_fields_le`) — one range per field; `+ 2`: with the empty
          delimiter (`-c`) a match at every position, both ends included, gives `len + 2` ranges, the two
          boundary ones are popped at l.353-354; REACHED (`#guard`: `-c` on `abcde`: 7).  Without `-r`:
          `≤ len + 2` (`…_fields_le_record`) — C17's statement.  (`w` instead of `len` only because with
          `-e -p -r R` the vector is filled from the REPLACED line, l.317-346.)
        - `compressed_line_buf` ≤ `len` bytes (`…_compressedLineBuf_le`; `compress_delimiter` never
          writes more than it reads),
        - `line_holder`, an owned `field_to_print` ≤ `w` bytes (`…_cow_le`: the unmatched bytes once +
          one replacement per match, at most `len + 1` matches; REACHED with
          the empty delimiter: `-d '' -r '<=>'` on `ab` gives 11 = `wide 3 2` bytes),
        - the complemented list ≤ `2 · B` entries WHATEVER the input, the unpacked list ≤ `2 · B · (w + 2)`
          entries (`…_bounds_le`: at most one entry per field for each (complemented) bound; both lists
          are alive while `unpack` runs).
      Each bound is INDEPENDENT of the number of records; `r` and `B` come from the option record only.

(c) MORE RECORDS, SAME PEAK — `readAndCutStrWholeI_replicate`: `k + 1` copies of a block that ends with
    the terminator, read in ANY non-empty pieces, have exactly the `cut` peaks of one copy (read in any
    pieces), and `bytes` stays under the longest line of ONE copy.  (`bytes` itself is not an invariant
    of "the same input, more often": it depends on where the reads fall — `#guard`.)

(d) NOTHING ACCUMULATES — `cutStrLitI_scratch`, `cutStrLitI_vectors_after`: statements about `cut_str`
    around its helpers: the `clear()`s of `fill_with_fields_locations*` / `compress_delimiter` are not
    in the transcribed text (normal forms that ignore the buffer argument, see NOT covered).

HYPOTHESES
* `∀ s ∈ segs, s ≠ []` (closed form, bounds, replicate) — the `BufRead` contract: an empty `fill_buf()`
  IS end of input for the loops (io.rs:305, mod.rs:2266), `List.flatten` does not see an empty chunk.
  Cannot be dropped for the closed form (`#guard`: `["a-b\n", "", "c-d-e\n"]`); the real program
  cannot reach such a state (`BufReader::fill_buf` is empty only at EOF) — as in `Tuc.Props.ReadLoops`.
* `OptBagOK opt` (bounds of `cut`; not needed for erasure, closed form, replicate, `bytes`) — for the regex
  bag of the option record, if there is one: `RegexBag.OK` (matches in order, in range, not overlapping:
  the hypothesis of the safety theorems) and AT MOST ONE MATCH PER POSITION (`≤ len + 1` matches on a
  haystack of `len` bytes).  Decidable per haystack, a statement about the regex crate in general; it
  holds for no bag (no `-e`: `optBagOK_of_none`), for the bag of `-c` (`bagOK_chars`) and for every bag of
  the executable matcher (`bagOK_of_re`): `optBagOK_of_program`, hence for the option record `main` runs
  an engine with (`optBagOK_of_compileBag`).  Cannot be dropped: `bagMany` reports 50
  empty matches at offset 0 (`RegexBag.OK` holds) and a 1-byte record leaves 51 ranges (`#guard`).  The
  real program cannot reach such a state as long as `regex::bytes::Regex::find_iter` keeps its
  documented behaviour (successive non-overlapping matches; an empty match is not reported twice at
  the same offset nor adjacent to the end of the previous match).
* replicate: `block.getLast? = some eol` — it only says which inputs are "the same records, more often"
  (two copies of `a-b` are ONE record of three fields: `#guard`).

No buffer of this path grows across records.  Things one may want to know although
they are within C17's wording: the peaks are in ENTRIES — a `Range<usize>` is 16 bytes, so `-c` on a
record of `len` ASCII bytes holds `16 · (len + 2)` bytes of ranges; `--json -f 1:,1:` allocates, PER
RECORD, a list of two entries per field; bstr copies the first record of every read after the first
one (performance, not space).

NOT covered: the allocator; the growth policy of `Vec` (capacity < 2 × peak length); the payload of
the `BoundOrFiller`s that `complement` / `unpack` build (clones of filler / fallback strings of the
OPTION record); the `BufReader` / `BufWriter` of `main` (fixed capacities); the regex crate's
internals (caches, iterators); `serde_json::to_string`'s `String` per printed field (≤ 6 × field + 2
bytes, one at a time); the per-bound `Vec`s inside `flat_map`; the stack; `fill_with_fields_locations*`
and `compress_delimiter` are entered through their normal-form models, as in `Tuc.Model.CutStrLit`
(`clear`, then only `push` / `extend`: the peak during the call is the larger of the lengths on entry
and on exit, both taken).  Those stay with the measurements of C17 (counting allocator).
-/
namespace Tuc
namespace Space2
open StreamLoop (fillBuf consume memchr totalBytes fuelFor)
open ReadLoops (Closure WhileOut whileFindByte stripSuffix trimRecordSlice readUntilLoop outerLoop
  forByteRecordWithTerminatorLoop forByteRecordLoop foldState foldState_cons readTurn)
open CutStrLit
open BoundsLit
-- `rawLines` (the input cut into lines that keep their terminator) is defined in `Tuc.Lemmas.Records`
open Space (maxLen rawLines rawLinesAux longestLine longestRecord)

theorem readTurn_length_le {d : UInt8} {r : List Bytes} {buf : Bytes} {x : Bool × Nat × Bytes}
    (h : readTurn d r buf = some x) : buf.length ≤ x.2.2.length := by
  unfold readTurn at h
  split at h
  · split at h
    · cases h; simp
    · cases h
  · cases h; simp

theorem readUntilLoopI_turn (d : UInt8) (fuel : Nat) (r : List Bytes) (buf : Bytes) (read p : Nat) :
    readUntilLoopI d (fuel + 1) r buf read p =
      match readTurn d r buf with
      | none => (.panic, p)
      | some (done, used, buf) =>
        if done || used == 0 then (.ok (read + used, buf, consume used r), max p (bytesSpace buf))
        else readUntilLoopI d fuel (consume used r) buf (read + used) (max p (bytesSpace buf)) := rfl

theorem readUntilLoopI_spec (d : UInt8) : ∀ (fuel : Nat) (r : List Bytes) (buf : Bytes) (read p : Nat),
    (readUntilLoopI d fuel r buf read p).1 = readUntilLoop d fuel r buf read ∧
    ∀ read' buf' r', readUntilLoop d fuel r buf read = .ok (read', buf', r') →
      (readUntilLoopI d fuel r buf read p).2 = max p buf'.length ∧ buf.length ≤ buf'.length := by
  intro fuel
  induction fuel with
  | zero => exact fun _ _ _ _ => ⟨rfl, fun _ _ _ h => nomatch h⟩
  | succ fuel ih =>
    intro r buf read p
    rw [readUntilLoopI_turn, ReadLoops.readUntilLoop_succ]
    cases hm : readTurn d r buf with
    | none => exact ⟨rfl, fun _ _ _ h => nomatch h⟩
    | some x =>
      obtain ⟨done, used, buf₁⟩ := x
      have hle : buf.length ≤ buf₁.length := readTurn_length_le hm
      simp only []
      split
      · refine ⟨rfl, fun read' buf' r' h => ?_⟩
        cases h
        exact ⟨rfl, hle⟩
      · obtain ⟨i1, i2⟩ := ih (consume used r) buf₁ (read + used) (max p (bytesSpace buf₁))
        refine ⟨i1, fun read' buf' r' h => ?_⟩
        obtain ⟨j1, j2⟩ := i2 read' buf' r' h
        rw [j1, bytesSpace]
        omega

theorem readUntilLoopI_erase (d : UInt8) (fuel : Nat) (r : List Bytes) (buf : Bytes) (read p : Nat) :
    (readUntilLoopI d fuel r buf read p).1 = readUntilLoop d fuel r buf read :=
  (readUntilLoopI_spec d fuel r buf read p).1

/-- io.rs:325-343 for a chunk on which the `while` loop ended normally (the companion of
    `ReadLoops.afterWhile`) -/
def afterWhileI {σ : Type} (t : UInt8) (f : Closure σ) (fuel : Nat) (stdin : List Bytes) (bytes : Bytes)
    (w : WhileOut σ) (p : Nat) : Run × List Bytes × σ × Nat :=
  match readUntilLoopI t (totalBytes (consume (w.consumed + w.buf.length) stdin) + 1)
      (consume (w.consumed + w.buf.length) stdin) (bytes ++ w.buf) 0 (max p (bytesSpace (bytes ++ w.buf))) with
  | (.hang, peak) => (w.run.seq Run.hang, consume (w.consumed + w.buf.length) stdin, w.st, peak)
  | (.panic, peak) => (w.run.seq Run.panic, consume (w.consumed + w.buf.length) stdin, w.st, peak)
  | (.ok (_, bytes, stdin), peak) =>
    if bytes.isEmpty then (w.run, consume 0 stdin, w.st, peak)
    else
      if (f bytes w.st).1.status = .ok then
        if !(f bytes w.st).2.1 then (w.run.seq (f bytes w.st).1, consume 0 stdin, (f bytes w.st).2.2, peak)
        else
          ((w.run.seq (f bytes w.st).1).seq
             (outerLoopI t f fuel stdin (TextLoops.clear bytes) 0 (f bytes w.st).2.2
               (max peak (bytesSpace (TextLoops.clear bytes)))).1,
           (outerLoopI t f fuel stdin (TextLoops.clear bytes) 0 (f bytes w.st).2.2
               (max peak (bytesSpace (TextLoops.clear bytes)))).2.1,
           (outerLoopI t f fuel stdin (TextLoops.clear bytes) 0 (f bytes w.st).2.2
               (max peak (bytesSpace (TextLoops.clear bytes)))).2.2.1,
           (outerLoopI t f fuel stdin (TextLoops.clear bytes) 0 (f bytes w.st).2.2
               (max peak (bytesSpace (TextLoops.clear bytes)))).2.2.2)
      else (w.run.seq (f bytes w.st).1, stdin, (f bytes w.st).2.2, peak)

theorem outerLoopI_succ {σ : Type} (t : UInt8) (f : Closure σ) (fuel : Nat) (stdin : List Bytes) (bytes : Bytes)
    (consumed : Nat) (st : σ) (p : Nat) :
    outerLoopI t f (fuel + 1) stdin bytes consumed st p =
      if (fillBuf stdin).isEmpty then (Run.empty, consume consumed stdin, st, p)
      else
        if (whileFindByte t f ((fillBuf stdin).length + 1) (fillBuf stdin) consumed st).breakOuter then
          ((whileFindByte t f ((fillBuf stdin).length + 1) (fillBuf stdin) consumed st).run,
           consume (whileFindByte t f ((fillBuf stdin).length + 1) (fillBuf stdin) consumed st).consumed stdin,
           (whileFindByte t f ((fillBuf stdin).length + 1) (fillBuf stdin) consumed st).st, p)
        else afterWhileI t f fuel stdin bytes
          (whileFindByte t f ((fillBuf stdin).length + 1) (fillBuf stdin) consumed st) p := rfl

/-- `fI` simulates `f`: on captured states related by `R` the two closures write the same, answer the
    same and leave related states.  `R := Eq`: the same closure; `R stI st := stI.1 = st`: `fI` is `f`
    with a ghost component next to its captured state -/
def Sim {σI σ : Type} (R : σI → σ → Prop) (fI : Closure σI) (f : Closure σ) : Prop :=
  ∀ (record : Bytes) (stI : σI) (st : σ), R stI st →
    (fI record stI).1 = (f record st).1 ∧ (fI record stI).2.1 = (f record st).2.1 ∧
      R (fI record stI).2.2 (f record st).2.2

theorem Sim.refl {σ : Type} (f : Closure σ) : Sim Eq f f :=
  fun _ _ _ e => e ▸ ⟨rfl, rfl, rfl⟩

theorem whileFindByte_sim {σI σ : Type} (t : UInt8) {R : σI → σ → Prop} {fI : Closure σI} {f : Closure σ}
    (h : Sim R fI f) : ∀ (fuel : Nat) (buf : Bytes) (consumed : Nat) (stI : σI) (st : σ), R stI st →
      ∃ stI', R stI' (whileFindByte t f fuel buf consumed st).st ∧
        whileFindByte t fI fuel buf consumed stI =
          ⟨(whileFindByte t f fuel buf consumed st).run, (whileFindByte t f fuel buf consumed st).breakOuter,
           (whileFindByte t f fuel buf consumed st).buf, (whileFindByte t f fuel buf consumed st).consumed,
           stI'⟩ := by
  intro fuel
  induction fuel with
  | zero => intro buf consumed stI st hR; exact ⟨stI, hR, rfl⟩
  | succ fuel ih =>
    intro buf consumed stI st hR
    rw [ReadLoops.whileFindByte_succ, ReadLoops.whileFindByte_succ]
    cases memchr t buf with
    | none => exact ⟨stI, hR, rfl⟩
    | some index =>
      dsimp only
      cases ReadLoops.splitAt? buf (index + 1) with
      | none => exact ⟨stI, hR, rfl⟩
      | some rr =>
        obtain ⟨record, rest⟩ := rr
        obtain ⟨e1, e2, hR'⟩ := h record stI st hR
        dsimp only
        rw [e1, e2]
        by_cases hok : (f record st).1.status = .ok
        · rw [if_pos hok, if_pos hok]
          by_cases hk : (f record st).2.1 = true
          · rw [if_pos hk, if_pos hk]
            obtain ⟨stI', hR'', e⟩ := ih rest (consumed + record.length) _ _ hR'
            rw [e]
            exact ⟨stI', hR'', rfl⟩
          · rw [if_neg hk, if_neg hk]
            exact ⟨_, hR', rfl⟩
        · rw [if_neg hok, if_neg hok]
          exact ⟨_, hR', rfl⟩

theorem outerLoopI_erase {σI σ : Type} (t : UInt8) {R : σI → σ → Prop} {fI : Closure σI} {f : Closure σ}
    (h : Sim R fI f) :
    ∀ (fuel : Nat) (stdin : List Bytes) (bytes : Bytes) (consumed : Nat) (stI : σI) (st : σ) (p : Nat),
    R stI st →
    ((outerLoopI t fI fuel stdin bytes consumed stI p).1, (outerLoopI t fI fuel stdin bytes consumed stI p).2.1) =
      outerLoop t f fuel stdin bytes consumed st := by
  intro fuel
  induction fuel with
  | zero => intro stdin bytes consumed stI st p _; rfl
  | succ fuel ih =>
    intro stdin bytes consumed stI st p hR
    rw [outerLoopI_succ, ReadLoops.outerLoop_succ]
    obtain ⟨stI', hR', e⟩ := whileFindByte_sim t h ((fillBuf stdin).length + 1) (fillBuf stdin) consumed stI st hR
    rw [e]
    generalize whileFindByte t f _ _ consumed st = w at hR'
    by_cases he : (fillBuf stdin).isEmpty = true
    · rw [if_pos he, if_pos he]
    · rw [if_neg he, if_neg he]
      by_cases hb : w.breakOuter = true
      · rw [if_pos hb, if_pos hb]
      · rw [if_neg hb, if_neg hb, afterWhileI, ReadLoops.afterWhile,
          ← readUntilLoopI_erase t _ _ _ _ (max p (bytesSpace (bytes ++ w.buf)))]
        generalize readUntilLoopI t _ _ _ _ _ = x
        obtain ⟨o, q⟩ := x
        cases o with
        | hang | panic => rfl
        | ok v =>
          obtain ⟨a, bytes', stdin'⟩ := v
          obtain ⟨e1, e2, hR''⟩ := h bytes' stI' w.st hR'
          dsimp only
          rw [e1, e2]
          by_cases hbe : bytes'.isEmpty = true
          · rw [if_pos hbe, if_pos hbe]
          · rw [if_neg hbe, if_neg hbe]
            by_cases hok : (f bytes' w.st).1.status = .ok
            · rw [if_pos hok, if_pos hok]
              by_cases hk : (!(f bytes' w.st).2.1) = true
              · rw [if_pos hk, if_pos hk]
              · rw [if_neg hk, if_neg hk, ← ih _ _ _ _ _ _ hR'']
            · rw [if_neg hok, if_neg hok]

/-- **erasure, `for_byte_record_with_terminator`**: without the peak of `bytes` the instrumented
    loop is `ReadLoops.forByteRecordWithTerminatorLoop` (run and captured state) -/
theorem forByteRecordWithTerminatorLoopI_erase {σ : Type} (t : UInt8) (f : Closure σ) (stdin : List Bytes)
    (st : σ) :
    ((forByteRecordWithTerminatorLoopI t f stdin st).1, (forByteRecordWithTerminatorLoopI t f stdin st).2.1) =
      forByteRecordWithTerminatorLoop t f stdin st :=
  outerLoopI_erase t (Sim.refl f) _ _ _ _ _ _ _ rfl

theorem forByteRecordLoopI_erase {σ : Type} (t : UInt8) (f : Closure σ) (stdin : List Bytes) (st : σ) :
    ((forByteRecordLoopI t f stdin st).1, (forByteRecordLoopI t f stdin st).2.1) =
      forByteRecordLoop t f stdin st :=
  outerLoopI_erase t (Sim.refl _) _ _ _ _ _ _ _ rfl

/-- `ih` is what `outerLoopI_spec` says of the loop that follows -/
theorem afterWhileI_spec {σ : Type} (t : UInt8) (f : Closure σ) (fuel : Nat) (stdin more : List Bytes)
    (w : WhileOut σ) (p : Nat) (hc : consume (w.consumed + w.buf.length) stdin = more)
    (hmore : ∀ s ∈ more, s ≠ []) (hnt : t ∉ w.buf)
    (ih : ∀ (stdin' : List Bytes) (st : σ) (p : Nat), (∀ s ∈ stdin', s ≠ []) →
      totalBytes stdin' ≤ totalBytes more →
      (outerLoopI t f fuel stdin' [] 0 st p).2.2.1 = foldState f (Space.rawLines t stdin'.flatten) st ∧
      (outerLoopI t f fuel stdin' [] 0 st p).2.2.2 ≤ max p (maxLen (Space.rawLines t stdin'.flatten))) :
    (afterWhileI t f fuel stdin [] w p).2.2.1 = foldState f (Space.rawLines t (w.buf ++ more.flatten)) w.st ∧
    (afterWhileI t f fuel stdin [] w p).2.2.2 ≤ max p (maxLen (Space.rawLines t (w.buf ++ more.flatten))) := by
  obtain ⟨read', bytes', stdin', h1, h2, h3, h4⟩ :=
    ReadLoops.readUntilLoop_spec t (totalBytes more + 1) more w.buf 0 hmore (Nat.lt_succ_self _) hnt
  obtain ⟨e1, e2⟩ := readUntilLoopI_spec t (totalBytes more + 1) more w.buf 0 (max p (bytesSpace w.buf))
  obtain ⟨e2, hle⟩ := e2 read' bytes' stdin' h1
  have e : readUntilLoopI t (totalBytes more + 1) more w.buf 0 (max p (bytesSpace w.buf)) =
      (.ok (read', bytes', stdin'), max p bytes'.length) :=
    Prod.ext (e1.trans h1) (e2.trans (by rw [bytesSpace]; omega))
  unfold afterWhileI
  rw [hc, List.nil_append, e, h4]
  dsimp only
  cases bytes' with
  | nil => exact ⟨rfl, Nat.le_refl _⟩
  | cons c tl =>
    have hne : ¬(c :: tl).isEmpty = true := Bool.false_ne_true
    rw [if_neg hne, if_neg hne, foldState_cons, Space.maxLen]
    have hpb : max p (c :: tl).length ≤ max p (max (c :: tl).length (maxLen (Space.rawLines t stdin'.flatten))) := by
      omega
    by_cases hok : (f (c :: tl) w.st).1.status = .ok
    · rw [if_pos hok]
      cases hk : (f (c :: tl) w.st).2.1 with
      | true =>
        rw [if_neg (by decide : ¬(!true) = true), if_pos (And.intro hok rfl)]
        obtain ⟨i1, i2⟩ := ih stdin' (f (c :: tl) w.st).2.2 (max (max p (c :: tl).length) 0) h2 h3
        refine ⟨i1, Nat.le_trans i2 (Nat.le_of_eq ?_)⟩
        rw [Nat.max_zero, Nat.max_assoc]
      | false =>
        rw [if_pos (by decide : (!false) = true), if_neg (fun h => Bool.noConfusion (And.right h))]
        exact ⟨rfl, hpb⟩
    · rw [if_neg hok, if_neg (fun h => hok h.1)]
      exact ⟨rfl, hpb⟩

/-- io.rs:301-343 from the top of an iteration (`bytes` empty, `consumed = 0`): the chunking is gone —
    the closure has been folded over the terminated records of the concatenated input, and `bytes`
    never held more than the longest of them -/
theorem outerLoopI_spec {σ : Type} (t : UInt8) (f : Closure σ) :
    ∀ (fuel : Nat) (stdin : List Bytes) (st : σ) (p : Nat),
    (∀ s ∈ stdin, s ≠ []) → totalBytes stdin < fuel →
    (outerLoopI t f fuel stdin [] 0 st p).2.2.1 = foldState f (Space.rawLines t stdin.flatten) st ∧
    (outerLoopI t f fuel stdin [] 0 st p).2.2.2 ≤ max p (maxLen (Space.rawLines t stdin.flatten)) := by
  intro fuel
  induction fuel with
  | zero => intro stdin st p _ h; omega
  | succ fuel ih =>
    intro stdin st p hne hfuel
    rw [outerLoopI_succ]
    cases stdin with
    | nil => exact ⟨rfl, Nat.le_max_left _ _⟩
    | cons chunk more =>
      have hc : chunk ≠ [] := hne chunk (List.mem_cons_self ..)
      have hmore : ∀ s ∈ more, s ≠ [] := fun s hs => hne s (List.mem_cons_of_mem _ hs)
      have hclen : 0 < chunk.length := List.length_pos_iff.mpr hc
      have htb : totalBytes (chunk :: more) = chunk.length + totalBytes more := rfl
      rw [show fillBuf (chunk :: more) = chunk from rfl, if_neg (by rw [List.isEmpty_iff]; exact hc),
        List.flatten_cons]
      -- l.308-320 on the chunk: what it does to the run (not needed), to the captured state, and
      -- what it leaves pending
      obtain ⟨_, hstate, hpending⟩ :=
        ReadLoops.whileFindByte_fold t f more.flatten (chunk.length + 1) chunk 0 st _ (by omega) rfl
      rw [hstate]
      generalize whileFindByte t f (chunk.length + 1) chunk 0 st = w at hpending ⊢
      cases hb : w.breakOuter with
      | true => exact ⟨rfl, Nat.le_max_left _ _⟩
      | false =>
        obtain ⟨hconsumed, ⟨served, hserved⟩, hnt, _⟩ := hpending hb
        obtain ⟨a1, a2⟩ := afterWhileI_spec t f fuel (chunk :: more) more w p
          (by rw [hconsumed, Nat.zero_add, StreamLoop.consume_all]) hmore hnt
          (fun stdin' st p h hle => ih stdin' st p h (by omega))
        -- the records of the input = those served from the chunk, then those of fragment ++ rest
        rw [if_neg (by simp), if_neg (by simp), hserved, Space.maxLen_append]
        exact ⟨a1, Nat.le_trans a2 (by omega)⟩

/-- `find_iter` reports at most one offset per position, the end included -/
theorem findIterAux_length_le (d : Bytes) : ∀ (l : Bytes) (skip pos : Nat),
    (findIterAux d skip pos l).length ≤ l.length + 1 := by
  intro l
  induction l with
  | nil => intro skip pos; simp only [findIterAux]; split <;> simp
  | cons c t ih =>
    intro skip pos
    cases skip with
    | succ k => simp only [findIterAux, List.length_cons]; have := ih k (pos + 1); omega
    | zero =>
      simp only [findIterAux, List.length_cons]
      split
      · simp only [List.length_cons]; have := ih (d.length - 1) (pos + 1); omega
      · have := ih 0 (pos + 1); omega

theorem findIter_length_le (d line : Bytes) : (findIter d line).length ≤ line.length + 1 :=
  findIterAux_length_le d line 0 0

theorem rangesBetweenGreedy_length_le (dlen n : Nat) : ∀ (ms : List Nat) (am : Bool) (prev : Nat),
    (rangesBetweenGreedy dlen n am prev ms).length ≤ ms.length + 1 := by
  intro ms
  induction ms with
  | nil => intro am prev; simp [rangesBetweenGreedy]
  | cons i t ih =>
    intro am prev
    simp only [rangesBetweenGreedy]
    split
    · have := ih true (i + dlen); simp only [List.length_cons]; omega
    · have := ih true (i + dlen); simp only [List.length_cons]; omega

/-- the literal splitters leave at most `len + 2` ranges (the empty delimiter matches at every
    position, the end included: `len + 1` matches) -/
theorem fillWithFieldsLocations_length_le (buf : List Range) (line d : Bytes) :
    (fillWithFieldsLocations buf line d).length ≤ line.length + 2 := by
  unfold fillWithFieldsLocations
  split
  · simp
  · rw [rangesBetween_length]; have := findIter_length_le d line; omega

theorem fillWithFieldsLocationsGreedy_length_le (buf : List Range) (line d : Bytes) :
    (fillWithFieldsLocationsGreedy buf line d).length ≤ line.length + 2 := by
  unfold fillWithFieldsLocationsGreedy
  split
  · exact fillWithFieldsLocations_length_le buf line d
  · split
    · simp
    · have := rangesBetweenGreedy_length_le d.length line.length (findIter d line) false 0
      have := findIter_length_le d line
      omega

theorem fillWithFieldsLocationsUsingRegex_length_le (buf : List Range) (line : Bytes) (ms : List (Nat × Nat)) :
    (fillWithFieldsLocationsUsingRegex buf line ms).length ≤ ms.length + 1 := by
  unfold fillWithFieldsLocationsUsingRegex
  split
  · simp
  · rw [rangesBetweenMatches_length]; exact Nat.le_refl _

theorem compressAux_length_le (line d : Bytes) : ∀ (ms : List Nat) (prev : Nat),
    MatchesIn d.length line.length prev ms → prev ≤ line.length →
    (compressAux line d prev ms).length ≤ line.length - prev := by
  intro ms
  induction ms with
  | nil =>
    intro prev _ hp
    simp only [compressAux]
    split <;> simp
  | cons idx t ih =>
    intro prev hm hp
    obtain ⟨h1, h2, h3⟩ := hm
    have := ih (idx + d.length) h3 h2
    -- what is written for this match: the bytes since the previous one (at most) and one delimiter
    have hd : (if idx = 0 then d else if !(slice line prev idx).isEmpty then slice line prev idx ++ d
        else []).length ≤ (idx - prev) + d.length := by
      split
      · exact Nat.le_add_left _ _
      · split
        · rw [List.length_append, slice_length]
          exact Nat.add_le_add_right (Nat.min_le_left _ _) _
        · exact Nat.zero_le _
    rw [compressAux, List.length_append]
    omega

theorem compressDelimiter_length_le (line d buf : Bytes) :
    (compressDelimiter line d buf).length ≤ line.length := by
  have := compressAux_length_le line d (findIter d line) 0 (findIter_in d line) (Nat.zero_le _)
  simpa [compressDelimiter] using this

/-- `replace_all` / bstr `replace`: what is not matched is copied once, every match costs one
    replacement -/
theorem replaceMatches_length_le (text r : Bytes) : ∀ (ms : List (Nat × Nat)) (prev : Nat),
    SortedMatches text.length prev ms → prev ≤ text.length →
    (replaceMatches text r prev ms).length ≤ (text.length - prev) + ms.length * r.length := by
  intro ms
  induction ms with
  | nil => intro prev _ _; simp [replaceMatches]
  | cons m t ih =>
    intro prev hm hp
    obtain ⟨s, e⟩ := m
    obtain ⟨h1, h2, h3, h4⟩ := hm
    have := ih e h4 h3
    simp only [replaceMatches, List.length_append, slice_length, List.length_cons, Nat.succ_mul]
    omega

theorem sortedMatches_of_matchesIn (dlen n : Nat) : ∀ (ms : List Nat) (lo : Nat), MatchesIn dlen n lo ms →
    SortedMatches n lo (ms.map fun i => (i, i + dlen)) := by
  intro ms
  induction ms with
  | nil => intro lo _; trivial
  | cons i t ih =>
    intro lo h
    obtain ⟨h1, h2, h3⟩ := h
    exact ⟨h1, by omega, h2, ih _ h3⟩

/-- the widened length: `len` bytes with a replacement of `r` bytes at each of the at most
    `len + 1` places a match can be reported at -/
def wide (r len : Nat) : Nat := len + (len + 1) * r

theorem le_wide (r len : Nat) : len ≤ wide r len := Nat.le_add_right _ _

theorem wide_mono (r : Nat) {a b : Nat} (h : a ≤ b) : wide r a ≤ wide r b := by
  unfold wide
  have := Nat.mul_le_mul_right r (Nat.add_le_add_right h 1)
  omega

theorem replaceAll_length_le (text d r : Bytes) : (replaceAll text d r).length ≤ wide r.length text.length := by
  unfold replaceAll wide
  have h := replaceMatches_length_le text r _ 0
    (sortedMatches_of_matchesIn _ _ _ _ (findIter_in d text)) (Nat.zero_le _)
  have hl := findIter_length_le d text
  simp only [List.length_map, Nat.sub_zero] at h
  have := Nat.mul_le_mul_right r.length hl
  omega

theorem trimLiteral_length_le (l : Bytes) (k : TrimKind) (d : Bytes) : (trimLiteral l k d).length ≤ l.length :=
  (trimLiteral_infix l k d).length_le

theorem trimRegex_length_le (l : Bytes) (k : TrimKind) (ms : List (Nat × Nat)) :
    (trimRegex l k ms).length ≤ l.length := by
  unfold trimRegex
  simp only [slice_length]
  omega

theorem trimOf_length_le (opt : Opt) (line : Bytes) : (trimOf opt line).length ≤ line.length := by
  unfold trimOf
  split
  · split
    · exact trimRegex_length_le _ _ _
    · exact trimLiteral_length_le _ _ _
  · exact Nat.le_refl _

/-- what the space bounds need of `Regex::find_iter`: the matches are reported in order, do not
    overlap, lie within the haystack (`RegexBag.OK`, the hypothesis of the safety theorems), and
    there is at most one match per position, the end of the haystack included.  (`WholeLit2.BagOK` is
    not this: it is `RegexBag.OK` of the bag of an option record, what `OptBagOK` gives by `.1`.) -/
def BagOK (bag : RegexBag) : Prop :=
  bag.OK ∧ ∀ line : Bytes, (bag.normal line).length ≤ line.length + 1 ∧ (bag.greedy line).length ≤ line.length + 1

/-- every regex bag of the option record (there is at most one) is `BagOK`; no condition when
    there is none (no `-e`) -/
def OptBagOK (opt : Opt) : Prop := ∀ bag, opt.regexBag = some bag → BagOK bag

theorem optBagOK_of_none (opt : Opt) (h : opt.regexBag = none) : OptBagOK opt := by
  intro bag hb; rw [h] at hb; cases hb

theorem strictMatches_length_le (n : Nat) : ∀ (ms : List (Nat × Nat)) (lo : Nat), StrictMatches n lo ms →
    ms.length ≤ n - lo := by
  intro ms
  induction ms with
  | nil => intro lo _; exact Nat.zero_le _
  | cons m t ih =>
    intro lo h
    obtain ⟨s, e⟩ := m
    obtain ⟨h1, h2, h3, h4⟩ := h
    have := ih e h4
    simp only [List.length_cons]
    omega

theorem bagOK_of_re (r : Re) : BagOK (Re.bag r) := by
  refine ⟨Re.bag_ok r, fun line => ?_⟩
  obtain ⟨h1, h2⟩ := Re.bag_strict r line
  have := strictMatches_length_le _ _ _ h1
  have := strictMatches_length_le _ _ _ h2
  omega

def replLen (opt : Opt) : Nat := (opt.replaceDelimiter.getD []).length

theorem replaceMatches_bag_le (text r : Bytes) (ms : List (Nat × Nat))
    (h1 : SortedMatches text.length 0 ms) (h2 : ms.length ≤ text.length + 1) :
    (replaceMatches text r 0 ms).length ≤ wide r.length text.length := by
  have h := replaceMatches_length_le text r ms 0 h1 (Nat.zero_le _)
  have := Nat.mul_le_mul_right r.length h2
  unfold wide
  omega

theorem maybeReplaceDelimiterLitI_spec (text : Bytes) (opt : Opt) :
    (maybeReplaceDelimiterLitI text opt).1 = maybeReplaceDelimiterLit text opt ∧
    (OptBagOK opt → (maybeReplaceDelimiterLitI text opt).2 ≤ wide (replLen opt) text.length) := by
  unfold maybeReplaceDelimiterLitI maybeReplaceDelimiterLit replLen
  split
  · exact ⟨rfl, fun _ => Nat.zero_le _⟩
  · cases hr : opt.replaceDelimiter with
    | none => exact ⟨rfl, fun _ => Nat.zero_le _⟩
    | some nd =>
      cases hg : opt.regexBag with
      | none => exact ⟨rfl, fun _ => replaceAll_length_le _ _ _⟩
      | some bag =>
        exact ⟨rfl, fun hb => replaceMatches_bag_le _ _ _ ((hb bag hg).1 text).1 ((hb bag hg).2 text).1⟩

theorem sliceBytes_length_le (l : Bytes) (a b : Nat) (s : Bytes) (h : sliceBytes l a b = .ok s) :
    s.length ≤ l.length := by
  unfold sliceBytes at h
  split at h
  · cases h; simp only [slice_length]; omega
  · cases h

/-- l.416-434, stated for a variable bound: `resolve` is never unfolded -/
theorem fieldToPrintI_spec (line : Bytes) (fields : List Range) (n : Nat) (opt : Opt) (dar : Bool)
    (b : UserBounds) :
    (fieldToPrintI line fields n opt dar b).1 = fieldToPrint line fields n opt dar b ∧
    (OptBagOK opt →
      (fieldToPrintI line fields n opt dar b).2 ≤ if dar then 0 else wide (replLen opt) line.length) := by
  unfold fieldToPrintI fieldToPrint
  cases resolve b n with
  | panic => exact ⟨rfl, fun _ => Nat.zero_le _⟩
  | fail =>
    dsimp only
    split
    · exact ⟨rfl, fun _ => Nat.zero_le _⟩
    · cases opt.fallbackOob <;> exact ⟨rfl, fun _ => Nat.zero_le _⟩
  | ok r =>
    dsimp only
    cases indexRange fields r.1 with
    | fail | panic => exact ⟨rfl, fun _ => Nat.zero_le _⟩
    | ok fStart =>
      dsimp only [Res.bind]
      cases usizeSub r.2 1 with
      | fail | panic => exact ⟨rfl, fun _ => Nat.zero_le _⟩
      | ok m =>
        dsimp only
        cases indexRange fields m with
        | fail | panic => exact ⟨rfl, fun _ => Nat.zero_le _⟩
        | ok fEnd =>
          dsimp only
          cases hs : sliceBytes line fStart.start fEnd.stop with
          | fail | panic => exact ⟨rfl, fun _ => Nat.zero_le _⟩
          | ok s =>
            dsimp only
            cases dar with
            | true => exact ⟨rfl, fun _ => Nat.le_refl _⟩
            | false =>
              obtain ⟨e, hle⟩ := maybeReplaceDelimiterLitI_spec s opt
              rw [if_neg Bool.false_ne_true, if_neg Bool.false_ne_true, if_neg Bool.false_ne_true, e]
              exact ⟨rfl, fun hb => Nat.le_trans (hle hb) (wide_mono _ (sliceBytes_length_le _ _ _ _ hs))⟩

theorem tryForEachI_spec (line : Bytes) (fields : List Range) (n : Nat) (opt : Opt) (dar : Bool) :
    ∀ l : List BoF, (tryForEachI line fields n opt dar l).1 = tryForEach line fields n opt dar l ∧
      (OptBagOK opt →
        (tryForEachI line fields n opt dar l).2 ≤ if dar then 0 else wide (replLen opt) line.length) := by
  intro l
  induction l with
  | nil => exact ⟨rfl, fun _ => Nat.zero_le _⟩
  | cons bof rest ih =>
    have hc : (outputClosureI line fields n opt dar bof).1 = outputClosure line fields n opt dar bof ∧
        (OptBagOK opt → (outputClosureI line fields n opt dar bof).2 ≤
          if dar then 0 else wide (replLen opt) line.length) := by
      cases bof with
      | filler f => exact ⟨rfl, fun _ => Nat.zero_le _⟩
      | bound b =>
        obtain ⟨e, hle⟩ := fieldToPrintI_spec line fields n opt dar b
        exact ⟨by rw [outputClosureI, outputClosure, e], hle⟩
    rw [tryForEachI, tryForEach, ih.1, hc.1]
    refine ⟨rfl, fun hb => ?_⟩
    dsimp only
    split
    · exact Nat.max_le.2 ⟨hc.2 hb, ih.2 hb⟩
    · exact hc.2 hb

def RecPeak.le (a b : RecPeak) : Prop :=
  a.fields ≤ b.fields ∧ a.compressedLineBuf ≤ b.compressedLineBuf ∧ a.lineHolder ≤ b.lineHolder ∧
    a.complemented ≤ b.complemented ∧ a.unpacked ≤ b.unpacked ∧ a.fieldToPrint ≤ b.fieldToPrint

instance : LE RecPeak := ⟨RecPeak.le⟩

instance (a b : RecPeak) : Decidable (a ≤ b) := by
  show Decidable (RecPeak.le a b); unfold RecPeak.le; exact inferInstance

theorem RecPeak.le_def (a b : RecPeak) : a ≤ b ↔
    a.fields ≤ b.fields ∧ a.compressedLineBuf ≤ b.compressedLineBuf ∧ a.lineHolder ≤ b.lineHolder ∧
      a.complemented ≤ b.complemented ∧ a.unpacked ≤ b.unpacked ∧ a.fieldToPrint ≤ b.fieldToPrint := Iff.rfl

theorem RecPeak.ext' {a b : RecPeak} (h1 : a.fields = b.fields) (h2 : a.compressedLineBuf = b.compressedLineBuf)
    (h3 : a.lineHolder = b.lineHolder) (h4 : a.complemented = b.complemented) (h5 : a.unpacked = b.unpacked)
    (h6 : a.fieldToPrint = b.fieldToPrint) : a = b := by
  cases a; cases b; simp only at h1 h2 h3 h4 h5 h6; subst h1 h2 h3 h4 h5 h6; rfl

@[simp] theorem RecPeak.sup_fields (a b : RecPeak) : (a.sup b).fields = max a.fields b.fields := rfl
@[simp] theorem RecPeak.sup_compressedLineBuf (a b : RecPeak) :
    (a.sup b).compressedLineBuf = max a.compressedLineBuf b.compressedLineBuf := rfl
@[simp] theorem RecPeak.sup_lineHolder (a b : RecPeak) : (a.sup b).lineHolder = max a.lineHolder b.lineHolder := rfl
@[simp] theorem RecPeak.sup_complemented (a b : RecPeak) :
    (a.sup b).complemented = max a.complemented b.complemented := rfl
@[simp] theorem RecPeak.sup_unpacked (a b : RecPeak) : (a.sup b).unpacked = max a.unpacked b.unpacked := rfl
@[simp] theorem RecPeak.sup_fieldToPrint (a b : RecPeak) :
    (a.sup b).fieldToPrint = max a.fieldToPrint b.fieldToPrint := rfl

theorem RecPeak.zero_sup (a : RecPeak) : ({} : RecPeak).sup a = a :=
  RecPeak.ext' (Nat.zero_max _) (Nat.zero_max _) (Nat.zero_max _) (Nat.zero_max _) (Nat.zero_max _)
    (Nat.zero_max _)
theorem RecPeak.sup_zero (a : RecPeak) : a.sup {} = a :=
  RecPeak.ext' (Nat.max_zero _) (Nat.max_zero _) (Nat.max_zero _) (Nat.max_zero _) (Nat.max_zero _)
    (Nat.max_zero _)
theorem RecPeak.sup_assoc (a b c : RecPeak) : (a.sup b).sup c = a.sup (b.sup c) :=
  RecPeak.ext' (Nat.max_assoc ..) (Nat.max_assoc ..) (Nat.max_assoc ..) (Nat.max_assoc ..)
    (Nat.max_assoc ..) (Nat.max_assoc ..)
theorem RecPeak.sup_comm (a b : RecPeak) : a.sup b = b.sup a :=
  RecPeak.ext' (Nat.max_comm ..) (Nat.max_comm ..) (Nat.max_comm ..) (Nat.max_comm ..)
    (Nat.max_comm ..) (Nat.max_comm ..)
theorem RecPeak.sup_le {a b c : RecPeak} (h1 : a ≤ c) (h2 : b ≤ c) : a.sup b ≤ c :=
  ⟨Nat.max_le.2 ⟨h1.1, h2.1⟩, Nat.max_le.2 ⟨h1.2.1, h2.2.1⟩, Nat.max_le.2 ⟨h1.2.2.1, h2.2.2.1⟩,
    Nat.max_le.2 ⟨h1.2.2.2.1, h2.2.2.2.1⟩, Nat.max_le.2 ⟨h1.2.2.2.2.1, h2.2.2.2.2.1⟩,
    Nat.max_le.2 ⟨h1.2.2.2.2.2, h2.2.2.2.2.2⟩⟩
theorem RecPeak.le_sup_left (a b : RecPeak) : a ≤ a.sup b :=
  ⟨Nat.le_max_left .., Nat.le_max_left .., Nat.le_max_left .., Nat.le_max_left .., Nat.le_max_left ..,
    Nat.le_max_left ..⟩
theorem RecPeak.le_sup_right (a b : RecPeak) : b ≤ a.sup b :=
  ⟨Nat.le_max_right .., Nat.le_max_right .., Nat.le_max_right .., Nat.le_max_right .., Nat.le_max_right ..,
    Nat.le_max_right ..⟩
theorem RecPeak.le_refl (a : RecPeak) : a ≤ a :=
  ⟨Nat.le_refl _, Nat.le_refl _, Nat.le_refl _, Nat.le_refl _, Nat.le_refl _, Nat.le_refl _⟩
theorem RecPeak.le_trans {a b c : RecPeak} (h1 : a ≤ b) (h2 : b ≤ c) : a ≤ c :=
  ⟨Nat.le_trans h1.1 h2.1, Nat.le_trans h1.2.1 h2.2.1, Nat.le_trans h1.2.2.1 h2.2.2.1,
    Nat.le_trans h1.2.2.2.1 h2.2.2.2.1, Nat.le_trans h1.2.2.2.2.1 h2.2.2.2.2.1,
    Nat.le_trans h1.2.2.2.2.2 h2.2.2.2.2.2⟩
theorem RecPeak.zero_le (a : RecPeak) : ({} : RecPeak) ≤ a :=
  ⟨Nat.zero_le _, Nat.zero_le _, Nat.zero_le _, Nat.zero_le _, Nat.zero_le _, Nat.zero_le _⟩
theorem RecPeak.sup_eq_left {a b : RecPeak} (h : b ≤ a) : a.sup b = a :=
  RecPeak.ext' (Nat.max_eq_left h.1) (Nat.max_eq_left h.2.1) (Nat.max_eq_left h.2.2.1)
    (Nat.max_eq_left h.2.2.2.1) (Nat.max_eq_left h.2.2.2.2.1) (Nat.max_eq_left h.2.2.2.2.2)

/-- **the bound for one record of `len` bytes**: `w = len + (len + 1) · |replacement|` is the length
    the line can have after `compress_delimiter_with_regex` / a field after `maybe_replace_delimiter`
    (`w = len` without `-r`); the rest counts entries: one range per field, at most two complemented
    bounds per bound of the option record, at most one unpacked bound per field and per (complemented)
    bound.  Only `len` comes from the input. -/
def recBound (opt : Opt) (len : Nat) : RecPeak :=
  { fields := wide (replLen opt) len + 2,
    compressedLineBuf := len,
    lineHolder := wide (replLen opt) len,
    complemented := 2 * opt.bounds.list.length,
    unpacked := 2 * opt.bounds.list.length * (wide (replLen opt) len + 2),
    fieldToPrint := wide (replLen opt) len }

theorem recBound_mono (opt : Opt) {a b : Nat} (h : a ≤ b) : recBound opt a ≤ recBound opt b := by
  have hw := wide_mono (replLen opt) h
  have hm := Nat.mul_le_mul_left (2 * opt.bounds.list.length) (Nat.add_le_add_right hw 2)
  rw [RecPeak.le_def]
  simp only [recBound]
  omega

theorem compressStageI_spec (line : Bytes) (opt : Opt) (buf : Bytes) :
    (compressStageI line opt buf).1 = CutStrLit.compressStage line opt buf ∧
    (OptBagOK opt →
      (compressStageI line opt buf).2 ≤
          { compressedLineBuf := line.length, lineHolder := wide (replLen opt) line.length } ∧
      ∀ loc, (compressStageI line opt buf).1 = .ok loc →
        loc.line.length ≤ wide (replLen opt) line.length ∧
        (loc.delimiterAlreadyReplaced = false → loc.line.length ≤ line.length)) := by
  simp only [compressStageI, CutStrLit.compressStage]
  by_cases h1 : (opt.compressDelimiter &&
      (decide (opt.boundsType = BoundsType.fields) || decide (opt.boundsType = BoundsType.lines))) = true
  · simp only [h1, if_true]
    by_cases h2 : (opt.regexBag.isSome && true) = true
    · simp only [h2, if_true]
      cases hr : opt.replaceDelimiter with
      | none => exact ⟨rfl, fun _ => ⟨RecPeak.zero_le _, fun loc h => nomatch h⟩⟩
      | some d =>
        cases hg : opt.regexBag with
        | none => exact ⟨rfl, fun _ => ⟨RecPeak.zero_le _, fun loc h => nomatch h⟩⟩
        | some bag =>
          refine ⟨rfl, fun hb => ?_⟩
          have hl := replaceMatches_bag_le line d (bag.greedy line) ((hb bag hg).1 line).2 ((hb bag hg).2 line).2
          rw [show replLen opt = d.length by rw [replLen, hr]; rfl]
          refine ⟨⟨Nat.zero_le _, Nat.zero_le _, hl, Nat.zero_le _, Nat.zero_le _, Nat.zero_le _⟩,
            fun loc h => ?_⟩
          cases h
          exact ⟨hl, fun h => nomatch h⟩
    · simp only [h2, Bool.false_eq_true, if_false]
      refine ⟨trivial, fun _ => ?_⟩
      have hl := compressDelimiter_length_le line opt.delimiter buf
      refine ⟨⟨Nat.zero_le _, hl, Nat.zero_le _, Nat.zero_le _, Nat.zero_le _, Nat.zero_le _⟩,
        fun loc h => ?_⟩
      cases h
      exact ⟨Nat.le_trans hl (le_wide _ _), fun _ => hl⟩
  · simp only [h1, Bool.false_eq_true, if_false]
    refine ⟨trivial, fun _ => ⟨RecPeak.zero_le _, fun loc h => ?_⟩⟩
    cases h
    exact ⟨le_wide _ _, fun _ => Nat.le_refl _⟩

theorem drainTo_length_le (v : List Range) (k : Nat) (v' : List Range) (h : drainTo v k = .ok v') :
    v'.length ≤ v.length := by
  unfold drainTo at h
  split at h
  · cases h; simp
  · cases h

/-- l.332-346: `fields` after the split, before the pop / drain of l.353-354 -/
def splitFields (loc : Locals) (opt : Opt) (fields : List Range) : Res (List Range) :=
  if loc.shouldBuildRangesUsingRegex then
    (unwrap opt.regexBag).bind fun bag =>
    .ok (fillWithFieldsLocationsUsingRegex fields loc.line
      ((if opt.greedyDelimiter then bag.greedy else bag.normal) loc.line))
  else if opt.greedyDelimiter then .ok (fillWithFieldsLocationsGreedy fields loc.line loc.delimiter)
  else .ok (fillWithFieldsLocations fields loc.line loc.delimiter)

theorem fieldsStageI_eq (loc : Locals) (opt : Opt) (fields : List Range) :
    fieldsStageI loc opt fields =
      match splitFields loc opt fields with
      | .fail => (.fail, {}) | .panic => (.panic, {})
      | .ok fields =>
        if opt.boundsType = .characters && decide (fields.length > 2) then
          (drainTo fields.dropLast 1, { fields := fields.length })
        else (.ok fields, { fields := fields.length }) := rfl

theorem fieldsStage_eq (loc : Locals) (opt : Opt) (fields : List Range) :
    CutStrLit.fieldsStage loc opt fields =
      (splitFields loc opt fields).bind fun fields =>
        if opt.boundsType = .characters && decide (fields.length > 2) then drainTo fields.dropLast 1
        else .ok fields := rfl

theorem fieldsStageI_erase (loc : Locals) (opt : Opt) (fields : List Range) :
    (fieldsStageI loc opt fields).1 = CutStrLit.fieldsStage loc opt fields := by
  rw [fieldsStageI_eq, fieldsStage_eq]
  cases splitFields loc opt fields with
  | fail | panic => rfl
  | ok f =>
    simp only [Res.bind]
    split <;> rfl

theorem splitFields_length_le (loc : Locals) (opt : Opt) (fields f : List Range) (hb : OptBagOK opt)
    (hf : splitFields loc opt fields = .ok f) : f.length ≤ loc.line.length + 2 := by
  unfold splitFields at hf
  split at hf
  · cases hg : opt.regexBag with
    | none => simp [unwrap, hg, Res.bind] at hf
    | some bag =>
      simp only [unwrap, hg, Res.bind] at hf
      cases hf
      have h3 := (hb bag hg).2 loc.line
      have hms : ((if opt.greedyDelimiter = true then bag.greedy else bag.normal) loc.line).length ≤
          loc.line.length + 1 := by
        split
        · exact h3.2
        · exact h3.1
      exact Nat.le_trans (fillWithFieldsLocationsUsingRegex_length_le fields loc.line _)
        (Nat.succ_le_succ hms)
  · split at hf
    · cases hf; exact fillWithFieldsLocationsGreedy_length_le _ _ _
    · cases hf; exact fillWithFieldsLocations_length_le _ _ _

theorem fieldsStageI_le (loc : Locals) (opt : Opt) (fields : List Range) (hb : OptBagOK opt) :
    (fieldsStageI loc opt fields).2 ≤ { fields := loc.line.length + 2 } := by
  rw [fieldsStageI_eq]
  cases hf : splitFields loc opt fields with
  | fail | panic => exact RecPeak.zero_le _
  | ok f =>
    have : ({ fields := f.length } : RecPeak) ≤ { fields := loc.line.length + 2 } :=
      ⟨splitFields_length_le loc opt fields f hb hf, Nat.le_refl _, Nat.le_refl _, Nat.le_refl _, Nat.le_refl _, Nat.le_refl _⟩
    dsimp only
    split <;> exact this

theorem fromVec_length (l : List BoF) (u : UserBoundsList) (h : fromVec l = .ok u) : u.list.length = l.length := by
  simpa only [List.length_map] using congrArg List.length (markLast_eraseLast l _ (fromVec_ok h).1)

theorem complementFlat_length_le (n : Nat) (l : List BoF) :
    (l.flatMap (complementBof n)).length ≤ 2 * l.length := by
  induction l with
  | nil => simp
  | cons x t ih =>
    simp only [List.flatMap_cons, List.length_append, List.length_cons]
    have := complementBof_length_le n x
    omega

/-- what l.357-455 can allocate on a line of `len` bytes cut into `numFields` fields: at most two
    complemented bounds per bound of the option record, one unpacked bound per field for each of
    them, and an owned `field_to_print` of at most `wide` bytes — none when the delimiter is
    already replaced (`dar`) -/
def emitBound (opt : Opt) (numFields : Nat) (dar : Bool) (len : Nat) : RecPeak :=
  { complemented := 2 * opt.bounds.list.length,
    unpacked := 2 * opt.bounds.list.length * max 1 numFields,
    fieldToPrint := if dar then 0 else wide (replLen opt) len }

theorem emitStageI_spec (line : Bytes) (fields : List Range) (opt : Opt) (dar : Bool) (eol : Bytes) :
    (emitStageI line fields opt dar eol).1 = CutStrLit.emitStage line fields opt dar eol ∧
    (OptBagOK opt → (emitStageI line fields opt dar eol).2 ≤ emitBound opt fields.length dar line.length) := by
  simp only [emitStageI, CutStrLit.emitStage]
  by_cases h1 : (opt.onlyDelimited && fields.length == 1) = true
  · simp only [h1, if_true]
    exact ⟨trivial, fun _ => RecPeak.zero_le _⟩
  · simp only [h1, Bool.false_eq_true, if_false]
    generalize hg : (if opt.complement = true then
          ({ complemented := (opt.bounds.list.flatMap (complementBof fields.length)).length } : RecPeak)
        else {}) = g1
    have hg1 : g1 ≤ emitBound opt fields.length dar line.length := by
      rw [← hg]
      split
      · exact ⟨Nat.zero_le _, Nat.zero_le _, Nat.zero_le _, complementFlat_length_le _ _, Nat.zero_le _,
          Nat.zero_le _⟩
      · exact RecPeak.zero_le _
    generalize hc : (if opt.complement = true then complementList opt.bounds.list fields.length
        else Res.ok opt.bounds) = c
    cases c with
    | fail | panic => exact ⟨rfl, fun _ => hg1⟩
    | ok bounds =>
      simp only [orStop]
      have hbl : bounds.list.length ≤ 2 * opt.bounds.list.length := by
        split at hc
        · unfold complementList at hc
          dsimp only at hc
          split at hc
          · cases hc
          · rw [fromVec_length _ _ hc]; exact complementFlat_length_le _ _
        · cases hc; omega
      by_cases h2 : (opt.complement && bounds.list.isEmpty) = true
      · simp only [h2, if_true]
        exact ⟨trivial, fun _ => hg1⟩
      · simp only [h2, Bool.false_eq_true, if_false]
        generalize hg' : (if ((opt.json || decide (opt.boundsType = BoundsType.characters) && opt.replaceDelimiter.isSome) &&
              bounds.list.any needsUnpack) = true then
            ({ unpacked := (bounds.list.flatMap (unpackBof fields.length)).length } : RecPeak)
          else {}) = g2
        have hg2 : g2 ≤ emitBound opt fields.length dar line.length := by
          rw [← hg']
          split
          · exact ⟨Nat.zero_le _, Nat.zero_le _, Nat.zero_le _, Nat.zero_le _,
              Nat.le_trans (unpackList_length_le fields.length bounds.list)
                (Nat.mul_le_mul_right (max 1 fields.length) hbl), Nat.zero_le _⟩
          · exact RecPeak.zero_le _
        have w2 := RecPeak.sup_le hg1 hg2
        generalize (if ((opt.json || decide (opt.boundsType = BoundsType.characters) && opt.replaceDelimiter.isSome) &&
              bounds.list.any needsUnpack) = true then unpackList bounds.list fields.length
            else Res.ok bounds) = u
        cases u with
        | fail | panic => exact ⟨rfl, fun _ => w2⟩
        | ok bounds' =>
          obtain ⟨e, hle⟩ := tryForEachI_spec line fields fields.length opt dar bounds'.list
          refine ⟨by simp only [e], fun hb => RecPeak.sup_le w2 ?_⟩
          exact ⟨Nat.zero_le _, Nat.zero_le _, Nat.zero_le _, Nat.zero_le _, Nat.zero_le _, hle hb⟩

theorem cutStrLitI_erase (line : Bytes) (opt : Opt) (fields : List Range) (buf eol : Bytes) :
    ((cutStrLitI line opt fields buf eol).1, (cutStrLitI line opt fields buf eol).2.1,
      (cutStrLitI line opt fields buf eol).2.2.1) = CutStrLit.cutStrLit line opt fields buf eol := by
  simp only [cutStrLitI, CutStrLit.cutStrLit]
  by_cases h1 : (opt.regexBag.isSome && (opt.compressDelimiter && opt.replaceDelimiter.isNone)) = true
  · simp only [h1, if_true]
  · simp only [h1, Bool.false_eq_true, if_false]
    by_cases h2 : (opt.regexBag.isSome && (opt.join && opt.replaceDelimiter.isNone)) = true
    · simp only [h2, if_true]
    · simp only [h2, Bool.false_eq_true, if_false, CutStrLitProps.trimStage_eq]
      by_cases h3 : (trimOf opt line).isEmpty = true
      · simp only [h3, if_true]
      · simp only [h3, Bool.false_eq_true, if_false]
        rw [← (compressStageI_spec _ _ _).1]
        generalize compressStageI (trimOf opt line) opt buf = x
        obtain ⟨c, g1⟩ := x
        cases c with
        | fail | panic => rfl
        | ok loc =>
          simp only []
          rw [← fieldsStageI_erase]
          generalize fieldsStageI loc opt fields = y
          obtain ⟨f, g2⟩ := y
          cases f with
          | fail | panic => rfl
          | ok fields' => simp only [(emitStageI_spec _ _ _ _ _).1]

theorem cutStrLitClosureI_sim (opt : Opt) :
    Sim (fun stI st => stI.1 = st) (cutStrLitClosureI opt) (WholeLit.cutStrLitClosure opt) := by
  intro record stI st e
  subst e
  simp [cutStrLitClosureI, WholeLit.cutStrLitClosure, ← cutStrLitI_erase]

theorem trimmed_sim {σI σ : Type} (t : UInt8) {R : σI → σ → Prop} {fI : Closure σI} {f : Closure σ}
    (h : Sim R fI f) : Sim R (ReadLoops.trimmed t fI) (ReadLoops.trimmed t f) := by
  intro record stI st hR
  unfold ReadLoops.trimmed
  cases trimRecordSlice record t with
  | none => exact ⟨rfl, rfl, hR⟩
  | some r => exact h r stI st hR

/-- **erasure, `read_and_cut_str`**: the run of the instrumented function is the run of the frozen
    statement-level function, for every option record and every reader (every list of chunks, empty
    ones included) -/
theorem readAndCutStrWholeI_erase (opt : Opt) (stdin : List Bytes) :
    (readAndCutStrWholeI opt stdin).1 = WholeLit.readAndCutStrWhole opt stdin :=
  congrArg (fun x => x.1.seq Run.empty)
    (outerLoopI_erase opt.eol.byte (trimmed_sim opt.eol.byte (cutStrLitClosureI_sim opt)) (fuelFor stdin)
      stdin [] 0 (([], []), {}) ([], []) 0 rfl)

def incoming (fields : List Range) (buf : Bytes) : RecPeak :=
  { fields := fields.length, compressedLineBuf := buf.length }

theorem incoming_nil : incoming [] [] = {} := rfl

/-- `keep`: the stage does not touch `compressed_line_buf`, which comes back as it arrived;
    otherwise it is rebuilt from scratch and has the length the ghost saw -/
theorem compressStageI_scratch (line : Bytes) (opt : Opt) :
    ∃ keep : Bool,
      (∀ buf, compressStageI line opt buf =
        ((compressStageI line opt []).1.bind fun loc0 =>
          .ok { loc0 with compressedLineBuf := if keep then buf else loc0.compressedLineBuf },
         (compressStageI line opt []).2)) ∧
      (keep = false → ∀ loc0, (compressStageI line opt []).1 = .ok loc0 →
        loc0.compressedLineBuf.length = (compressStageI line opt []).2.compressedLineBuf) := by
  simp only [compressStageI]
  by_cases h1 : (opt.compressDelimiter &&
      (decide (opt.boundsType = BoundsType.fields) || decide (opt.boundsType = BoundsType.lines))) = true
  · simp only [h1, if_true]
    by_cases h2 : (opt.regexBag.isSome && true) = true
    · simp only [h2, if_true]
      cases unwrap opt.replaceDelimiter with
      | fail | panic => exact ⟨true, fun _ => rfl, fun h => nomatch h⟩
      | ok d =>
        cases unwrap opt.regexBag with
        | fail | panic => exact ⟨true, fun _ => rfl, fun h => nomatch h⟩
        | ok bag => exact ⟨true, fun _ => rfl, fun h => nomatch h⟩
    · simp only [h2, Bool.false_eq_true, if_false]
      -- the normal form `compressDelimiter` ignores its output argument (Rust: `clear()` first)
      exact ⟨false, fun _ => rfl, fun _ loc0 h => by cases h; rfl⟩
  · simp only [h1, Bool.false_eq_true, if_false]
    exact ⟨true, fun _ => rfl, fun h => nomatch h⟩

/-- l.332-355 read `line`, `delimiter`, `should_build_ranges_using_regex` — not `compressed_line_buf`,
    not the content of `fields` (the normal forms of `fill_with_fields_locations*` ignore their buffer
    argument; in the Rust text: `clear()` first) -/
theorem fieldsStageI_scratch (loc : Locals) (opt : Opt) (fields : List Range) (buf : Bytes) :
    fieldsStageI { loc with compressedLineBuf := buf } opt fields = fieldsStageI loc opt [] := by
  simp only [fieldsStageI_eq, splitFields, fillWithFieldsLocationsUsingRegex, fillWithFieldsLocationsGreedy,
    fillWithFieldsLocations]

theorem fieldsStageI_out_le (loc : Locals) (opt : Opt) (fields : List Range) :
    ∀ fields', (fieldsStageI loc opt fields).1 = .ok fields' →
      fields'.length ≤ (fieldsStageI loc opt fields).2.fields := by
  rw [fieldsStageI_eq]
  cases splitFields loc opt fields with
  | fail | panic => intro f h; cases h
  | ok f =>
    dsimp only
    split
    · intro f' h
      have := drainTo_length_le _ _ _ h
      rw [List.length_dropLast] at this
      exact Nat.le_trans this (Nat.sub_le _ _)
    · intro f' h
      cases h
      exact Nat.le_refl _

/-- l.268-297: either `cut_str` returns before it touches anything (`inl`: the run it returns) or it
    goes on with the trimmed, non-empty line (`inr`); the trim stage is `trimOf` (`trimStage_eq`) -/
def early (line : Bytes) (opt : Opt) (eol : Bytes) : Run ⊕ Bytes :=
  if opt.regexBag.isSome && (opt.compressDelimiter && opt.replaceDelimiter.isNone) then .inl Run.fail
  else if opt.regexBag.isSome && (opt.join && opt.replaceDelimiter.isNone) then .inl Run.fail
  else if (trimOf opt line).isEmpty then
    .inl ((if !opt.onlyDelimited then Run.ok eol else Run.empty).seq Run.empty)
  else .inr (trimOf opt line)

/-- l.300-455, what follows the early returns: the compress, fields and emit stages with their ghost -/
def coreI (line : Bytes) (opt : Opt) (fields : List Range) (buf eol : Bytes) :
    Run × List Range × Bytes × RecPeak :=
  match compressStageI line opt buf with
  | (.fail, g1) => (Run.fail, fields, buf, (incoming fields buf).sup g1)
  | (.panic, g1) => (Run.panic, fields, buf, (incoming fields buf).sup g1)
  | (.ok loc, g1) =>
    match fieldsStageI loc opt fields with
    | (.fail, g2) => (Run.fail, fields, buf, ((incoming fields buf).sup g1).sup g2)
    | (.panic, g2) => (Run.panic, fields, buf, ((incoming fields buf).sup g1).sup g2)
    | (.ok fields', g2) =>
      ((emitStageI loc.line fields' opt loc.delimiterAlreadyReplaced eol).1, fields', loc.compressedLineBuf,
        (((incoming fields buf).sup g1).sup g2).sup
          (emitStageI loc.line fields' opt loc.delimiterAlreadyReplaced eol).2)

theorem cutStrLitI_eq (line : Bytes) (opt : Opt) (fields : List Range) (buf eol : Bytes) :
    cutStrLitI line opt fields buf eol =
      match early line opt eol with
      | .inl r => (r, fields, buf, incoming fields buf)
      | .inr line' => coreI line' opt fields buf eol := by
  simp only [cutStrLitI, early, coreI, incoming]
  by_cases h1 : (opt.regexBag.isSome && (opt.compressDelimiter && opt.replaceDelimiter.isNone)) = true
  · simp only [h1, if_true]
  · simp only [h1, Bool.false_eq_true, if_false]
    by_cases h2 : (opt.regexBag.isSome && (opt.join && opt.replaceDelimiter.isNone)) = true
    · simp only [h2, if_true]
    · simp only [h2, Bool.false_eq_true, if_false, CutStrLitProps.trimStage_eq]
      by_cases h3 : (trimOf opt line).isEmpty = true
      · simp only [h3, if_true]
      · simp only [h3, Bool.false_eq_true, if_false]
        rfl

/-- **`cut_str` does not read what its two vectors held**: with any content in `fields` and
    `compressed_line_buf` the run is the same, the ghost is the same plus the lengths on arrival,
    and each vector is afterwards either UNTOUCHED or holds what this record alone put there (not
    more than the ghost of the call from empty vectors saw) -/
theorem cutStrLitI_scratch (line : Bytes) (opt : Opt) (fields : List Range) (buf eol : Bytes) :
    (cutStrLitI line opt fields buf eol).1 = (cutStrLitI line opt [] [] eol).1 ∧
    (cutStrLitI line opt fields buf eol).2.2.2 =
      (incoming fields buf).sup (cutStrLitI line opt [] [] eol).2.2.2 ∧
    ((cutStrLitI line opt fields buf eol).2.1 = fields ∨
      (cutStrLitI line opt fields buf eol).2.1.length ≤ (cutStrLitI line opt [] [] eol).2.2.2.fields) ∧
    ((cutStrLitI line opt fields buf eol).2.2.1 = buf ∨
      (cutStrLitI line opt fields buf eol).2.2.1.length ≤
        (cutStrLitI line opt [] [] eol).2.2.2.compressedLineBuf) := by
  rw [cutStrLitI_eq, cutStrLitI_eq line opt [] []]
  cases early line opt eol with
  | inl r => exact ⟨rfl, by simp only [incoming_nil, RecPeak.sup_zero], Or.inl rfl, Or.inl rfl⟩
  | inr line' =>
    obtain ⟨keep, e, hk⟩ := compressStageI_scratch line' opt
    dsimp only
    unfold coreI
    rw [e buf]
    cases hc : compressStageI line' opt [] with
    | mk c g1 =>
      rw [hc] at hk
      cases c with
      | fail | panic =>
        dsimp only [Res.bind]
        exact ⟨rfl, by simp only [incoming_nil, RecPeak.zero_sup], Or.inl rfl, Or.inl rfl⟩
      | ok loc0 =>
        dsimp only [Res.bind]
        rw [fieldsStageI_scratch loc0 opt fields]
        have hout := fieldsStageI_out_le loc0 opt []
        cases hy : fieldsStageI loc0 opt [] with
        | mk f g2 =>
          rw [hy] at hout
          cases f with
          | fail | panic =>
            exact ⟨rfl, by simp only [incoming_nil, RecPeak.zero_sup, RecPeak.sup_assoc], Or.inl rfl, Or.inl rfl⟩
          | ok fields' =>
            refine ⟨rfl, by simp only [incoming_nil, RecPeak.zero_sup, RecPeak.sup_assoc], Or.inr ?_, ?_⟩
            · exact Nat.le_trans (hout fields' rfl)
                (Nat.le_trans (Nat.le_max_right _ _) (Nat.le_max_left _ _))
            · cases keep with
              | true => exact Or.inl rfl
              | false =>
                exact Or.inr (Nat.le_trans (Nat.le_of_eq (hk rfl loc0 rfl))
                  (Nat.le_trans (Nat.le_max_left _ _) (Nat.le_max_left _ _)))

theorem emitBound_le (opt : Opt) (n : Nat) (dar : Bool) (len len' : Nat)
    (hn : n ≤ len' + 2) (h1 : len' ≤ wide (replLen opt) len) (h2 : dar = false → len' ≤ len) :
    emitBound opt n dar len' ≤ recBound opt len := by
  have hm := Nat.mul_le_mul_left (2 * opt.bounds.list.length)
    (show max 1 n ≤ wide (replLen opt) len + 2 by omega)
  rw [RecPeak.le_def]
  simp only [emitBound, recBound]
  refine ⟨Nat.zero_le _, Nat.zero_le _, Nat.zero_le _, Nat.le_refl _, hm, ?_⟩
  cases dar with
  | true => exact Nat.zero_le _
  | false => exact wide_mono _ (h2 rfl)

theorem coreI_le (line : Bytes) (opt : Opt) (eol : Bytes) (hb : OptBagOK opt) :
    (coreI line opt [] [] eol).2.2.2 ≤ recBound opt line.length := by
  obtain ⟨hg1, hloc⟩ := (compressStageI_spec line opt []).2 hb
  have hg1' : (compressStageI line opt []).2 ≤ recBound opt line.length :=
    RecPeak.le_trans hg1
      ⟨Nat.zero_le _, Nat.le_refl _, Nat.le_refl _, Nat.zero_le _, Nat.zero_le _, Nat.zero_le _⟩
  unfold coreI
  generalize compressStageI line opt [] = x at hg1' hloc
  obtain ⟨c, g1⟩ := x
  simp only [incoming_nil, RecPeak.zero_sup]
  cases c with
  | fail | panic => exact hg1'
  | ok loc =>
    simp only []
    obtain ⟨hl1, hl2⟩ := hloc loc rfl
    have hg2 := fieldsStageI_le loc opt [] hb
    have hout := fieldsStageI_out_le loc opt []
    have hg2' : (fieldsStageI loc opt []).2 ≤ recBound opt line.length :=
      RecPeak.le_trans hg2 ⟨Nat.add_le_add_right hl1 2, Nat.zero_le _, Nat.zero_le _, Nat.zero_le _,
        Nat.zero_le _, Nat.zero_le _⟩
    have hg2f : (fieldsStageI loc opt []).2.fields ≤ loc.line.length + 2 := hg2.1
    generalize fieldsStageI loc opt [] = y at hg2' hg2f hout
    obtain ⟨f, g2⟩ := y
    cases f with
    | fail | panic => exact RecPeak.sup_le hg1' hg2'
    | ok fields' =>
      simp only []
      have hn := hout fields' rfl
      simp only at hn hg2f
      refine RecPeak.sup_le (RecPeak.sup_le hg1' hg2') ?_
      exact RecPeak.le_trans ((emitStageI_spec loc.line fields' opt loc.delimiterAlreadyReplaced eol).2 hb)
        (emitBound_le opt _ _ _ _ (by omega) hl1 hl2)

theorem early_inr_length_le (line : Bytes) (opt : Opt) (eol line' : Bytes) (h : early line opt eol = .inr line') :
    line'.length ≤ line.length := by
  unfold early at h
  split at h
  · cases h
  · split at h
    · cases h
    · split at h
      · cases h
      · cases h
        exact trimOf_length_le _ _

theorem cutStrLitI_peak_le (line : Bytes) (opt : Opt) (eol : Bytes) (hb : OptBagOK opt) :
    (cutStrLitI line opt [] [] eol).2.2.2 ≤ recBound opt line.length := by
  rw [cutStrLitI_eq]
  cases he : early line opt eol with
  | inl r => simp only [incoming_nil]; exact RecPeak.zero_le _
  | inr line' =>
    simp only []
    exact RecPeak.le_trans (coreI_le line' opt eol hb)
      (recBound_mono opt (early_inr_length_le _ _ _ _ he))

/-- the peak of `cut_str` on one record, from empty vectors: a function of the option record and
    of THIS record alone -/
def recPeak (opt : Opt) (line : Bytes) : RecPeak := (cutStrLitI line opt [] [] [opt.eol.byte]).2.2.2

def recOk (opt : Opt) (line : Bytes) : Bool :=
  decide ((cutStrLitI line opt [] [] [opt.eol.byte]).1.status = .ok)

def execSup (m : Bytes → RecPeak) (ok : Bytes → Bool) : List Bytes → RecPeak
  | [] => {}
  | r :: t => if ok r then (m r).sup (execSup m ok t) else m r

/-- l.473 `strip_suffix` finds nothing to strip on a record that `for_byte_record` has trimmed -/
theorem cutStrLitClosureI_not_mem (opt : Opt) (r : Bytes) (st : (List Range × Bytes) × RecPeak)
    (h : opt.eol.byte ∉ r) :
    cutStrLitClosureI opt r st =
      ((cutStrLitI r opt st.1.1 st.1.2 [opt.eol.byte]).1, true,
       (((cutStrLitI r opt st.1.1 st.1.2 [opt.eol.byte]).2.1,
         (cutStrLitI r opt st.1.1 st.1.2 [opt.eol.byte]).2.2.1),
        st.2.sup (cutStrLitI r opt st.1.1 st.1.2 [opt.eol.byte]).2.2.2)) := by
  simp only [cutStrLitClosureI, ReadLoops.stripSuffix_not_mem r _ h, Option.getD_none]

/-- the invariant of the fold: the two vectors fit under the accumulator.  Then what a call adds to
    the accumulator is the peak of that record from EMPTY vectors (`cutStrLitI_scratch`), so the
    accumulator ends as the maximum over the executed records, whatever the vectors held -/
theorem foldState_closure (opt : Opt) : ∀ (recs : List Bytes) (f : List Range) (b : Bytes) (g : RecPeak),
    (∀ r ∈ recs, opt.eol.byte ∉ r) → incoming f b ≤ g →
    (foldState (cutStrLitClosureI opt) recs ((f, b), g)).2 =
        g.sup (execSup (recPeak opt) (recOk opt) recs) ∧
    incoming (foldState (cutStrLitClosureI opt) recs ((f, b), g)).1.1
        (foldState (cutStrLitClosureI opt) recs ((f, b), g)).1.2 ≤
      (foldState (cutStrLitClosureI opt) recs ((f, b), g)).2 := by
  intro recs
  induction recs with
  | nil => intro f b g _ hi; exact ⟨(RecPeak.sup_zero g).symm, hi⟩
  | cons r t ih =>
    intro f b g hne hi
    have hr := hne r (List.mem_cons_self ..)
    have ht : ∀ r' ∈ t, opt.eol.byte ∉ r' := fun r' hr' => hne r' (List.mem_cons_of_mem _ hr')
    obtain ⟨s1, s2, s3, s4⟩ := cutStrLitI_scratch r opt f b [opt.eol.byte]
    rw [foldState_cons, cutStrLitClosureI_not_mem opt r _ hr]
    simp only [and_true]
    have hg' : g.sup (cutStrLitI r opt f b [opt.eol.byte]).2.2.2 = g.sup (recPeak opt r) := by
      rw [s2, ← RecPeak.sup_assoc, RecPeak.sup_eq_left hi]
      rfl
    have hinv : incoming (cutStrLitI r opt f b [opt.eol.byte]).2.1 (cutStrLitI r opt f b [opt.eol.byte]).2.2.1 ≤
        g.sup (recPeak opt r) := by
      refine ⟨?_, ?_, Nat.zero_le _, Nat.zero_le _, Nat.zero_le _, Nat.zero_le _⟩
      · rcases s3 with s3 | s3
        · rw [s3]; exact Nat.le_trans hi.1 (Nat.le_max_left _ _)
        · exact Nat.le_trans s3 (Nat.le_max_right _ _)
      · rcases s4 with s4 | s4
        · rw [s4]; exact Nat.le_trans hi.2.1 (Nat.le_max_left _ _)
        · exact Nat.le_trans s4 (Nat.le_max_right _ _)
    rw [hg', s1]
    by_cases hok : (cutStrLitI r opt [] [] [opt.eol.byte]).1.status = .ok
    · simp only [hok, if_true, execSup, recOk, decide_true]
      obtain ⟨i1, i2⟩ := ih _ _ _ ht hinv
      exact ⟨by rw [i1, RecPeak.sup_assoc], i2⟩
    · simp only [hok, if_false, execSup, recOk, decide_false, Bool.false_eq_true]
      exact ⟨trivial, hinv⟩

/-- **the ghost of `read_and_cut_str` in closed form**: bstr calls the closure on exactly the terminated
    records of the concatenated input (`outerLoopI_spec`: the chunking is gone), `trim_record_slice`
    makes them `records` (`fold_trimmed`), and over the records the accumulator is a maximum of per-record
    peaks (`foldState_closure`) -/
theorem readAndCutStrWholeI_peak (opt : Opt) (segs : List Bytes) (h : ∀ s ∈ segs, s ≠ []) :
    (readAndCutStrWholeI opt segs).2.cut =
        execSup (recPeak opt) (recOk opt) (records opt.eol.byte segs.flatten) ∧
    (readAndCutStrWholeI opt segs).2.bytes ≤ longestLine opt.eol.byte segs.flatten := by
  obtain ⟨h1, h2⟩ := outerLoopI_spec opt.eol.byte (ReadLoops.trimmed opt.eol.byte (cutStrLitClosureI opt))
    (fuelFor segs) segs ((([] : List Range), ([] : Bytes)), ({} : RecPeak)) 0 h
    (ReadLoops.totalBytes_lt_fuelFor segs)
  refine ⟨(congrArg Prod.snd h1).trans ?_, Nat.le_trans h2 (Nat.le_of_eq ?_)⟩
  · rw [(ReadLoops.fold_trimmed opt.eol.byte _ segs.flatten _).2]
    exact (foldState_closure opt (records opt.eol.byte segs.flatten) [] [] {}
      (ReadLoops.records_not_mem opt.eol.byte segs.flatten) (RecPeak.zero_le _)).1.trans (RecPeak.zero_sup _)
  · rw [Nat.zero_max]
    rfl

theorem execSup_le (m : Bytes → RecPeak) (ok : Bytes → Bool) (bound : RecPeak) :
    ∀ rs : List Bytes, (∀ r ∈ rs, m r ≤ bound) → execSup m ok rs ≤ bound := by
  intro rs
  induction rs with
  | nil => intro _; exact RecPeak.zero_le _
  | cons r t ih =>
    intro h
    simp only [execSup]
    have h1 := h r (List.mem_cons_self ..)
    split
    · exact RecPeak.sup_le h1 (ih fun x hx => h x (List.mem_cons_of_mem _ hx))
    · exact h1

theorem length_le_maxLen : ∀ (rs : List Bytes) (r : Bytes), r ∈ rs → r.length ≤ maxLen rs := by
  intro rs
  induction rs with
  | nil => intro r h; cases h
  | cons x t ih =>
    intro r h
    simp only [maxLen]
    rcases List.mem_cons.mp h with rfl | h
    · omega
    · have := ih r h; omega

/-- **general engine, `cut_str`'s vectors and temporaries: every component of the ghost is under
    `recBound opt (longest record)`** — every option record (whose regex, if any, honours the
    contract of `find_iter`), every input, every segmentation into non-empty reads.  The number of
    records does not enter; what comes from the option record (the length of the replacement, the
    number of bounds) is a factor that does not depend on the input. -/
theorem readAndCutStrWholeI_cut_le (opt : Opt) (segs : List Bytes) (h : ∀ s ∈ segs, s ≠ [])
    (hb : OptBagOK opt) :
    (readAndCutStrWholeI opt segs).2.cut ≤ recBound opt (longestRecord opt.eol.byte segs.flatten) := by
  rw [(readAndCutStrWholeI_peak opt segs h).1]
  apply execSup_le
  intro r hr
  exact RecPeak.le_trans (cutStrLitI_peak_le r opt _ hb) (recBound_mono opt (length_le_maxLen _ r hr))

/-- **bstr's `bytes` holds at most the longest record and its terminator** -/
theorem readAndCutStrWholeI_bytes_le (opt : Opt) (segs : List Bytes) (h : ∀ s ∈ segs, s ≠ []) :
    (readAndCutStrWholeI opt segs).2.bytes ≤ longestRecord opt.eol.byte segs.flatten + 1 :=
  Nat.le_trans (readAndCutStrWholeI_peak opt segs h).2 (Space.longestLine_le_longestRecord _ _)

/-- `fields` (one `Range<usize>` per field, plus the two boundary ranges that `-c` pops): at most
    `w + 2` entries, `w` = the longest record widened by the replacement -/
theorem readAndCutStrWholeI_fields_le (opt : Opt) (segs : List Bytes) (h : ∀ s ∈ segs, s ≠ [])
    (hb : OptBagOK opt) :
    (readAndCutStrWholeI opt segs).2.cut.fields ≤
      wide (replLen opt) (longestRecord opt.eol.byte segs.flatten) + 2 :=
  (readAndCutStrWholeI_cut_le opt segs h hb).1

/-- … without `-r`: at most (longest record) + 2 entries — C17's "in terms of the longest record, not
    the number of records" -/
theorem readAndCutStrWholeI_fields_le_record (opt : Opt) (segs : List Bytes) (h : ∀ s ∈ segs, s ≠ [])
    (hb : OptBagOK opt) (hr : opt.replaceDelimiter = none) :
    (readAndCutStrWholeI opt segs).2.cut.fields ≤ longestRecord opt.eol.byte segs.flatten + 2 := by
  have := readAndCutStrWholeI_fields_le opt segs h hb
  have e : replLen opt = 0 := by simp [replLen, hr]
  rwa [e, wide, Nat.mul_zero, Nat.add_zero] at this

/-- `compressed_line_buf`: at most the longest record, with or without `-r` -/
theorem readAndCutStrWholeI_compressedLineBuf_le (opt : Opt) (segs : List Bytes) (h : ∀ s ∈ segs, s ≠ [])
    (hb : OptBagOK opt) :
    (readAndCutStrWholeI opt segs).2.cut.compressedLineBuf ≤ longestRecord opt.eol.byte segs.flatten :=
  (readAndCutStrWholeI_cut_le opt segs h hb).2.1

/-- `line_holder` and an owned `field_to_print`: at most `len + (len + 1) · |replacement|` bytes -/
theorem readAndCutStrWholeI_cow_le (opt : Opt) (segs : List Bytes) (h : ∀ s ∈ segs, s ≠ [])
    (hb : OptBagOK opt) :
    (readAndCutStrWholeI opt segs).2.cut.lineHolder ≤
        wide (replLen opt) (longestRecord opt.eol.byte segs.flatten) ∧
    (readAndCutStrWholeI opt segs).2.cut.fieldToPrint ≤
        wide (replLen opt) (longestRecord opt.eol.byte segs.flatten) :=
  ⟨(readAndCutStrWholeI_cut_le opt segs h hb).2.2.1,
   (readAndCutStrWholeI_cut_le opt segs h hb).2.2.2.2.2⟩

/-- the complemented list: at most two entries per bound of the option record, WHATEVER the input;
    the unpacked list: at most one entry per field for each of those -/
theorem readAndCutStrWholeI_bounds_le (opt : Opt) (segs : List Bytes) (h : ∀ s ∈ segs, s ≠ [])
    (hb : OptBagOK opt) :
    (readAndCutStrWholeI opt segs).2.cut.complemented ≤ 2 * opt.bounds.list.length ∧
    (readAndCutStrWholeI opt segs).2.cut.unpacked ≤
      2 * opt.bounds.list.length * (wide (replLen opt) (longestRecord opt.eol.byte segs.flatten) + 2) :=
  ⟨(readAndCutStrWholeI_cut_le opt segs h hb).2.2.2.1,
   (readAndCutStrWholeI_cut_le opt segs h hb).2.2.2.2.1⟩

theorem execSup_replicate (m : Bytes → RecPeak) (ok : Bytes → Bool) (a : List Bytes) (k : Nat) :
    execSup m ok (List.replicate (k + 1) a).flatten = execSup m ok a :=
  Space.exec_replicate rfl (fun _ _ => rfl) RecPeak.sup_assoc RecPeak.zero_sup RecPeak.sup_zero
    (fun x => RecPeak.sup_eq_left (RecPeak.le_refl x)) a k

/-- **general engine: repeating the input does not move the peaks** — `k + 1` copies of a block
    that ends with the terminator, read in ANY pieces, need exactly the `fields`, `compressed_line_buf`
    and temporaries that one copy (read in any pieces) needs; bstr's `bytes` stays under the longest
    line of ONE copy. -/
theorem readAndCutStrWholeI_replicate (opt : Opt) (block : Bytes)
    (hend : block.getLast? = some opt.eol.byte) (k : Nat) (segs segs' : List Bytes)
    (h : ∀ s ∈ segs, s ≠ []) (h' : ∀ s ∈ segs', s ≠ [])
    (e : segs.flatten = block) (e' : segs'.flatten = (List.replicate (k + 1) block).flatten) :
    (readAndCutStrWholeI opt segs').2.cut = (readAndCutStrWholeI opt segs).2.cut ∧
    (readAndCutStrWholeI opt segs').2.bytes ≤ longestLine opt.eol.byte block := by
  obtain ⟨p1, _⟩ := readAndCutStrWholeI_peak opt segs h
  obtain ⟨p1', p2'⟩ := readAndCutStrWholeI_peak opt segs' h'
  constructor
  · rw [p1, p1', e, e', Space.records_replicate _ _ (Or.inr hend), execSup_replicate]
  · rw [e'] at p2'
    exact Nat.le_trans p2' (Space.longestLine_replicate_le _ _ (Or.inr hend) _)

/-- **after a call of `cut_str`, whatever the two vectors held before**: each of them is either
    untouched (the call returned before l.327 resp. l.332: refused options, a record that is empty
    after trimming — then it holds what an EARLIER record left, which is under that record's bound)
    or holds what THIS record put there: at most `w + 2` ranges resp. at most `len` bytes, `len` the
    length of this record.  (The `clear()`s inside `fill_with_fields_locations*` /
    `compress_delimiter` are not part of the transcribed text: the normal forms ignore the buffer.) -/
theorem cutStrLitI_vectors_after (line : Bytes) (opt : Opt) (fields : List Range) (buf eol : Bytes)
    (hb : OptBagOK opt) :
    ((cutStrLitI line opt fields buf eol).2.1 = fields ∨
      (cutStrLitI line opt fields buf eol).2.1.length ≤ wide (replLen opt) line.length + 2) ∧
    ((cutStrLitI line opt fields buf eol).2.2.1 = buf ∨
      (cutStrLitI line opt fields buf eol).2.2.1.length ≤ line.length) := by
  obtain ⟨_, _, s3, s4⟩ := cutStrLitI_scratch line opt fields buf eol
  have hp : _ ∧ _ := cutStrLitI_peak_le line opt eol hb
  simp only [recBound] at hp
  constructor
  · rcases s3 with s3 | s3
    · exact Or.inl s3
    · right; omega
  · rcases s4 with s4 | s4
    · exact Or.inl s4
    · right; omega

theorem boundariesFrom_length : ∀ (cs : List Bytes) (pos : Nat), (boundariesFrom pos cs).length = cs.length + 1 := by
  intro cs
  induction cs with
  | nil => intro pos; rfl
  | cons c t ih => intro pos; simp [boundariesFrom, ih]

theorem length_le_flatten_length : ∀ (cs : List Bytes), (∀ c ∈ cs, 1 ≤ c.length) → cs.length ≤ cs.flatten.length := by
  intro cs
  induction cs with
  | nil => intro _; exact Nat.le_refl _
  | cons c t ih =>
    intro h
    have h1 := h c (List.mem_cons_self ..)
    have h2 := ih fun x hx => h x (List.mem_cons_of_mem _ hx)
    simp only [List.length_cons, List.flatten_cons, List.length_append]
    omega

theorem charMatches_length_le (line : Bytes) : (charMatches line).length ≤ line.length + 1 := by
  unfold charMatches
  cases hcs : utf8Chars line with
  | none => simp
  | some cs =>
    simp only [List.length_map, boundariesFrom_length]
    have h1 := utf8Chars_flatten line cs hcs
    have h2 := utf8Chars_each line cs hcs
    have := length_le_flatten_length cs fun c hc => (charLen_bounds c c.length (h2 c hc)).1
    rw [h1] at this
    omega

theorem bagOK_chars : BagOK charsBag :=
  ⟨charsBag_ok, fun line => ⟨charMatches_length_le line, charMatches_length_le line⟩⟩

/-- **the option records without `-e`** (no bag, or the bag of `-c`) **and those with a modelled
    regex meet `OptBagOK`** -/
theorem optBagOK_of_program (opt : Opt)
    (h : opt.regexBag = none ∨ opt.regexBag = some charsBag ∨ ∃ r : Re, opt.regexBag = some (Re.bag r)) :
    OptBagOK opt := by
  intro bag hbag
  rcases h with h | h | ⟨r, h⟩
  · rw [h] at hbag; cases hbag
  · rw [h] at hbag; cases hbag; exact bagOK_chars
  · rw [h] at hbag; cases hbag; exact bagOK_of_re r

/-- … so of the option record that `main` hands to an engine (`tucRun`) nothing has to be assumed -/
theorem optBagOK_of_compileBag (o : Opt) (rt : Option Arg) (bag : Option RegexBag)
    (h : compileBag o rt = some bag) : OptBagOK { o with regexBag := bag } :=
  optBagOK_of_program _ (compileBag_cases h)

theorem outerLoopI_single {σ : Type} (t : UInt8) (f : Closure σ) (input : Bytes) (hne : input ≠ [])
    (hend : input.getLast? = some t) (fuel : Nat) (st : σ) (p : Nat) :
    (outerLoopI t f (fuel + 2) [input] [] 0 st p).2.2.2 ≤ p := by
  rw [outerLoopI_succ, show fillBuf [input] = input from rfl, if_neg (by rw [List.isEmpty_iff]; exact hne)]
  obtain ⟨_, _, hpending⟩ :=
    ReadLoops.whileFindByte_fold t f [] (input.length + 1) input 0 st _ (Nat.lt_succ_self _) rfl
  generalize whileFindByte t f (input.length + 1) input 0 st = w at hpending ⊢
  cases hb : w.breakOuter with
  | true => exact Nat.le_refl p
  | false =>
    obtain ⟨hconsumed, _, hnot, pre, hpre⟩ := hpending hb
    -- the pending fragment is a suffix of `input` without terminator
    have hbuf : w.buf = [] := by
      cases hwb : w.buf with
      | nil => rfl
      | cons c tl =>
        rw [hpre, hwb, Space.getLast?_append_of_ne_nil _ (List.cons_ne_nil c tl)] at hend
        exact absurd (hwb ▸ List.mem_of_getLast? hend) hnot
    have := (afterWhileI_spec t f (fuel + 1) [input] [] w p
      (by rw [hconsumed, Nat.zero_add, StreamLoop.consume_all]) (fun _ h => nomatch h) hnot
      (fun stdin' st p h hle => outerLoopI_spec t f (fuel + 1) stdin' st p h
        (Nat.lt_succ_of_le (Nat.le_trans hle (Nat.zero_le fuel))))).2
    rw [hbuf] at this
    rw [if_neg (by simp)]
    exact Nat.le_trans this (Nat.max_le.2 ⟨Nat.le_refl p, Nat.zero_le p⟩)

/-- **a single read that ends with the terminator** (the whole input fits into the `BufReader`, or
    a reader that hands out whole lines): every record is lent as a slice of the reader's buffer,
    bstr's `bytes` stays EMPTY.  It is used for the record that straddles two reads, for the first
    record of every read after the first one (l.336 is reached with an empty fragment), and for the
    fragment after the last terminator of a read (l.325) — `#guard`s at the end of the file. -/
theorem readAndCutStrWholeI_bytes_single (opt : Opt) (input : Bytes) (hne : input ≠ [])
    (hend : input.getLast? = some opt.eol.byte) :
    (readAndCutStrWholeI opt [input]).2.bytes = 0 :=
  -- the loop is entered with `fuelFor [input] = 2 * totalBytes [input] + 2`: the `fuel + 2` of the lemma
  Nat.le_zero.1 (outerLoopI_single opt.eol.byte _ input hne hend (2 * totalBytes [input]) _ 0)

/-! ## by evaluation

The instrumented functions are executable.  Options as `main` builds them (`ReadLoops.mkOpt`:
parsed bounds, delimiter `-`).  Bytes: `a` = 97, `-` = 45, LF = 10. -/

section Guards
open ReadLoops (mkOpt bytesOf)

/-- how the run ends, the peak of `bytes`, and the six components of `RecPeak` in the order
    fields, compressed_line_buf, line_holder, complemented, unpacked, field_to_print -/
def peakOf (o : Opt) (reads : List String) : Status × Nat × List Nat :=
  let p := (readAndCutStrWholeI o (reads.map bytesOf)).2
  ((readAndCutStrWholeI o (reads.map bytesOf)).1.status, p.bytes,
   [p.cut.fields, p.cut.compressedLineBuf, p.cut.lineHolder, p.cut.complemented, p.cut.unpacked,
    p.cut.fieldToPrint])

def optS : Opt := mkOpt "2" fun o => { o with compressDelimiter := true }
def optX : Opt := mkOpt "2" fun o => { o with complement := true }
def optJ : Opt := mkOpt "2:" fun o => { o with json := true }
def optXJ : Opt := mkOpt "2,4" fun o => { o with complement := true, json := true, fallbackOob := some [70] }
def optR : Opt := mkOpt "1:2" fun o => { o with replaceDelimiter := some (bytesOf "<=>"), join := true }
def optC : Opt :=
  mkOpt "2:3" fun o => { o with delimiter := [], boundsType := .characters, regexBag := some charsBag }
def optE : Opt :=
  mkOpt "2" fun o => { o with regexBag := some (Re.bag (Re.cls [0x2d, 0x2c])),
                              replaceDelimiter := some (bytesOf "::"), compressDelimiter := true }

-- `bytes` (bstr): one read that ends with the terminator — every record is lent as a slice of the
-- reader's buffer, `bytes` stays empty …
#guard peakOf (mkOpt "2") ["a-b-c\nd-e\n"] == (.ok, 0, [3, 0, 0, 0, 0, 0])
-- … two reads that both end with the terminator: the first record of the SECOND read goes
-- through `bytes` (l.336 `read_until`), 4 bytes with its terminator …
#guard peakOf (mkOpt "2") ["a-b-c\n", "d-e\n"] == (.ok, 4, [3, 0, 0, 0, 0, 0])
-- … a record that straddles the reads is assembled there: `a-b-c` LF, 6 bytes = longest record + 1
#guard peakOf (mkOpt "2") ["a-b", "-c\nd-e\n"] == (.ok, 6, [3, 0, 0, 0, 0, 0])
#guard longestRecord 10 (bytesOf "a-b-c\nd-e\n") == 5
-- … the fragment after the last terminator of a read (l.325), here the final `d-e` without LF
#guard peakOf (mkOpt "2") ["a-b-c\nd-e"] == (.ok, 3, [3, 0, 0, 0, 0, 0])
-- `fields`: one range per field (`a-b-c`: 3); `compressed_line_buf` (`-p`): `a-b-c`, 5 bytes of the 8
#guard peakOf optS ["a--b---c\nd-e\n"] == (.ok, 0, [3, 5, 0, 0, 0, 0])
-- `-m`: the complement of `2` on 3 fields is `1,3:3`: two entries, whatever the record
#guard peakOf optX ["a-b-c\nd-e\n"] == (.ok, 0, [3, 0, 0, 2, 0, 0])
-- `--json -f 2:` on 5 fields: unpacked into `2,3,4,5`
#guard peakOf optJ ["a-b-c-d-e\nd-e\n"] == (.ok, 0, [5, 0, 0, 0, 4, 0])
-- `--json -m -f 2,4`: 2 + 2 complemented entries, unpacked into 1 + 3 + 3 + 1 (both lists alive)
#guard peakOf optXJ ["a-b-c-d-e\nd-e\n"] == (.ok, 0, [5, 0, 0, 4, 8, 0])
-- `-r '<=>'`: the field `a-b` is printed as the owned `a<=>b`
#guard peakOf optR ["a-b-c\nd-e\n"] == (.ok, 0, [3, 0, 0, 0, 0, 5])
-- `-c`: `héllo` has 5 characters: 5 + the two boundary ranges that l.353-354 pop
#guard peakOf optC ["héllo\nabc\n"] == (.ok, 0, [7, 0, 0, 0, 0, 0])
-- `-e '[-,]' -p -r '::'`: `a-,-b,c` becomes the `line_holder` `a::b::c` (7 bytes)
#guard peakOf optE ["a-,-b,c\nd-e\n"] == (.ok, 0, [3, 0, 7, 0, 0, 0])
-- the first record fails (no field 3, no fallback): the second one is never cut
#guard peakOf (mkOpt "3") ["x\na-b-c-d-e\n"] == (.fail, 0, [1, 0, 0, 0, 0, 0])
#guard peakOf (mkOpt "3" fun o => { o with fallbackOob := some [70] }) ["x\na-b-c-d-e\n"] ==
  (.ok, 0, [5, 0, 0, 0, 0, 0])

/-! ### non-vacuity of the main theorems -/

/-- `readAndCutStrWholeI_cut_le` applies (`_bytes_le` and `_peak` need only its first hypothesis):
    reads without an empty chunk, an option record without `-e` -/
example : (readAndCutStrWholeI optXJ [[97, 45, 98, 45, 99, 45, 100], [45, 101, 10, 100, 45, 101, 10]]).2.cut ≤
    recBound optXJ (longestRecord optXJ.eol.byte
      [[97, 45, 98, 45, 99, 45, 100], [45, 101, 10, 100, 45, 101, 10]].flatten) :=
  readAndCutStrWholeI_cut_le optXJ _ (by decide) (optBagOK_of_program optXJ (Or.inl rfl))

/-- … the option record of `-c` (the bag `\b|\B`) … -/
example : (readAndCutStrWholeI optC [[104, 195, 169, 108, 108, 111, 10, 97, 98, 99, 10]]).2.cut ≤
    recBound optC (longestRecord optC.eol.byte [[104, 195, 169, 108, 108, 111, 10, 97, 98, 99, 10]].flatten) :=
  readAndCutStrWholeI_cut_le optC _ (by decide) (optBagOK_of_program optC (Or.inr (Or.inl rfl)))

/-- … and one with `-e` -/
example : (readAndCutStrWholeI optE [[97, 45, 44, 45, 98, 44, 99, 10, 100, 45, 101, 10]]).2.cut ≤
    recBound optE (longestRecord optE.eol.byte [[97, 45, 44, 45, 98, 44, 99, 10, 100, 45, 101, 10]].flatten) :=
  readAndCutStrWholeI_cut_le optE _ (by decide) (optBagOK_of_program optE (Or.inr (Or.inr ⟨_, rfl⟩)))

-- the numbers: `recBound` for the longest record (9 bytes) of the `--json -m` example: w = 9 (no `-r`)
#guard recBound optXJ 9 ==
  { fields := 11, compressedLineBuf := 9, lineHolder := 9, complemented := 4, unpacked := 44, fieldToPrint := 9 }
-- with `-r '<=>'` (3 bytes) and a longest record of 5 bytes: w = 5 + 6 · 3 = 23
#guard recBound optR 5 ==
  { fields := 25, compressedLineBuf := 5, lineHolder := 23, complemented := 2, unpacked := 50, fieldToPrint := 23 }
-- the `fields` bound `len + 2` is reached (`-c` on ASCII: one range per character + 2) …
#guard peakOf optC ["abcde\n"] == (.ok, 0, [7, 0, 0, 0, 0, 0])
-- … and so is `wide` for an owned field with the EMPTY delimiter: `-d '' -r '<=>' -f 1:` turns the
-- 2-byte record into `<=>a<=>b<=>` = 2 + 3 · 3 bytes
#guard peakOf (mkOpt "1:" fun o => { o with delimiter := [], replaceDelimiter := some (bytesOf "<=>") })
  ["ab\n"] == (.ok, 0, [4, 0, 0, 0, 0, 11])
#guard wide 3 2 == 11

/-- `readAndCutStrWholeI_replicate`: a block its hypothesis holds for -/
example : ([97, 45, 98, 45, 99, 10, 100, 45, 101, 10] : Bytes).getLast? = some EOL.newline.byte := by decide

-- three copies, read in other pieces: the same `cut` peaks; `bytes` moves with the pieces but stays
-- under the longest line (6) of one copy
#guard peakOf optXJ ["a-b-c-d-e\nd-e\n"] == (.ok, 0, [5, 0, 0, 4, 8, 0])
#guard peakOf optXJ ["a-b-c-d-e\nd-", "e\na-b-c-d-e\nd-e\na-b", "-c-d-e\nd-e\n"] == (.ok, 10, [5, 0, 0, 4, 8, 0])
#guard longestLine 10 (bytesOf "a-b-c-d-e\nd-e\n") == 10
-- `bytes` is NOT the same for "the same reads, three times": the first record of each later read is
-- copied (equality holds for the `cut` part only)
#guard peakOf (mkOpt "1") ["ab\n"] == (.ok, 0, [1, 0, 0, 0, 0, 0])
#guard peakOf (mkOpt "1") ["ab\n", "ab\n", "ab\n"] == (.ok, 3, [1, 0, 0, 0, 0, 0])
-- the block has to end with the terminator: two copies of `a-b` are ONE record of three fields
#guard peakOf (mkOpt "1") ["a-b"] == (.ok, 3, [2, 0, 0, 0, 0, 0])
#guard peakOf (mkOpt "1") ["a-ba-b"] == (.ok, 6, [3, 0, 0, 0, 0, 0])
-- 300 records of 2 fields in reads of 7 bytes
#guard (readAndCutStrWholeI optXJ
    (StreamLoop.segsOf (List.replicate 300 [97, 45, 97, 10]).flatten (List.replicate 200 7))).2 ==
  { bytes := 4, cut := { fields := 2, complemented := 2 } }

/-! ### the hypotheses cannot be dropped -/

-- `∀ s ∈ segs, s ≠ []` (closed form, hence replicate): an empty read is EOF for the loops
-- (io.rs:305), invisible to `flatten` — the record `c-d-e` is never cut
#guard peakOf (mkOpt "2") ["a-b\n", "", "c-d-e\n"] == (.ok, 0, [2, 0, 0, 0, 0, 0])
#guard (execSup (recPeak (mkOpt "2")) (recOk (mkOpt "2")) (records 10 (bytesOf "a-b\nc-d-e\n"))).fields == 3

/-- a "regex" that reports 50 empty matches at offset 0: in order, in range, not overlapping
    (`RegexBag.OK` holds) — but not "at most one match per position" -/
def bagMany : RegexBag := { normal := fun _ => List.replicate 50 (0, 0), greedy := fun _ => List.replicate 50 (0, 0) }

-- `OptBagOK`: with `bagMany` a record of ONE byte leaves 51 ranges in `fields` (bound: 1 + 2)
#guard peakOf (mkOpt "1" fun o => { o with regexBag := some bagMany }) ["a\n"] == (.ok, 0, [51, 0, 0, 0, 0, 0])

/-! ### nothing accumulates (`cutStrLitI_vectors_after`, `cutStrLitI_scratch`) -/

/-- what a long previous record may have left behind -/
def dirtyFields : List Range := List.replicate 100 ⟨0, 0⟩
def dirtyBuf : Bytes := List.replicate 1000 120

-- a record of two fields after that: `fields` holds 2 ranges, `compressed_line_buf` 3 bytes; the ghost
-- of the call saw the 100 / 1000 on arrival
#guard (cutStrLitI (bytesOf "a--b") optS dirtyFields dirtyBuf [10]).2.1.length == 2
#guard (cutStrLitI (bytesOf "a--b") optS dirtyFields dirtyBuf [10]).2.2.1 == bytesOf "a-b"
#guard (cutStrLitI (bytesOf "a--b") optS dirtyFields dirtyBuf [10]).2.2.2 ==
  { fields := 100, compressedLineBuf := 1000 }
#guard (cutStrLitI (bytesOf "a--b") optS [] [] [10]).2.2.2 == { fields := 2, compressedLineBuf := 3 }
-- a record that is empty after trimming: `cut_str` returns at l.297, both vectors untouched
#guard (cutStrLitI (bytesOf "--") { optS with trim := some .both } dirtyFields dirtyBuf [10]).2.1.length == 100
-- without `-p` `compressed_line_buf` is never touched
#guard (cutStrLitI (bytesOf "a--b") (mkOpt "2") dirtyFields dirtyBuf [10]).2.2.1.length == 1000
-- over a whole input: a record of 9 fields, then 200 records of 2 fields — the peak is the 9
#guard (readAndCutStrWholeI optS [bytesOf "a-b-c-d-e-f-g-h-i\n" ++ (List.replicate 200 [97, 45, 97, 10]).flatten]).2.cut ==
  { fields := 9, compressedLineBuf := 17 }

/-! ### erasure, closed form and bounds on every input of at most 4 bytes over `{a, -, LF}` × every
    segmentation × 9 option records (5 bytes for two of them) -/

def testOpts : List Opt :=
  [mkOpt "2", optS, optX, optJ, optXJ, optR, optE,
   mkOpt "-1" fun o => { o with greedyDelimiter := true, trim := some .both },
   mkOpt "1:" fun o => { o with delimiter := [], replaceDelimiter := some (bytesOf "<=>"), onlyDelimited := true }]

/-- erasure, closed form, `recBound`, `bytes ≤ longest line` on every segmentation of `w` -/
def checkAll (o : Opt) (w : Bytes) : Bool :=
  (StreamLoop.segmentations w).all fun segs =>
    let r := readAndCutStrWholeI o segs
    r.1 == WholeLit.readAndCutStrWhole o segs &&
      r.2.cut == execSup (recPeak o) (recOk o) (records o.eol.byte w) &&
      decide (r.2.cut ≤ recBound o (longestRecord o.eol.byte w)) &&
      r.2.bytes ≤ longestLine o.eol.byte w

#guard testOpts.all fun o => (StreamLoop.wordsUpTo [0x61, 0x2d, 0x0a] 4).all (checkAll o)
#guard [optXJ, optE].all fun o => (StreamLoop.wordsN [0x61, 0x2d, 0x0a] 5).all (checkAll o)

end Guards
end Space2
end Tuc
