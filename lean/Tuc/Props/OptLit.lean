import Tuc.Model.OptLit
import Tuc.Props.StreamLoop
import Tuc.Props.C18
import Tuc.Props.C19Argv
import Tuc.Lemmas.Total
import Tuc.Lemmas.Program

/-!
# The option records of the engines and the dispatch of `main`: Rust text = model

`Tuc.Model.OptLit` transcribes statement by statement `ForwardBounds` / `StreamOpt` /
`print_field` / `print_bof` / `read_and_cut_bytes_stream` (stream.rs), `FastOpt::try_from`
(fast_lane.rs), `EOL → u8`, `Trim::from_str`, `Opt::default` (options.rs) and the body of `main`
(tuc.rs:274-306; `Tuc.Model.OptLit` numbers the lines as of commit 9782769, where it is
258-290).  Each is proved equal to its counterpart of the model (sections 1-8) and compared
with it by evaluation on samples (section 9).  The two `try_from`s are compared through normal
forms on both sides (`tryFrom_nf` / `StreamOptLit.tryFrom_nf` here, `forwardBoundsOf_nf` /
`streamOptOf_nf` in `Tuc.Lemmas.StreamOpt`).

Without hypothesis: `FastOptLit.tryFrom_eq`, `tryFrom_toOption`, `streamOptOfLit_toOption` (the
model's `Option` forgets whether a refusal is an `Err` or a panic) and, for what `parse_args`
returns, **`tucMainLit_eq : tucMainLit regexOk argv segs = tucMain regexOk argv segs`**.

The equalities that keep `Err` and panic apart (`tryFrom_eq`, `streamOptOfLit_eq`, `dispatchLit_eq`)
need `hasBoundOrEmpty l`: the bounds list is empty or contains a bound.  On a NON-EMPTY list of
fillers `ForwardBounds::try_from` does not return its `Err` of l.62: `is_forward_only` holds
vacuously, the loop of l.28 passes, and the `.into()` of l.45 runs `From<Vec<BoundOrFiller>>`, whose
`expect` (userboundslist.rs:49-50) PANICS, where the model's `forwardBoundsOf` says `none` (the
clean exit 1 of tuc.rs:281-284).  `tryFrom_panic_iff` / `StreamOptLit.tryFrom_panic_iff` /
`dispatchLit_eq_iff`: this is the ONLY difference.  It is not reachable from the command line —
`UserBoundsList::from_str` refuses a list without a bound (`boundsListOfString_ok_has_bound`) and
`parse_args` has no other source of bounds (`parseArgv_run`) — but it is through the library API
(all fields of `UserBoundsList` and `Opt` are `pub`): a latent defect of the library, with the dead
error branch of l.62 (`tryFrom_l62_dead`) as its symptom.

`print_bof` (`printBofLit_eq`) is the wrapper `StreamLoop.printBofCall` under two hypotheses: the
slice of l.217 is in range (the wrapper checks it on every call, the Rust text only when the bound
matches: `printBof_slice_witness`), and the `unwrap()` of l.208 does not fail (otherwise both panic,
but the literal function has already written the filler of l.201: `printBof_match_witness`).  The
second holds for everything `StreamOpt::try_from` accepts and field numbers ≥ 1
(`printBofLit_eq_of_opt`, which still takes the first); that slices are in range and field numbers
≥ 1 at every call site of `cut_bytes_stream` is in `Tuc.Props.StreamLoop`.
-/

namespace Tuc
namespace OptLit
open BoundsLit (someOrPanic resOfOption resMap)

/-! ## 1. `options.rs` -/

/-- `impl From<EOL> for u8` is the model's `EOL.byte` -/
theorem eolIntoU8_eq (e : EOL) : eolIntoU8 e = e.byte := by
  cases e <;> rfl

/-- `Trim::from_str` is the `trimArg` that `parseArgv` applies to the value of `-t` -/
theorem trimFromStrLit_eq (s : List Char) : trimFromStrLit s = trimArg s := by
  unfold trimArg
  -- the six spellings compute; any other text fails every test of the Rust `match`
  split <;> try rfl
  rename_i h1 h2 h3 h4 h5 h6
  rw [trimFromStrLit, if_neg (not_or.mpr ⟨h1, h2⟩), if_neg (not_or.mpr ⟨h3, h4⟩),
    if_neg (not_or.mpr ⟨h5, h6⟩)]

example : trimFromStrLit ['R'] = .ok .right := by decide
example : trimFromStrLit ['l', 'e', 'f', 't'] = .fail := by decide
#guard [[], ['l'], ['L'], ['r'], ['R'], ['b'], ['B'], ['x'], ['l', 'l'], ['B', ' '], ['ł']].all fun s =>
  trimFromStrLit s == trimArg s

/-- `Opt::default()`: the `unwrap()` of options.rs:59 does not fail; the record it builds -/
theorem optDefaultLit_ok :
    ∃ o, optDefaultLit = .ok o ∧ o.delimiter = [0x2d] ∧ o.eol = .newline ∧
      o.bounds = ⟨[.bound { l := .some 1, r := .cont, isLast := true }], .cont⟩ ∧
      o.boundsType = .fields ∧ o.fixedMemory = none ∧ o.replaceDelimiter = none ∧ o.trim = none := by
  refine ⟨_, rfl, ?_, rfl, ?_, rfl, rfl, rfl, rfl⟩
  · decide
  · decide

/-! ## 2. `ForwardBounds::try_from` (stream.rs:19-68), `get_last_bound` on its result, `from_str` -/

/-- the `try_for_each` of l.28-42 is `noSharedField` on the bounds of the list -/
theorem tryForEach_eq (l : List BoF) : ∀ p : Int, tryForEach p l = noSharedField p (boundsOnly l) := by
  induction l with
  | nil => intro p; rfl
  | cons x t ih =>
    intro p
    cases x with
    | filler f => exact ih p
    | bound b =>
      obtain ⟨l, r, il, fb⟩ := b
      cases l with
      | some lv =>
        by_cases h : lv ≤ p <;> cases r <;>
          simp [tryForEach, tryForEachBody, boundsOnly, noSharedField, h, ih]
      | cont =>
        by_cases h : (1 : Int) ≤ p <;> cases r <;>
          simp [tryForEach, tryForEachBody, boundsOnly, noSharedField, h, ih]

/-- the `any` of l.47-54 computes the index of the last bound -/
theorem anyRev_eq (l : List BoF) : anyRev none l.zipIdx.reverse = StreamLoop.lastBoundIdx l := by
  unfold StreamLoop.lastBoundIdx
  generalize l.zipIdx.reverse = L
  induction L with
  | nil => rfl
  | cons x L ih =>
    obtain ⟨bof, idx⟩ := x
    cases bof <;> simp [anyRev, ih]

/-- the hypothesis of `tryFrom_eq`, `streamOptOfLit_eq`, `dispatchLit_eq`: the bounds list is empty
    or contains a bound (it fails exactly on a non-empty list of fillers) -/
def hasBoundOrEmpty (l : List BoF) : Bool := l.isEmpty || !(boundsOnly l).isEmpty

theorem hasBoundOrEmpty_of_bound (l : List BoF) (h : boundsOnly l ≠ []) : hasBoundOrEmpty l = true := by
  simp [hasBoundOrEmpty, h]

theorem lastBoundIdx_of_hasBound (l : List BoF) (h : boundsOnly l ≠ []) :
    ∃ i b, StreamLoop.lastBoundIdx l = Option.some i ∧ l[i]? = Option.some (.bound b) ∧
      lastBoundRight (boundsOnly l) = Option.some b.r := by
  have hr := StreamLoop.getLastBound_r l
  have hne := lastBoundRight_isSome _ (by simpa using h)
  cases hi : StreamLoop.lastBoundIdx l with
  | none =>
    simp [StreamLoop.getLastBound, hi] at hr
    rw [← hr] at hne
    cases hne
  | some i =>
    obtain ⟨b, hb⟩ := StreamLoop.lastBoundIdx_get l i hi
    refine ⟨i, b, rfl, hb, ?_⟩
    simp [StreamLoop.getLastBound, hi, hb] at hr
    exact hr.symm

/-- **normal form of `ForwardBounds::try_from`**: the tests of l.23-42, `.into()` (l.45), then the
    index of the last bound -/
theorem tryFrom_nf (l : UserBoundsList) :
    ForwardBoundsLit.tryFrom l =
      if l.list.isEmpty = false ∧ isForwardOnly l.list = true ∧ noSharedField 0 (boundsOnly l.list) = true then
        (fromVec l.list).bind fun v =>
          match StreamLoop.lastBoundIdx v.list with
          | Option.some i => .ok ⟨v, i⟩
          | Option.none => .fail
      else .fail := by
  unfold ForwardBoundsLit.tryFrom
  simp only [tryForEach_eq, anyRev_eq]
  cases l.list.isEmpty <;> cases isForwardOnly l.list <;> cases noSharedField 0 (boundsOnly l.list) <;> rfl

/-- `From<Vec<BoundOrFiller>>` panics on a list without a bound; on any other list the `any` of
    l.47 finds the last bound of what it returns -/
theorem fromVec_cases (l : List BoF) :
    (boundsOnly l = [] ∧ fromVec l = .panic) ∨
      ∃ v i, boundsOnly l ≠ [] ∧ fromVec l = .ok v ∧ StreamLoop.lastBoundIdx v.list = Option.some i := by
  cases hv : fromVec l with
  | ok v =>
    obtain ⟨i, _, hi, _⟩ := lastBoundIdx_of_hasBound v.list (markLast_some_bounds _ _ (fromVec_ok hv).1)
    exact .inr ⟨v, i, (by rw [Ne, ← fromVec_panic_iff, hv]; nofun), rfl, hi⟩
  | fail => exact absurd hv (fromVec_ne_fail _)
  | panic => exact .inl ⟨(fromVec_panic_iff _).mp hv, rfl⟩

theorem tryFrom_ok (l : UserBoundsList) (fb : ForwardBoundsLit) (h : ForwardBoundsLit.tryFrom l = .ok fb) :
    fromVec l.list = .ok fb.list ∧ StreamLoop.lastBoundIdx fb.list.list = Option.some fb.lastBoundIdx := by
  rw [tryFrom_nf] at h
  split at h
  · rcases fromVec_cases l.list with ⟨_, hv⟩ | ⟨v, i, _, hv, hi⟩
    · rw [hv] at h; cases h
    · simp only [hv, Res.bind, hi] at h
      cases h
      exact ⟨hv, hi⟩
  · cases h

theorem tryFrom_panic_iff (l : UserBoundsList) :
    ForwardBoundsLit.tryFrom l = .panic ↔ hasBoundOrEmpty l.list = false := by
  rw [tryFrom_nf]
  rcases fromVec_cases l.list with ⟨hb, hv⟩ | ⟨v, i, hb, hv, hi⟩
  · -- without a bound `is_forward_only` and the test of l.28-42 hold vacuously
    have hfo : isForwardOnly l.list = true := by
      simp [isForwardOnly, isSortable, isSorted, hasNegativeIndices, hb, isSortedAux]
    simp only [hfo, hb, hv, noSharedField, hasBoundOrEmpty]
    cases l.list.isEmpty <;> simp [Res.bind]
  · simp only [hv, Res.bind, hi, hasBoundOrEmpty_of_bound _ hb]
    split <;> simp

/-- **`ForwardBounds::try_from` is `forwardBoundsOf`** (the list it keeps), for every list that is
    empty or contains a bound -/
theorem tryFrom_eq (l : UserBoundsList) (h : hasBoundOrEmpty l.list = true) :
    resMap (fun fb => fb.list.list) (ForwardBoundsLit.tryFrom l) = resOfOption (forwardBoundsOf l) := by
  rw [tryFrom_nf, forwardBoundsOf_nf]
  split
  · rename_i hc
    rcases fromVec_cases l.list with ⟨hb, _⟩ | ⟨v, i, _, hv, hi⟩
    · simp [hasBoundOrEmpty, hc.1, hb] at h
    · simp only [hv, Res.bind, hi]
      rfl
  · rfl

/-- the `panic!` of `get_last_bound` (l.95) is unreachable on what `try_from` built, and the bound
    found is the last one of the list -/
theorem getLastBound_of_tryFrom (l : UserBoundsList) (fb : ForwardBoundsLit)
    (h : ForwardBoundsLit.tryFrom l = .ok fb) :
    ∃ b, fb.getLastBound = Option.some b ∧ StreamLoop.getLastBound fb.list.list = Option.some b ∧
      lastBoundRight (boundsOnly fb.list.list) = Option.some b.r := by
  obtain ⟨hv, hi⟩ := tryFrom_ok l fb h
  have hm := (fromVec_ok hv).1
  obtain ⟨i, b, hi', hb, hr⟩ := lastBoundIdx_of_hasBound fb.list.list (markLast_some_bounds _ _ hm)
  rw [hi] at hi'
  cases hi'
  refine ⟨b, ?_, ?_, hr⟩
  · simp [ForwardBoundsLit.getLastBound, hb]
  · simp [StreamLoop.getLastBound, hi, hb]

/-- without any hypothesis: the model's `Option` forgets whether a refusal is an `Err` or a panic -/
theorem tryFrom_toOption (l : UserBoundsList) :
    (ForwardBoundsLit.tryFrom l).toOption.map (fun fb => fb.list.list) = forwardBoundsOf l := by
  rw [tryFrom_nf, forwardBoundsOf_nf]
  split
  · rcases fromVec_cases l.list with ⟨_, hv⟩ | ⟨v, i, _, hv, hi⟩
    · rw [hv]; rfl
    · simp only [hv, Res.bind, hi]; rfl
  · rfl

theorem forwardBoundsOf_of_tryFrom (l : UserBoundsList) (fb : ForwardBoundsLit)
    (h : ForwardBoundsLit.tryFrom l = .ok fb) : forwardBoundsOf l = Option.some fb.list.list := by
  rw [← tryFrom_toOption, h]; rfl

/-- stream.rs:62 `Err("Cannot create ForwardBounds from UserBoundsList without bounds")` is dead
    code: once `.into()` (l.45) has returned, the list has a bound and the `any` of l.47 finds it -/
theorem tryFrom_l62_dead (l : List BoF) (v : UserBoundsList) (h : fromVec l = .ok v) :
    anyRev none v.list.zipIdx.reverse ≠ none := by
  obtain ⟨i, _, hi, _, _⟩ := lastBoundIdx_of_hasBound v.list (markLast_some_bounds _ _ (fromVec_ok h).1)
  rw [anyRev_eq, hi]
  simp

/-- `ForwardBounds::from_str` (used by the unit tests of stream.rs only): no panic, and the list it
    keeps is what the model computes from the same text -/
theorem fromStr_eq (s : List Char) :
    resMap (fun fb => fb.list.list) (ForwardBoundsLit.fromStr s) =
      resOfOption ((boundsListOfString s).toOption.bind forwardBoundsOf) := by
  unfold ForwardBoundsLit.fromStr
  by_cases hw : s.all isWhitespace = true
  · have : boundsListOfString s = .fail := by unfold boundsListOfString; rw [if_pos hw]
    rw [if_pos hw, this]; rfl
  · rw [if_neg hw]
    cases hb : boundsListOfString s with
    | ok l =>
      simp only [Res.bind, Res.toOption, Option.bind_some]
      exact tryFrom_eq l (hasBoundOrEmpty_of_bound _ (boundsListOfString_ok_has_bound s l hb))
    | fail => rfl
    | panic => exact absurd hb (boundsListOfString_never_panics s)

/-- the witness for `hasBoundOrEmpty` in `tryFrom_eq`: a non-empty list of fillers.  The Rust
    function panics (in the `expect` of `From<Vec<BoundOrFiller>>`), the model says "refused" -/
theorem tryFrom_fillers_only :
    ForwardBoundsLit.tryFrom ⟨[.filler [0x61]], .cont⟩ = .panic ∧
      forwardBoundsOf ⟨[.filler [0x61]], .cont⟩ = none ∧
      hasBoundOrEmpty [.filler [0x61]] = false := by
  decide

/-- non-vacuity: `1:2,{4=x}` with a filler in front and behind -/
example :
    ForwardBoundsLit.tryFrom
        ⟨[.filler [0x61], .bound { l := .some 1, r := .some 2 }, .bound { l := .some 4, r := .some 4, fallback := some [0x78] },
          .filler [0x62]], .some 4⟩ =
      .ok ⟨⟨[.filler [0x61], .bound { l := .some 1, r := .some 2 },
              .bound { l := .some 4, r := .some 4, isLast := true, fallback := some [0x78] }, .filler [0x62]], .some 4⟩, 2⟩ := by
  decide

/-- the errors of l.24 (empty list), l.35 (a field used twice), l.65 (not forward only: unsorted,
    negative index) -/
example : ForwardBoundsLit.tryFrom ⟨[], .cont⟩ = .fail := by decide
example : ForwardBoundsLit.tryFrom ⟨[.bound { l := .some 1, r := .some 2 }, .bound { l := .some 2, r := .some 3 }], .some 3⟩
    = .fail := by decide
example : ForwardBoundsLit.tryFrom ⟨[.bound { l := .some 2, r := .some 2 }, .bound { l := .some 1, r := .some 1 }], .some 2⟩
    = .fail := by decide
example : ForwardBoundsLit.tryFrom ⟨[.bound { l := .some (-1), r := .some (-1) }], .cont⟩ = .fail := by decide

/-! ## 3. `StreamOpt::try_from` (stream.rs:118-159) and the `get_last_bound().r` that follows it -/

/-- the record of l.144-154 -/
def streamBuild (o : Opt) (fb : ForwardBoundsLit) : StreamOptLit :=
  { delimiter := o.delimiter.headD 0, replaceDelimiter := o.replaceDelimiter.map (·.headD 0),
    join := o.join, eol := o.eol, fallbackOob := o.fallbackOob, bounds := fb }

theorem replaceDelimiterNotOneByte_eq (r : Option Bytes) :
    replaceDelimiterNotOneByte r = .ok (!replOneByte r) := by
  cases r <;> rfl

theorem replaceDelimiterFirst_eq : ∀ r : Option Bytes, replOneByte r = true →
    replaceDelimiterFirst r = .ok (r.map (·.headD 0))
  | none, _ => rfl
  | some [_], _ => rfl

theorem head?_of_length_one {α : Type} : ∀ {l : List α}, l.length = 1 → ∀ a, l.head? = some (l.headD a)
  | [_], _, _ => rfl

/-- **normal form of `StreamOpt::try_from`**: the tests, then `ForwardBounds::try_from`; the three
    `unwrap()`s (l.131, 145, 149) are guarded by the tests and cannot fail -/
theorem StreamOptLit.tryFrom_nf (o : Opt) :
    StreamOptLit.tryFrom o =
      if streamFlagsOk o then (ForwardBoundsLit.tryFrom o.bounds).bind fun fb => .ok (streamBuild o fb)
      else .fail := by
  unfold StreamOptLit.tryFrom streamFlagsOk
  rw [replaceDelimiterNotOneByte_eq]
  generalize (o.complement || o.greedyDelimiter || o.compressDelimiter || o.json
    || o.boundsType != .fields) = A
  simp only [Bool.or_assoc]
  generalize (o.trim.isSome || (o.regexBag.isSome || o.onlyDelimited)) = T
  by_cases hd : o.delimiter.length = 1
  · rw [head?_of_length_one hd 0, hd]
    -- a test that fails makes both sides `Err`
    cases hr : replOneByte o.replaceDelimiter <;> cases A <;> cases T <;> try rfl
    rw [replaceDelimiterFirst_eq _ hr]
    cases ForwardBoundsLit.tryFrom o.bounds <;> rfl
  · rw [if_pos hd, beq_false_of_ne hd]
    rfl

/-- `StreamOpt::try_from(&opt)` followed by the `get_last_bound().r` of `read_and_cut_bytes_stream`
    (stream.rs:166): the record of `Tuc.Model.Stream` that the engine runs with -/
def streamOptOfLit (o : Opt) : Res StreamOpt :=
  (StreamOptLit.tryFrom o).bind fun s =>
  someOrPanic s.bounds.getLastBound fun b => .ok (s.toModel b.r)

/-- `StreamOpt::try_from` + `get_last_bound().r` against `streamOptOf`, every option record: an
    `Err` and a panic are both `none` -/
theorem streamOptOfLit_toOption (o : Opt) : (streamOptOfLit o).toOption = streamOptOf o := by
  unfold streamOptOfLit
  rw [StreamOptLit.tryFrom_nf, streamOptOf_nf, ← tryFrom_toOption]
  cases streamFlagsOk o with
  | false => rfl
  | true =>
    cases ht : ForwardBoundsLit.tryFrom o.bounds with
    | ok fb =>
      obtain ⟨b, hb, _, hlast⟩ := getLastBound_of_tryFrom _ _ ht
      simp only [if_true, Res.bind, Res.toOption, Option.map_some, Option.bind_some, hlast]
      rw [show (streamBuild o fb).bounds.getLastBound = Option.some b from hb]
      rfl
    | fail => rfl
    | panic => rfl

/-- when `StreamOpt::try_from` panics: exactly when its own tests pass and the bounds list is a
    non-empty list of fillers -/
theorem StreamOptLit.tryFrom_panic_iff (o : Opt) :
    StreamOptLit.tryFrom o = .panic ↔ (streamFlagsOk o = true ∧ hasBoundOrEmpty o.bounds.list = false) := by
  rw [StreamOptLit.tryFrom_nf, ← OptLit.tryFrom_panic_iff]
  cases streamFlagsOk o with
  | false => simp
  | true =>
    simp only [if_true, true_and]
    cases ForwardBoundsLit.tryFrom o.bounds <;> simp [Res.bind]

/-- the record that an `Ok` of `StreamOpt::try_from` carries; `get_last_bound` cannot panic on it -/
theorem StreamOptLit.tryFrom_ok (o : Opt) (s : StreamOptLit) (h : StreamOptLit.tryFrom o = .ok s) :
    streamFlagsOk o = true ∧ ForwardBoundsLit.tryFrom o.bounds = .ok s.bounds ∧ s = streamBuild o s.bounds ∧
      ∃ b, s.bounds.getLastBound = Option.some b ∧ streamOptOf o = Option.some (s.toModel b.r) := by
  rw [StreamOptLit.tryFrom_nf] at h
  cases hf : streamFlagsOk o with
  | false => simp [hf] at h
  | true =>
    simp only [hf, if_true] at h
    cases ht : ForwardBoundsLit.tryFrom o.bounds with
    | ok fb =>
      simp only [ht, Res.bind, Res.ok.injEq] at h
      subst h
      refine ⟨rfl, rfl, rfl, ?_⟩
      obtain ⟨b, hb, _, hlast⟩ := getLastBound_of_tryFrom _ _ ht
      refine ⟨b, hb, ?_⟩
      rw [streamOptOf_nf, hf, forwardBoundsOf_of_tryFrom _ _ ht]
      simp only [if_true, Option.bind_some, hlast, Option.map_some]
      rfl
    | fail => simp [ht, Res.bind] at h
    | panic => simp [ht, Res.bind] at h

/-- **`StreamOpt::try_from` + `get_last_bound().r` is `streamOptOf`** when the bounds list is empty
    or contains a bound: then neither of them panics -/
theorem streamOptOfLit_eq (o : Opt) (h : hasBoundOrEmpty o.bounds.list = true) :
    streamOptOfLit o = resOfOption (streamOptOf o) := by
  rw [← streamOptOfLit_toOption]
  unfold streamOptOfLit
  cases ht : StreamOptLit.tryFrom o with
  | ok s =>
    obtain ⟨_, hfb, _⟩ := StreamOptLit.tryFrom_ok o s ht
    obtain ⟨b, hb, _⟩ := getLastBound_of_tryFrom _ _ hfb
    simp only [Res.bind, hb]
    rfl
  | fail => rfl
  | panic => rw [((StreamOptLit.tryFrom_panic_iff o).mp ht).2] at h; cases h

/-- `tuc -M 1 -d - …` with the bounds given: the `Opt` of the examples -/
def exOpt (bounds : List BoF) (repl : Option Bytes := none) : Opt :=
  { delimiter := [0x2d], bounds := ⟨bounds, .cont⟩, replaceDelimiter := repl, join := repl.isSome,
    fixedMemory := some 1024 }

/-- non-vacuity: `-f 1,3: -r /` is accepted, `last_bound_idx = 1`, both one-byte `unwrap()`s pass -/
example :
    StreamOptLit.tryFrom (exOpt [.bound { l := .some 1, r := .some 1 }, .bound { l := .some 3, r := .cont }] (some [0x2f])) =
      .ok { delimiter := 0x2d, replaceDelimiter := some 0x2f, join := true, eol := .newline, fallbackOob := none,
            bounds := ⟨⟨[.bound { l := .some 1, r := .some 1 }, .bound { l := .some 3, r := .cont, isLast := true }], .cont⟩, 1⟩ } := by
  decide

/-- l.131: a replacement that is not one byte wide; l.122: a delimiter that is not -/
example : StreamOptLit.tryFrom (exOpt [.bound { l := .some 1, r := .some 1 }] (some [])) = .fail := by decide
example : StreamOptLit.tryFrom (exOpt [.bound { l := .some 1, r := .some 1 }] (some [0x2f, 0x2f])) = .fail := by decide
example : StreamOptLit.tryFrom { exOpt [.bound { l := .some 1, r := .some 1 }] with delimiter := [] } = .fail := by decide
example : StreamOptLit.tryFrom { exOpt [.bound { l := .some 1, r := .some 1 }] with delimiter := [0xc3, 0xa9] } = .fail := by
  decide

/-- the witness for `hasBoundOrEmpty` in `streamOptOfLit_eq`: the Rust function panics, the model
    refuses -/
theorem streamOpt_fillers_only :
    StreamOptLit.tryFrom (exOpt [.filler [0x61]]) = .panic ∧ (streamOptOf (exOpt [.filler [0x61]])).isNone = true := by
  decide

/-! ## 4. `print_field`, `print_bof` (stream.rs:171-233) -/

theorem printFieldLit_eq (buffer : Bytes) (delim : UInt8) (p : Bool) :
    printFieldLit buffer delim p = Run.ok ((if p then [delim] else []) ++ buffer) := by
  cases p <;> rfl

theorem getD_eq_joiner (s : StreamOptLit) (lif : Side) :
    s.replaceDelimiter.getD s.delimiter = (s.toModel lif).joiner := rfl

/-- the second `match` of `printBof` (l.205-230) on its own: the bound at `j`, `w0` being what the
    first `match` (l.200-203) wrote -/
def printBofAt (o : StreamOpt) (w0 : Bytes) (j : Nat) (k : Int) (tr : Bool) (piece : Bytes) (fc : Bool) :
    Option (Bytes × Nat) :=
  match o.bounds[j]? with
  | some (.bound b) =>
    match b.matches k with
    | none => none
    | some false => some (w0, j)
    | some true =>
      let prepend := !tr && decide (k > 1) && decide (b.l ≠ .some k)
      let w1 := (if prepend then [o.joiner] else []) ++ piece
      if fc && decide (b.r = .some k) then
        some (w0 ++ w1 ++ (if o.join && !b.isLast then [o.joiner] else []), j + 1)
      else some (w0 ++ w1, j)
  | _ => some (w0, j)

theorem printBof_eq (o : StreamOpt) (i : Nat) (k : Int) (tr : Bool) (p : Bytes) (fc : Bool) :
    printBof o i k tr p fc =
      match o.bounds[i]? with
      | some (.filler f) => printBofAt o f (i + 1) k tr p fc
      | _ => printBofAt o [] i k tr p fc := by
  unfold printBof
  rcases o.bounds[i]? with _ | ⟨b | f⟩ <;> rfl

theorem printBofBound_spec (s : StreamOptLit) (lif : Side) (w0 : Bytes) (j : Nat) (k : Int) (chunk : Bytes)
    (a b : Nat) (tr fc : Bool) (hs : a ≤ b ∧ b ≤ chunk.length) :
    (Run.pre w0 (printBofBound s j k chunk a b tr fc).1, (printBofBound s j k chunk a b tr fc).2) =
      match printBofAt (s.toModel lif) w0 j k tr (slice chunk a b) fc with
      | some r => (Run.ok r.1, r.2)
      | none => (Run.pre w0 Run.panic, j) := by
  unfold printBofAt printBofBound ForwardBoundsLit.get
  rw [show (s.toModel lif).bounds = s.bounds.list.list from rfl]
  rcases s.bounds.list.list[j]? with _ | ⟨b1 | f⟩
  · simp [Run.pre, Run.ok, Run.empty]
  · dsimp only
    rcases b1.matches k with _ | ⟨_ | _⟩
    · rfl
    · simp [Run.pre, Run.ok, Run.empty]
    · simp only [if_pos hs, printFieldLit_eq, getD_eq_joiner s lif]
      rw [show (s.toModel lif).join = s.join from rfl]
      generalize (if (!tr && decide (k > 1) && decide (b1.l ≠ Side.some k)) = true then [(s.toModel lif).joiner]
        else []) ++ slice chunk a b = w1
      cases fc && decide (b1.r = Side.some k) <;> cases s.join && !b1.isLast <;>
        simp [Run.pre, Run.seq, Run.ok, Run.empty]
  · simp [Run.pre, Run.ok, Run.empty]

/-- `print_bof` against the model: the same bytes and index, or — when the `unwrap()` of l.208
    fails — a panic after the filler of l.201 has been written -/
theorem printBofLit_spec (s : StreamOptLit) (lif : Side) (i : Nat) (k : Int) (chunk : Bytes) (a b : Nat)
    (tr fc : Bool) (hs : a ≤ b ∧ b ≤ chunk.length) :
    printBofLit s i k chunk a b tr fc =
      match printBof (s.toModel lif) i k tr (slice chunk a b) fc with
      | some r => (Run.ok r.1, r.2)
      | none => ((printBofFiller s i).1.seq Run.panic, (printBofFiller s i).2) := by
  rw [printBof_eq]
  unfold printBofLit printBofFiller ForwardBoundsLit.get
  rw [show (s.toModel lif).bounds = s.bounds.list.list from rfl]
  -- l.200-203 wrote `Run.ok w0`, and `(Run.ok w0).seq r` unfolds to `Run.pre w0 r`
  rcases s.bounds.list.list[i]? with _ | ⟨b1 | f⟩
  · exact printBofBound_spec s lif [] i k chunk a b tr fc hs
  · exact printBofBound_spec s lif [] i k chunk a b tr fc hs
  · exact printBofBound_spec s lif f (i + 1) k chunk a b tr fc hs

theorem printBofLit_eq (s : StreamOptLit) (lif : Side) (i : Nat) (k : Int) (chunk : Bytes) (a b : Nat)
    (tr fc : Bool) (hs : a ≤ b ∧ b ≤ chunk.length)
    (hm : printBof (s.toModel lif) i k tr (slice chunk a b) fc ≠ none) :
    printBofLit s i k chunk a b tr fc = StreamLoop.printBofCall (s.toModel lif) i k chunk a b tr fc := by
  rw [printBofLit_spec s lif i k chunk a b tr fc hs, StreamLoop.printBofCall, if_pos hs]
  cases h : printBof (s.toModel lif) i k tr (slice chunk a b) fc with
  | none => exact absurd h hm
  | some r => rfl

/-- with no negative index and a field number ≥ 1 the `unwrap()` of l.208 cannot fail -/
theorem printBof_ne_none_of_noNeg (o : StreamOpt) (hneg : hasNegativeIndices o.bounds = false)
    (i : Nat) (k : Int) (hk : 1 ≤ k) (tr : Bool) (p : Bytes) (fc : Bool) :
    printBof o i k tr p fc ≠ none := by
  have hb : NoNeg o.bounds := fun b hb => by
    simpa using List.any_eq_false.1 hneg b (mem_boundsOnly_iff.2 hb)
  obtain ⟨w, j, h⟩ := printBof_isSome o hb i k hk tr p fc
  rw [h]
  nofun

/-- under the hypotheses of `Tuc.Props.StreamLoop` (no negative index, field number at least 1) -/
theorem printBofLit_eq_of_noNeg (s : StreamOptLit) (lif : Side) (i : Nat) (k : Int) (chunk : Bytes)
    (a b : Nat) (tr fc : Bool) (hs : a ≤ b ∧ b ≤ chunk.length)
    (hneg : hasNegativeIndices s.bounds.list.list = false) (hk : 1 ≤ k) :
    printBofLit s i k chunk a b tr fc = StreamLoop.printBofCall (s.toModel lif) i k chunk a b tr fc :=
  printBofLit_eq s lif i k chunk a b tr fc hs
    (printBof_ne_none_of_noNeg (s.toModel lif) hneg i k hk tr _ fc)

/-- when the `unwrap()` of l.208 fails both sides panic (the bytes written before differ:
    `printBof_match_witness`) -/
theorem printBofLit_panic (s : StreamOptLit) (lif : Side) (i : Nat) (k : Int) (chunk : Bytes) (a b : Nat)
    (tr fc : Bool) (hs : a ≤ b ∧ b ≤ chunk.length)
    (hm : printBof (s.toModel lif) i k tr (slice chunk a b) fc = none) :
    (printBofLit s i k chunk a b tr fc).1.status = .panic ∧
      (StreamLoop.printBofCall (s.toModel lif) i k chunk a b tr fc).1.status = .panic := by
  rw [printBofLit_spec s lif i k chunk a b tr fc hs, StreamLoop.printBofCall, if_pos hs, hm]
  refine ⟨?_, rfl⟩
  show ((printBofFiller s i).1.seq Run.panic).status = .panic
  unfold printBofFiller
  split <;> rfl

/-- the option record of the `print_bof` examples: `-d - -f <bounds>` -/
def exStream (bounds : List BoF) (join : Bool := false) : StreamOptLit :=
  { delimiter := 0x2d, replaceDelimiter := none, join := join, eol := .newline, fallbackOob := none,
    bounds := ⟨⟨bounds, .cont⟩, 0⟩ }

/-- the slice hypothesis cannot be dropped: `print_bof(.., chunk = "ab", 2, 1, ..)` on field 1 while
    waiting for field 2 does not evaluate `&chunk[2..1]` (l.217 is behind the test of l.208); the
    wrapper of `Tuc.Model.StreamLoop` checks the slice first -/
theorem printBof_slice_witness :
    printBofLit (exStream [.bound { l := .some 2, r := .some 2, isLast := true }]) 0 1 [0x61, 0x62] 2 1 false true
        = (Run.empty, 0) ∧
      StreamLoop.printBofCall ((exStream [.bound { l := .some 2, r := .some 2, isLast := true }]).toModel .cont)
        0 1 [0x61, 0x62] 2 1 false true = (Run.panic, 0) := by
  decide

/-- the `matches` hypothesis cannot be dropped: a filler in front of a bound with a negative index.
    The Rust function writes the filler (l.201) and then panics in the `unwrap()` of l.208; the
    model's `printBof` reports the panic without the filler -/
theorem printBof_match_witness :
    printBofLit (exStream [.filler [0x78], .bound { l := .some (-1), r := .some (-1), isLast := true }])
        0 1 [0x61] 0 1 false true = (⟨[0x78], .panic⟩, 1) ∧
      StreamLoop.printBofCall
        ((exStream [.filler [0x78], .bound { l := .some (-1), r := .some (-1), isLast := true }]).toModel .cont)
        0 1 [0x61] 0 1 false true = (Run.panic, 0) := by
  decide

/-- non-vacuity: `x{1:2}`, join; second field of the range, complete → delimiter, field, `bof_idx` stays;
    first field of `{2}` after a filler → filler, field, joiner, `bof_idx` moves past both -/
example :
    printBofLit (exStream [.filler [0x78], .bound { l := .some 1, r := .some 2 }, .bound { l := .some 3, r := .some 3, isLast := true }] true)
        1 2 [0x61, 0x2d, 0x62, 0x2d] 2 3 false true = (Run.ok [0x2d, 0x62, 0x2d], 2) := by
  decide
example :
    printBofLit (exStream [.filler [0x78], .bound { l := .some 1, r := .some 1 }, .bound { l := .some 3, r := .some 3, isLast := true }] true)
        0 1 [0x61, 0x2d, 0x62, 0x2d] 0 1 false true = (Run.ok [0x78, 0x61, 0x2d], 2) := by
  decide

/-! ## 5. `FastOpt::try_from` (fast_lane.rs:139-171) -/

/-- **`FastOpt::try_from` is `fastOptOf`**, every option record -/

theorem FastOptLit.tryFrom_eq (o : Opt) : FastOptLit.tryFrom o = resOfOption (fastOptOf o) := by
  unfold FastOptLit.tryFrom fastOptOf
  generalize (o.complement || o.greedyDelimiter || o.compressDelimiter || o.json
    || o.boundsType != .fields || o.replaceDelimiter.isSome || o.regexBag.isSome) = A
  rcases hd : o.delimiter with _ | ⟨d, _ | ⟨d', t⟩⟩
  · rfl
  · cases A <;> simp [someOrPanic, resOfOption]
  · simp [resOfOption]

theorem FastOptLit.tryFrom_ne_panic (o : Opt) : FastOptLit.tryFrom o ≠ .panic := by
  rw [FastOptLit.tryFrom_eq]
  cases fastOptOf o <;> simp [resOfOption]

/-! ## 6. what `parse_args` guarantees about the `Opt` it returns -/

/-- **Every `Opt` that `parse_args` returns has a bound in its bounds list** (so neither the
    `expect` of `From<Vec<BoundOrFiller>>` reached from stream.rs:45 nor the `panic!` of
    `get_last_bound` can fire in `main`), and `opt.fixed_memory.is_some()` is the flag of the model. -/
theorem parseArgv_run (regexOk : Arg → Bool) (argv : List Arg) (o : Opt) (fm : Bool) (rt : Option Arg)
    (h : parseArgv regexOk argv = .run o fm rt) :
    boundsOnly o.bounds.list ≠ [] ∧ o.fixedMemory.isSome = fm :=
  -- the bounds came out of `UserBoundsList::from_str`, which refuses a list without a bound
  have ⟨⟨v, hv⟩, hfm⟩ := (parseArgv_spec regexOk argv).2 o fm rt h
  ⟨boundsListOfString_ok_has_bound v o.bounds hv, hfm⟩

/-! ## 7. `main` (tuc.rs:274-306): dispatch, and from the argument vector on -/

theorem dispatchLit_eq_of_ne_panic (o : Opt) (segs : List Bytes)
    (h : o.fixedMemory.isSome = true → StreamOptLit.tryFrom o ≠ .panic) :
    dispatchLit o segs = dispatch o o.fixedMemory.isSome segs := by
  unfold dispatchLit dispatch
  by_cases hfm : o.fixedMemory.isSome = true
  · simp only [hfm, if_true]
    cases ht : StreamOptLit.tryFrom o with
    | ok s =>
      obtain ⟨_, _, _, b, hb, hso⟩ := StreamOptLit.tryFrom_ok o s ht
      simp only [hso, readAndCutBytesStreamLit, hb]
    | fail =>
      have := streamOptOfLit_toOption o
      simp only [streamOptOfLit, ht, Res.bind, Res.toOption] at this
      simp only [← this]
    | panic => exact absurd ht (h hfm)
  · simp only [hfm, Bool.false_eq_true, if_false, FastOptLit.tryFrom_eq]
    by_cases h1 : o.boundsType = .bytes
    · simp only [h1, if_true]
    · by_cases h2 : o.boundsType = .lines
      · simp [h2]
      · simp only [h1, h2, if_false]
        cases fastOptOf o <;> rfl

/-- **the dispatch of `main` is `dispatch`**, for every option record whose bounds list is empty or
    contains a bound (needed under `-M` only), every input and every segmentation -/
theorem dispatchLit_eq (o : Opt) (segs : List Bytes)
    (h : o.fixedMemory.isSome = true → hasBoundOrEmpty o.bounds.list = true) :
    dispatchLit o segs = dispatch o o.fixedMemory.isSome segs :=
  dispatchLit_eq_of_ne_panic o segs fun hfm hp => by
    rw [((StreamOptLit.tryFrom_panic_iff o).mp hp).2] at h
    exact absurd (h hfm) (by simp)

/-- **exactly when** the two differ: `-M`, the tests of `StreamOpt::try_from` pass, and the bounds
    list is a non-empty list of fillers (then `main` panics where the model exits with status 1) -/
theorem dispatchLit_eq_iff (o : Opt) (segs : List Bytes) :
    dispatchLit o segs = dispatch o o.fixedMemory.isSome segs ↔
      ¬(o.fixedMemory.isSome = true ∧ streamFlagsOk o = true ∧ hasBoundOrEmpty o.bounds.list = false) := by
  constructor
  · rintro heq ⟨hfm, hflags, hb⟩
    have hp := (StreamOptLit.tryFrom_panic_iff o).mpr ⟨hflags, hb⟩
    have hso : streamOptOf o = none := by
      rw [← streamOptOfLit_toOption]
      simp only [streamOptOfLit, hp, Res.bind, Res.toOption]
    unfold dispatchLit dispatch at heq
    simp only [hfm, if_true, hp, hso] at heq
    cases heq
  · intro h
    exact dispatchLit_eq_of_ne_panic o segs fun hfm hp =>
      h ⟨hfm, (StreamOptLit.tryFrom_panic_iff o).mp hp⟩

/-- the witness for the hypothesis of `dispatchLit_eq`: under `-M` a non-empty bounds list made of
    fillers makes the Rust `main` panic where the model exits with status 1 -/
theorem dispatch_fillers_only :
    dispatchLit (exOpt [.filler [0x61]]) [[0x61, 0x0a]] = Option.some Run.panic ∧
      dispatch (exOpt [.filler [0x61]]) true [[0x61, 0x0a]] = Option.none := by
  decide

/-- **`main` of `src/bin/tuc.rs`, with the literal option records and dispatch, is `tucMain`**:
    every argument vector, every input, every segmentation of the reads.  Both are `programWith`
    (`Tuc.Lemmas.Program`) — the literal text reads `opt.fixed_memory` where the model is passed the
    flag —, and the hypothesis of `dispatchLit_eq` is established by `parse_args` (`parseArgv_run`). -/
theorem tucMainLit_eq (regexOk : Arg → Bool) (argv : List Arg) (segs : List Bytes) :
    tucMainLit regexOk argv segs = tucMain regexOk argv segs := by
  rw [tucMain_eq_programWith]
  exact programWith_congr (d₁ := fun o _ => dispatchLit o) rfl fun o fm rt bag hp _ _ => by
    obtain ⟨hb, hf⟩ := parseArgv_run regexOk argv o fm rt hp
    rw [← hf]
    exact dispatchLit_eq { o with regexBag := bag } segs fun _ => hasBoundOrEmpty_of_bound _ hb

/-- no `unwrap` / `expect` / `panic!` of `StreamOpt::try_from`, `ForwardBounds::try_from`,
    `get_last_bound` or `FastOpt::try_from` can fire on an `Opt` that `parse_args` returned -/
theorem parsed_no_panic (regexOk : Arg → Bool) (argv : List Arg) (o : Opt) (fm : Bool) (rt : Option Arg)
    (h : parseArgv regexOk argv = .run o fm rt) :
    StreamOptLit.tryFrom o ≠ .panic ∧ FastOptLit.tryFrom o ≠ .panic ∧
      ∀ s, StreamOptLit.tryFrom o = .ok s → s.bounds.getLastBound ≠ none := by
  obtain ⟨hb, _⟩ := parseArgv_run regexOk argv o fm rt h
  refine ⟨?_, FastOptLit.tryFrom_ne_panic o, ?_⟩
  · intro hp
    have := ((StreamOptLit.tryFrom_panic_iff o).mp hp).2
    rw [hasBoundOrEmpty_of_bound _ hb] at this
    cases this
  · intro s hs
    obtain ⟨_, _, _, b, hb', _⟩ := StreamOptLit.tryFrom_ok o s hs
    rw [hb']
    simp

/-! ## 8. `read_and_cut_bytes_stream` down to the literal loops of `Tuc.Model.StreamLoop` -/

/-- for everything `StreamOpt::try_from` accepts, `print_bof` as transcribed here is the wrapper the
    literal loop of `Tuc.Model.StreamLoop` calls (field numbers ≥ 1, slices in range) -/
theorem printBofLit_eq_of_opt (o : Opt) (s : StreamOptLit) (h : StreamOptLit.tryFrom o = .ok s) (lif : Side)
    (i : Nat) (k : Int) (hk : 1 ≤ k) (chunk : Bytes) (a b : Nat) (tr fc : Bool)
    (hs : a ≤ b ∧ b ≤ chunk.length) :
    printBofLit s i k chunk a b tr fc = StreamLoop.printBofCall (s.toModel lif) i k chunk a b tr fc := by
  obtain ⟨_, _, _, b', _, hso⟩ := StreamOptLit.tryFrom_ok o s h
  exact printBofLit_eq_of_noNeg s lif i k chunk a b tr fc hs (StreamLoop.streamOptOf_noNeg o _ hso) hk

/-- `read_and_cut_bytes_stream` as transcribed here (callee: the machine of `Tuc.Model.Stream`) is
    the fully literal `StreamLoop.readAndCutBytesStreamLoop` on every reader whose reads are
    non-empty -/
theorem readAndCutBytesStreamLit_loop (o : Opt) (s : StreamOptLit) (h : StreamOptLit.tryFrom o = .ok s)
    (lif : Side) (segs : List Bytes) (hsegs : ∀ x ∈ segs, x ≠ []) :
    readAndCutBytesStreamLit s segs = StreamLoop.readAndCutBytesStreamLoop (s.toModel lif) segs := by
  obtain ⟨_, ht, _, b, hb, hso⟩ := StreamOptLit.tryFrom_ok o s h
  obtain ⟨b', hb', hg, _⟩ := getLastBound_of_tryFrom _ _ ht
  rw [hb] at hb'
  cases hb'
  have := StreamLoop.cutBytesStreamLoop_of_opt o _ hso segs hsegs
  unfold readAndCutBytesStreamLit StreamLoop.readAndCutBytesStreamLoop
  have hbs : (s.toModel lif).bounds = s.bounds.list.list := rfl
  simp only [hb, hbs, hg]
  exact this.symm

/-- `print_filler_or_fallbacks`: the wrapper of this file is the literal function of
    `Tuc.Model.StreamLoop` whatever fourth argument the model record carries -/
theorem printFillerOrFallbacksOf_eq (s : StreamOptLit) (lif : Side) (i : Nat) (k : Int) :
    printFillerOrFallbacksOf s i k = StreamLoop.printFillerOrFallbacksCall (s.toModel lif) i k := by
  unfold printFillerOrFallbacksOf StreamLoop.printFillerOrFallbacksCall
  have : ∀ l : List BoF, StreamLoop.printFillerOrFallbacksLit (s.toModel .cont) k l
      = StreamLoop.printFillerOrFallbacksLit (s.toModel lif) k l := by
    intro l
    induction l with
    | nil => rfl
    | cons x t ih =>
      cases x with
      | filler f => simp only [StreamLoop.printFillerOrFallbacksLit, ih]
      | bound b =>
        simp only [StreamLoop.printFillerOrFallbacksLit, ih]
        rfl
  rw [this]
  rfl

/-! ## 9. literal against model, by evaluation (samples; the theorems above do not depend on them) -/

/-- the bounds texts of the comparison: plain, ranges, open ranges, format strings, repeated and
    unsorted fields, negative indexes, and what the parser refuses -/
def exTexts : List String :=
  ["1", "1,2", "1:2,3", "1,2:", ":2,3", "2:", "1:", ":1", "{1}", "a{1}b", "{1}-{2=x}-{3:}", "x{1,2}y{4:5}z",
   "1,1", "1:2,2", "2,1", "3,1:2", "-1", "1,-1", "-2:-1", "1:3,2", "{2}{2}", "{1}{{}}{3}",
   "{}", "abc", "{{}}", "a", "", " ", "{", "}", "0", "1:0", "{1}{", "9999999999"]

/- `ForwardBounds::from_str` against `boundsListOfString` + `forwardBoundsOf` -/
#guard exTexts.all fun t =>
  (ForwardBoundsLit.fromStr t.toList).toOption.map (fun fb => fb.list.list) ==
    (boundsListOfString t.toList).toOption.bind forwardBoundsOf

/- … and it never panics -/
#guard exTexts.all fun t => ForwardBoundsLit.fromStr t.toList != .panic

/- the texts without a bound are refused by `UserBoundsList::from_str` itself (so a bounds list
    without a bound never reaches `main`) -/
#guard ["{}", "abc", "{{}}", "a", "", " ", "a{{b}}c"].all fun t => boundsListOfString t.toList == .fail

/-- the `Opt`s of the comparison: for every text that parses, a base record (`-M 1 -d -`) and 17
    variations of it, one at a time (delimiter and replacement widths, each refused flag, no `-M`) -/
def exOpts : List Opt :=
  exTexts.flatMap fun t =>
    match boundsListOfString t.toList with
    | .ok bounds =>
      let base : Opt := { delimiter := [0x2d], bounds := bounds, fixedMemory := some 1024 }
      [base, { base with delimiter := [] }, { base with delimiter := [0xc3, 0xa9] },
       { base with replaceDelimiter := some [], join := true },
       { base with replaceDelimiter := some [0x2f], join := true },
       { base with replaceDelimiter := some [0x2f, 0x2f], join := true },
       { base with complement := true }, { base with greedyDelimiter := true },
       { base with compressDelimiter := true }, { base with json := true },
       { base with boundsType := .bytes }, { base with boundsType := .lines },
       { base with boundsType := .characters }, { base with trim := some .both },
       { base with onlyDelimited := true }, { base with join := true, eol := .zero, fallbackOob := some [0x3f] },
       { base with fixedMemory := none }, { base with fixedMemory := none, trim := some .left, onlyDelimited := true }]
    | _ => []

/-- the hand-made lists that `from_str` cannot produce: no bound at all, empty -/
def exOptsWild : List Opt :=
  [exOpt [.filler [0x61]], exOpt [.filler [0x61], .filler [0x62]], exOpt [],
   { exOpt [.filler [0x61]] with fixedMemory := none }, { exOpt [] with fixedMemory := none }]

/- `StreamOpt::try_from` + `get_last_bound` against `streamOptOf` -/
#guard (exOpts ++ exOptsWild).all fun o => reprStr (streamOptOfLit o).toOption == reprStr (streamOptOf o)

/- … `Err` exactly where the model refuses, on the lists that have a bound -/
#guard exOpts.all fun o =>
  (match streamOptOfLit o with | .fail => true | _ => false) == (streamOptOf o).isNone

/- `FastOpt::try_from` against `fastOptOf` -/
#guard (exOpts ++ exOptsWild).all fun o =>
  reprStr (FastOptLit.tryFrom o).toOption == reprStr (fastOptOf o) &&
    (match FastOptLit.tryFrom o with | .panic => false | _ => true)

/- the dispatch of `main` against `dispatch`, on two inputs and two segmentations -/
#guard exOpts.all fun o =>
  [[[0x61, 0x2d, 0x62, 0x2d, 0x63, 0x0a], [0x64, 0x0a]], [[0x61], [0x2d, 0x62, 0x2d, 0x63, 0x0a, 0x0a, 0x65]], []].all
    fun segs => dispatchLit o segs == dispatch o o.fixedMemory.isSome segs

/- … and where they differ: only on the hand-made lists without a bound, under `-M` -/
#guard (exOptsWild.map fun o => dispatchLit o [[0x61, 0x0a]] == dispatch o o.fixedMemory.isSome [[0x61, 0x0a]])
  == [false, false, true, true, true]

def argvOf (l : List String) : List Arg := l.map String.toList

/- can an empty / filler-only bounds list reach `main`?  These command lines are all refused by
   `parse_args` (exit 1, nothing read) -/
#guard [["-M", "1", "-f", "{}"], ["-M", "1", "-f", "abc"], ["-M", "1", "-f", "{{}}"], ["-M", "1", "-f", "a"],
        ["-M", "1", "-f", ""], ["-M", "1", "-f", " "], ["-f", "{{}}"], ["-M", "1", "-d", "-", "-f", "x{{y}}"]].all
  fun a => tucMainLit (fun _ => true) (argvOf a) [[0x61, 0x0a]] == .reject

/- `main` from the argument vector: literal against model on real command lines -/
#guard [["-M", "1", "-d", "-", "-f", "1,3"], ["-M", "1", "-d", "-", "-f", "{1}x{3=?}", "-j"],
        ["-M", "1", "-d", "-", "-f", "2:", "-r", "/"], ["-M", "1", "-d", "-", "-f", "1,1"],
        ["-M", "1", "-d", "--", "-f", "1"], ["-M", "1", "-d", "-", "-f", "-1"], ["-M", "1", "-d", "-", "-f", "1", "-m"],
        ["-d", "-", "-f", "3,1"], ["-d", "-", "-f", "1", "-t", "b"], ["-d", "--", "-f", "2"], ["-b", "1:2"],
        ["-l", "2"], ["-d", "-", "-f", "1", "-r", "xy"], ["-M", "0", "-f", "1"], ["-V"], []].all
  fun a =>
    [[[0x61, 0x2d, 0x62, 0x2d, 0x63, 0x0a, 0x64, 0x2d, 0x2d, 0x65, 0x0a]], [[0x61, 0x2d], [0x62, 0x2d, 0x63]]].all
      fun segs => tucMainLit (fun _ => true) (argvOf a) segs == tucMain (fun _ => true) (argvOf a) segs

/- … and they do run: `-M 1 -d - -f 1,3` on `a-b-c\n` -/
#guard tucMainLit (fun _ => true) (argvOf ["-M", "1", "-d", "-", "-f", "1,3"]) [[0x61, 0x2d, 0x62], [0x2d, 0x63, 0x0a]]
  == .run (Run.ok [0x61, 0x63, 0x0a])

/-- the option records of the `print_bof` comparison below -/
def exStreams : List StreamOptLit :=
  [exStream [.bound { l := .some 1, r := .some 1, isLast := true }],
   exStream [.filler [0x78], .bound { l := .some 1, r := .some 2 }, .filler [0x79], .bound { l := .some 4, r := .cont, isLast := true }] true,
   exStream [.bound { l := .cont, r := .some 2 }, .filler [0x78], .filler [0x79], .bound { l := .some 3, r := .some 3, isLast := true }],
   { exStream [.filler [0x78], .bound { l := .some 2, r := .some 3, isLast := true }, .filler [0x7a]] true with
       replaceDelimiter := some 0x2f }]

/- `print_bof`: literal against the wrapper of `Tuc.Model.StreamLoop`, every `bof_idx`, field numbers
   1 … 4, every in-range slice of a 3-byte chunk, all four flag combinations -/
#guard exStreams.all fun s =>
  (List.range 6).all fun i => [1, 2, 3, 4].all fun (k : Int) =>
    (List.range 4).all fun b => (List.range (b + 1)).all fun a =>
      [false, true].all fun tr => [false, true].all fun fc =>
        printBofLit s i k [0x61, 0x62, 0x63] a b tr fc ==
          StreamLoop.printBofCall (s.toModel .cont) i k [0x61, 0x62, 0x63] a b tr fc

end OptLit
end Tuc
