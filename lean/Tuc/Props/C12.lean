import Tuc.Model.Args
import Tuc.Props.C07
import Tuc.Props.C14
import Tuc.Lemmas.Total
import Tuc.Lemmas.Grammar      -- `boundsListOfString_never_panics`, `parsed_nonzero`
import Tuc.Lemmas.FastLoop
/-!
# C12 — every invocation terminates with status 0 or 1

In the model the sites in the bodies of the engines that can panic (`[]`, the slice of a printed
range, `unwrap`, `expect`) are checked operations that yield `Status.panic`.  The helpers that split,
trim and replace (`trim`, `trim_regex`, `compress_delimiter`, `replace_all`, …) are total normal forms
here, their slices truncate: that the Rust texts of those do not panic either is proved on their
statement-level transcriptions (`Tuc.Props.TextLoops`, every input; `Tuc.Props.RegexLit`, under the
same contract of `find_iter` as below), and for the whole program text in `Tuc.Props.WholeLit2`.
No function of this model returns `Status.hang` (only the
fuelled loops of the statement-level files do, and their refinement theorems exclude it); its two
fuelled loops, `trimStartFuel` and `utf8CharsFuel`, return a value when the fuel ends, and
`trimStartFuel_fuel` (here) and `utf8CharsFuel_fuel` (C07) show that the fuel given always suffices.
The property is therefore the *theorem* that `panic` (and, trivially, `hang`) is unreachable from
anything the command line can build: per engine (`Tuc.Lemmas.Total` has the
proofs, `Tuc.Lemmas.FastLoop` the fast lane's, in the form `Run.Safe`, i.e. status `ok ∨ fail`), for
`dispatch` and for `mainModel` with
write faults.  A regex delimiter only has to honour the contract of `find_iter` (`RegexBag.OK`; the
last `example` of the file shows that it is needed).  At the end: the work does not grow with the
numeric value of an index, and fuelled loops never run out of fuel.
-/
namespace Tuc

/-- parsing a bounds argument never panics, whatever the string (the `expect` in
    `From<Vec<BoundOrFiller>>` is unreachable) -/
theorem parse_total (s : List Char) : boundsListOfString s ≠ .panic :=
  boundsListOfString_never_panics s

theorem parsed_lnz (f : List Char) (u : UserBoundsList) (h : boundsListOfString f = .ok u) :
    LNZ u.list := LNZ.of_nonzero (parsed_nonzero f u h)

theorem boundariesFrom_sorted : ∀ (cs : List Bytes) (pos lo : Nat), lo ≤ pos →
    SortedMatches (pos + cs.flatten.length) lo ((boundariesFrom pos cs).map fun p => (p, p))
  | [], pos, lo, h => by
    simp only [boundariesFrom, List.map_cons, List.map_nil, List.flatten_nil, List.length_nil,
      Nat.add_zero]
    exact ⟨h, Nat.le_refl _, Nat.le_refl _, trivial⟩
  | c :: t, pos, lo, h => by
    simp only [boundariesFrom, List.map_cons, List.flatten_cons, List.length_append]
    have := boundariesFrom_sorted t (pos + c.length) pos (by omega)
    rw [Nat.add_assoc] at this
    exact ⟨h, Nat.le_refl _, by omega, this⟩

theorem charMatches_sorted (line : Bytes) : SortedMatches line.length 0 (charMatches line) := by
  unfold charMatches
  cases hcs : utf8Chars line with
  | none => trivial
  | some cs =>
    have := boundariesFrom_sorted cs 0 0 (Nat.le_refl _)
    rw [utf8Chars_flatten line cs hcs, Nat.zero_add] at this
    exact this

/-- the `RegexBag` of `-c` (`\b|\B`) reports sorted, in-range (empty) matches on every haystack —
    also on one that is not UTF-8, where the model reports none -/
theorem charsBag_ok : charsBag.OK := fun line => ⟨charMatches_sorted line, charMatches_sorted line⟩

theorem bagOK_of_literal_or_chars (o : Opt) (h : o.regexBag = none ∨ o.regexBag = some charsBag) :
    ∀ bag, o.regexBag = some bag → bag.OK := by
  intro bag hb
  rcases h with h | h
  · rw [h] at hb; cases hb
  · rw [h] at hb
    simp only [Option.some.injEq] at hb
    subst hb
    exact charsBag_ok

/-- **general engine, one record.**  Literal delimiter (any, the empty one included), any of
    `-g -p -t -s -j -r -m --json`, fields or lines; also `-c`; also any regex that honours the
    contract of `find_iter`.  Sites: `fields[s]`, `fields[e-1]`, the slice, the `expect` of
    `fromVec` after `complement`/`unpack`, the `unwrap` of the replacement after a regex compress. -/
theorem cutStrCore_no_panic (line : Bytes) (opt : Opt) (eol : Bytes)
    (hbag : ∀ bag, opt.regexBag = some bag → bag.OK)
    (hnz : ∀ b, BoF.bound b ∈ opt.bounds.list → b.Nonzero) :
    (cutStrCore line opt eol).1.status ≠ .panic :=
  (cutStrCore_safe line opt eol hbag (LNZ.of_nonzero hnz)).ne_panic

theorem cutStrCore_literal_no_panic (line : Bytes) (opt : Opt) (eol : Bytes)
    (hre : opt.regexBag = none)
    (hnz : ∀ b, BoF.bound b ∈ opt.bounds.list → b.Nonzero) :
    (cutStrCore line opt eol).1.status ≠ .panic :=
  cutStrCore_no_panic line opt eol (bagOK_of_literal_or_chars opt (Or.inl hre)) hnz

/-- character mode (no UTF-8 hypothesis needed for panic-freedom) -/
theorem cutStrCore_chars_no_panic (line : Bytes) (opt : Opt) (eol : Bytes)
    (hre : opt.regexBag = some charsBag)
    (hnz : ∀ b, BoF.bound b ∈ opt.bounds.list → b.Nonzero) :
    (cutStrCore line opt eol).1.status ≠ .panic :=
  cutStrCore_no_panic line opt eol (bagOK_of_literal_or_chars opt (Or.inr hre)) hnz

/-- **general engine, whole input** (`read_and_cut_str`): the hypotheses of `cutStrCore_no_panic` -/
theorem readAndCutStr_no_panic (opt : Opt) (input : Bytes)
    (hbag : ∀ bag, opt.regexBag = some bag → bag.OK)
    (hnz : ∀ b, BoF.bound b ∈ opt.bounds.list → b.Nonzero) :
    (readAndCutStr opt input).status ≠ .panic :=
  (readAndCutStr_safe opt hbag (LNZ.of_nonzero hnz) input).ne_panic

/-- **fast lane**: on its own code (`Lemmas/FastLoop`); `l`, `hfv` are not used -/
theorem readAndCutFast_no_panic (o : Opt) (fo : FastOpt) (ho : fastOptOf o = some fo)
    (l : List BoF) (hfv : fromVec l = .ok o.bounds)
    (hnz : ∀ b, BoF.bound b ∈ o.bounds.list → b.Nonzero) (input : Bytes) :
    (readAndCutFast fo input).status ≠ .panic :=
  (readAndCutFast_safe fo ((fastOptOf_facts ho).bounds ▸ LNZ.of_nonzero hnz) input).ne_panic

/-- **byte mode** (`-b`, `read_and_cut_bytes`): non-zero indexes suffice -/
theorem readAndCutBytes_no_panic (o : Opt) (data : Bytes)
    (hnz : ∀ b, BoF.bound b ∈ o.bounds.list → b.Nonzero) :
    (readAndCutBytes o data).status ≠ .panic :=
  (readAndCutBytes_safe o (LNZ.of_nonzero hnz) data).ne_panic

/-- **line mode, one line at a time**: no panic site at all, no hypothesis -/
theorem cutLinesForwardOnly_no_panic (o : Opt) (input : Bytes) :
    (cutLinesForwardOnly o input).status ≠ .panic :=
  (cutLinesForwardOnly_safe o input).ne_panic

/-- **line mode** (the buffered path is the general engine on one big record) -/
theorem readAndCutLines_no_panic (o : Opt) (input : Bytes)
    (hbag : ∀ bag, o.regexBag = some bag → bag.OK)
    (hnz : ∀ b, BoF.bound b ∈ o.bounds.list → b.Nonzero) :
    (readAndCutLines o input).status ≠ .panic :=
  (readAndCutLines_safe o hbag (LNZ.of_nonzero hnz) input).ne_panic

/-- **`-M`**: whatever `StreamOpt::try_from` accepts, every segmentation of every input -/
theorem cutBytesStream_no_panic (o : Opt) (so : StreamOpt) (h : streamOptOf o = some so)
    (segs : List Bytes) : (cutBytesStream so segs).status ≠ .panic :=
  (cutBytesStream_safe o so h segs).ne_panic

theorem dispatch_safe (o : Opt) (f : List Char) (hf : boundsListOfString f = .ok o.bounds)
    (hbag : ∀ bag, o.regexBag = some bag → bag.OK) (M : Bool) (segs : List Bytes) :
    ∀ r, dispatch o M segs = some r → r.Safe := by
  have hl := parsed_lnz f o.bounds hf
  unfold dispatch
  let P : Option Run → Prop := fun x => ∀ r, x = some r → r.Safe
  have hsome : ∀ r : Run, r.Safe → P (some r) := fun r h r' e => by cases e; exact h
  refine ite_ind (P := P) ?_ (ite_ind (P := P) (hsome _ (readAndCutBytes_safe o hl _))
    (ite_ind (P := P) (hsome _ (readAndCutLines_safe o hbag hl _)) ?_))
  · cases hso : streamOptOf o with
    | none => exact fun r e => by cases e
    | some so => exact hsome _ (cutBytesStream_safe o so hso segs)
  · cases hfo : fastOptOf o with
    | some fo => exact hsome _ (readAndCutFast_safe fo ((fastOptOf_facts hfo).bounds ▸ hl) _)
    | none => exact hsome _ (readAndCutStr_safe o hbag hl _)

/-- **C12, dispatch.**  Any bounds string the parser accepts, literal delimiter or character mode
    (any input — valid UTF-8 or not), any option set, with or without `-M`, any segmentation of
    any input: the engine ends with exit status 0 or 1. -/
theorem dispatch_no_panic (o : Opt) (f : List Char) (hf : boundsListOfString f = .ok o.bounds)
    (hre : o.regexBag = none ∨ o.regexBag = some charsBag) (M : Bool) (segs : List Bytes) :
    ∀ r, dispatch o M segs = some r → r.status = .ok ∨ r.status = .fail :=
  dispatch_safe o f hf (bagOK_of_literal_or_chars o hre) M segs

theorem mainModel_safe (o : Opt) (f : List Char) (hf : boundsListOfString f = .ok o.bounds)
    (hbag : ∀ bag, o.regexBag = some bag → bag.OK) (M : Bool) (segs : List Bytes) (lim : Option Nat) :
    (mainModel o M segs lim).Safe := by
  unfold mainModel
  cases hd : dispatch o M segs with
  | none => exact Or.inr rfl
  | some r => exact deliver_safe r lim (dispatch_safe o f hf hbag M segs r hd)

/-- **C12, `main`.**  Under the hypotheses of `dispatch_no_panic` the process ends with exit status
    0 or 1, whatever the writer does (`lim` = the number of bytes the writer accepts before
    failing, if it ever fails). -/
theorem mainModel_total (o : Opt) (f : List Char) (hf : boundsListOfString f = .ok o.bounds)
    (hre : o.regexBag = none ∨ o.regexBag = some charsBag) (M : Bool) (segs : List Bytes)
    (lim : Option Nat) :
    (mainModel o M segs lim).status = .ok ∨ (mainModel o M segs lim).status = .fail :=
  mainModel_safe o f hf (bagOK_of_literal_or_chars o hre) M segs lim

/-- the same for a regex delimiter, under the contract of `find_iter` (matches sorted,
    non-overlapping, within the haystack); the regex engine itself is outside the model
    (`mainModel_safe` with `Run.Safe` written out) -/
theorem mainModel_total_regex (o : Opt) (f : List Char) (hf : boundsListOfString f = .ok o.bounds)
    (hbag : ∀ bag, o.regexBag = some bag → bag.OK) (M : Bool) (segs : List Bytes)
    (lim : Option Nat) :
    (mainModel o M segs lim).status = .ok ∨ (mainModel o M segs lim).status = .fail :=
  mainModel_safe o f hf hbag M segs lim

/-- in particular neither a panic nor an endless loop -/
theorem mainModel_never_panics (o : Opt) (f : List Char) (hf : boundsListOfString f = .ok o.bounds)
    (hre : o.regexBag = none ∨ o.regexBag = some charsBag) (M : Bool) (segs : List Bytes)
    (lim : Option Nat) :
    (mainModel o M segs lim).status ≠ .panic ∧ (mainModel o M segs lim).status ≠ .hang :=
  ⟨Run.Safe.ne_panic (mainModel_total o f hf hre M segs lim),
   Run.Safe.ne_hang (mainModel_total o f hf hre M segs lim)⟩

/-- the hypotheses are satisfiable: `-f 2:` with the default delimiter is an instance -/
def c12Opt : Opt :=
  { delimiter := [9], bounds := ⟨[.bound { l := .some 2, r := .cont, isLast := true }], .cont⟩ }

example : boundsListOfString ['2', ':'] = .ok c12Opt.bounds := by decide

example (M : Bool) (segs : List Bytes) (lim : Option Nat) :
    (mainModel c12Opt M segs lim).status = .ok ∨ (mainModel c12Opt M segs lim).status = .fail :=
  mainModel_total c12Opt ['2', ':'] (by decide) (Or.inl rfl) M segs lim

/-- `unpack` yields at most one bound per existing field, whatever numbers were written: `1:` or
    `-2147483647:` … on a 3-field record become at most 3 bounds (a side beyond the record makes
    the bound unresolvable and it stays one bound) -/
theorem unpack_length_le (b : UserBounds) (n : Nat) : (b.unpack n).length ≤ max 1 n := by
  unfold UserBounds.unpack
  cases hr : b.tryIntoRange n with
  | none => simp only [List.length_singleton]; omega
  | some p =>
    obtain ⟨s, e⟩ := p
    have := (tryIntoRange_some_bounds b n s e hr).1
    simp only [List.length_map, List.length_range]
    omega

theorem unpackBof_length_le (n : Nat) (x : BoF) : (unpackBof n x).length ≤ max 1 n := by
  cases x with
  | bound b => simpa [unpackBof] using unpack_length_le b n
  | filler f => simp only [unpackBof, List.length_singleton]; omega

theorem unpackList_length_le (n : Nat) (l : List BoF) :
    (l.flatMap (unpackBof n)).length ≤ l.length * max 1 n := by
  induction l with
  | nil => simp
  | cons x t ih =>
    simp only [List.flatMap_cons, List.length_append, List.length_cons, Nat.succ_mul]
    have := unpackBof_length_le n x
    omega

theorem complement_length_le (b : UserBounds) (n : Nat) (l : List UserBounds)
    (h : b.complement n = some l) : l.length ≤ 2 := by
  unfold UserBounds.complement at h
  simp only [Option.map_eq_some_iff] at h
  obtain ⟨r, _, rfl⟩ := h
  obtain ⟨s, e⟩ := r
  simp only [List.length_map]
  unfold complementStdRange
  split <;> split <;> simp

theorem complementBof_length_le (n : Nat) (x : BoF) : (complementBof n x).length ≤ 2 := by
  cases x with
  | filler f => simp [complementBof]
  | bound b =>
    unfold complementBof
    cases hc : b.complement n with
    | none => simp [hc]
    | some bs => simpa [hc] using complement_length_le b n bs hc

/-- `-f 1: --json` on a record of 3 fields: 3 bounds; `-f 1:2147483647` is out of bounds and stays
    one bound (its fallback is printed) -/
example : (({ l := .some 1, r := .cont } : UserBounds).unpack 3).length = 3 := by decide
example : (({ l := .some 1, r := .some 2147483647 } : UserBounds).unpack 3).length = 1 := by decide

/-! ## Loops with fuel never run out of it

(`utf8CharsFuel_fuel` for the UTF-8 segmentation is in `Tuc.Props.C07`; the empty delimiter never
reaches the loop of `trim`: `trimLiteral` returns first) -/

/-- one more unit of fuel than the buffer has bytes changes nothing: every turn of the loop drops
    at least one byte -/
theorem trimStartFuel_succ (d : Bytes) (hd : d ≠ []) :
    ∀ (n : Nat) (l : Bytes), l.length ≤ n → trimStartFuel d (n + 1) l = trimStartFuel d n l
  | 0, l, h => by
    obtain rfl := List.eq_nil_of_length_eq_zero (Nat.le_zero.mp h)
    cases d with
    | nil => exact absurd rfl hd
    | cons _ _ => rfl
  | n + 1, l, h => by
    show (if d.isPrefixOf l then _ else _) = (if d.isPrefixOf l then _ else _)
    by_cases hp : d.isPrefixOf l = true
    · have := (List.isPrefixOf_iff_prefix.mp hp).length_le
      have := List.length_pos_iff.mpr hd
      rw [if_pos hp, if_pos hp, trimStartFuel_succ d hd n _ (by rw [List.length_drop]; omega)]
    · rw [if_neg hp, if_neg hp]

/-- the `while buffer[idx..].starts_with(delimiter)` loop terminates: with a non-empty delimiter
    any fuel ≥ the length of the buffer gives the same result as exactly that much -/
theorem trimStartFuel_fuel (d : Bytes) (hd : d ≠ []) (n : Nat) (l : Bytes) (h : l.length ≤ n) :
    trimStartFuel d n l = trimStartFuel d l.length l := by
  obtain ⟨k, rfl⟩ := Nat.exists_eq_add_of_le h
  clear h
  induction k with
  | zero => rfl
  | succ k ih => rw [← Nat.add_assoc, trimStartFuel_succ d hd _ l (Nat.le_add_right _ _), ih]

/-- the hypothesis `hbag` of `cutStrCore_no_panic` cannot be dropped: a matcher that breaks the
    contract of `find_iter` (a match past the end of the haystack) makes the slice panic -/
example :
    (cutStrCore [97]
      { delimiter := [9], regexBag := some ⟨fun _ => [(5, 6)], fun _ => [(5, 6)]⟩,
        bounds := ⟨[.bound { l := .some 1, r := .some 1, isLast := true }], .some 1⟩ }
      [10]).1.status = .panic := by decide

end Tuc
