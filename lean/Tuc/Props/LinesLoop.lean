import Tuc.Model.LinesLoop
import Tuc.Lemmas.LinesLoop
import Tuc.Props.C12
/-!
# Tuc.Props.LinesLoop — the statements of `cut_lines.rs` refine the normal-form model

`Tuc.Model.LinesLoop` follows the Rust text (commit 9782769) of `read_line_with_eol`,
`cut_lines_forward_only`, `cut_lines` and `read_and_cut_lines` statement by statement; here it is
proved to compute what `Tuc.Model.Lines` says, on inputs of ANY number of lines.  The model counts
lines in `Int`; the code counts in `i32` and, from the 2³¹-th line on, takes "open-ended" for
"matches" and no bound for exhausted.  That is what `matches` / `b.r == Some(n)` say past `i32::MAX`
for `LinesLoop.PastOk` bounds (every written side at most `i32::MAX`, no open-ended bound starting at
a negative index: every forward-only list the parser produces); `LinesLoop.Tracks` relates
`(line_idx, past_last_index)` to the model's index.  For any other bounds list the two agree on
inputs of at most 2³¹ − 1 lines.  The `#guard`s at the head of the file compare the two models by evaluation, also with the
counter started at the edge of `i32` (two `#guard`s there show that `PastOk` cannot be dropped).
-/

namespace Tuc
open LinesLoop

namespace LinesLoop

def lineListsOfLength (lines : List Bytes) : Nat → List (List Bytes)
  | 0 => [[]]
  | n + 1 => (lineListsOfLength lines n).flatMap fun l => lines.map fun c => c :: l

/-- the text of a list of lines: every line but the last one is followed by the EOL, the last one
    too when `finalEol` -/
def textOf (eol : UInt8) (finalEol : Bool) : List Bytes → Bytes
  | [] => []
  | [l] => if finalEol then l ++ [eol] else l
  | l :: t => l ++ [eol] ++ textOf eol finalEol t

def testInputs (lines : List Bytes) (n : Nat) (eol : UInt8) : List Bytes :=
  ((List.range (n + 1)).flatMap (lineListsOfLength lines)).flatMap fun ls =>
    [textOf eol false ls, textOf eol true ls]

def testBoundsTexts : List String :=
  ["1", "2", "1:", "2:3", "1,3", "1:2,2,4:", "2=F,7=G", "a{1}b{3:}", "{2}{2}", ":2,4",
   "3,1", "-1", "2:-1", "-2:", "2,1:"]

def testBounds : List UserBoundsList :=
  testBoundsTexts.filterMap fun s => (boundsListOfString s.toList).toOption

def testOpt (bounds : UserBoundsList) (join : Bool) (eol : EOL) (fb : Option Bytes) : Opt :=
  { delimiter := [eol.byte], eol := eol, bounds := bounds, boundsType := .lines, join := join,
    fallbackOob := fb }

end LinesLoop

#guard (testInputs [[], [97], [98, 99]] 5 10).length == 728
#guard testBounds.length == 15
#guard (testBounds.map fun b => isForwardOnly b.list) ==
  [true, true, true, true, true, true, true, true, true, true, false, false, false, false, false]

#guard [EOL.newline, .zero].all fun eol => testBounds.all fun bounds => [false, true].all fun join =>
  (testInputs [[], [97], [98, 99]] 5 eol.byte).all fun input =>
    let opt := testOpt bounds join eol Option.none
    cutLinesForwardOnlyLoop opt input == cutLinesForwardOnly opt input &&
    readAndCutLinesLoop opt input == readAndCutLines opt input

/-! lines that are not UTF-8 (`0xFF`, a truncated `é`) next to `é` and `a`; `--fallback-oob`;
    `-m` / `-p` (the dispatcher then takes the buffered path) -/

#guard [EOL.newline, .zero].all fun eol => testBounds.all fun bounds => [false, true].all fun join =>
  (testInputs [[], [97], [0xFF], [0xC3, 0xA9], [98, 0xC3]] 3 eol.byte).all fun input =>
    let opt := testOpt bounds join eol (Option.some [71])
    cutLinesForwardOnlyLoop opt input == cutLinesForwardOnly opt input &&
    readAndCutLinesLoop opt input == readAndCutLines opt input &&
    readAndCutLinesLoop { opt with complement := true } input ==
      readAndCutLines { opt with complement := true } input &&
    readAndCutLinesLoop { opt with compressDelimiter := true } input ==
      readAndCutLines { opt with compressDelimiter := true } input

/-! one call of `read_line_with_eol` (`a` LF `b`, NUL-terminated, not UTF-8, end of input) -/

#guard readLineWithEol [97, 10, 98] .newline == (.someOk [97, 10], [98])
#guard readLineWithEol [98] .newline == (.someOk [98], [])
#guard readLineWithEol [97, 10, 98, 0, 99] .zero == (.someOk [97, 10, 98, 0], [99])
#guard readLineWithEol [0xFF, 0, 99] .zero == (.someErr, [99])
#guard readLineWithEol [0xFF, 10, 99] .newline == (.someErr, [99])
#guard readLineWithEol [] .zero == (.none, [])

/-! the `i32` counter started next to its last value (`2147483647` = `i32::MAX`): every input of
    at most 4 lines from `{"", a}`, bounds with sides at the edge, from two lines before it — the
    rest of the function against the model started at the same index -/

namespace LinesLoop

def edgeBoundsTexts : List String :=
  ["2147483646", "2147483647", "2147483646:", "2147483647:", "2147483646:2147483647",
   "2147483645:2147483646,2147483647:", "2147483647,2147483647:", "1:", "{2147483646}x{2147483647:}",
   "2147483645,2147483647=F", ":2147483647"]

def edgeBounds : List UserBoundsList :=
  edgeBoundsTexts.filterMap fun s => (boundsListOfString s.toList).toOption

end LinesLoop

#guard edgeBounds.length == 11

#guard [2147483645, 2147483646, 2147483647].all fun (start : Int) =>
  edgeBounds.all fun bounds => [false, true].all fun join =>
    (testInputs [[], [97]] 4 10).all fun input =>
      let opt := testOpt bounds join .newline Option.none
      finish opt (readWhile opt (input.length + 1) input { lineIdx := start }) ==
        fwdLines opt (records 10 input) start bounds.list false

/-! … and with the flag already set (the model's index is then anything above `i32::MAX`) -/

#guard [2147483648, 2147483650, 4294967296].all fun (idx : Int) =>
  edgeBounds.all fun bounds => [false, true].all fun join =>
    (testInputs [[], [97]] 4 10).all fun input =>
      let opt := testOpt bounds join .newline Option.none
      finish opt (readWhile opt (input.length + 1) input
          { lineIdx := 2147483647, pastLastIndex := true }) ==
        fwdLines opt (records 10 input) idx bounds.list false

/-! why `PastOk` is asked for: past the edge the code takes "open-ended" for "matches"; the MODEL
    (an `Int` index handed to `matches`) says otherwise for an open-ended bound with a negative
    start (`-2:`: sign mismatch, no match) or with a start above `i32::MAX` — neither is ever
    handed to this function by the dispatcher, resp. produced by the parser -/

#guard finish (testOpt ⟨[.bound { l := .some (-2), r := .cont, isLast := true }], .cont⟩ true
    .newline Option.none)
  (readWhile (testOpt ⟨[.bound { l := .some (-2), r := .cont, isLast := true }], .cont⟩ true
    .newline Option.none) 9 [97, 10] { lineIdx := 2147483647, pastLastIndex := true }) !=
  fwdLines (testOpt ⟨[.bound { l := .some (-2), r := .cont, isLast := true }], .cont⟩ true
    .newline Option.none) [[97]] 2147483648 [.bound { l := .some (-2), r := .cont, isLast := true }] false

#guard finish (testOpt ⟨[.bound { l := .some 2147483650, r := .cont, isLast := true }], .cont⟩ true
    .newline Option.none)
  (readWhile (testOpt ⟨[.bound { l := .some 2147483650, r := .cont, isLast := true }], .cont⟩ true
    .newline Option.none) 9 [97, 10] { lineIdx := 2147483647, pastLastIndex := true }) !=
  fwdLines (testOpt ⟨[.bound { l := .some 2147483650, r := .cont, isLast := true }], .cont⟩ true
    .newline Option.none) [[97]] 2147483648 [.bound { l := .some 2147483650, r := .cont, isLast := true }] false

/-! `-l 2147483647:` on three lines read as lines 2³¹−2, 2³¹−1 and 2³¹: the last two are printed
    (`line_idx` stays at `i32::MAX`, the flag is set) -/

#guard finish (testOpt ⟨[.bound { l := .some 2147483647, r := .cont, isLast := true }], .cont⟩ true
    .newline Option.none)
  (readWhile (testOpt ⟨[.bound { l := .some 2147483647, r := .cont, isLast := true }], .cont⟩ true
    .newline Option.none) 9 [97, 10, 98, 10, 99, 10] { lineIdx := 2147483645 }) ==
  Run.ok [98, 10, 99, 10]

#guard nextLine { lineIdx := 2147483646 } == { lineIdx := 2147483647 }
#guard nextLine { lineIdx := 2147483647 } == { lineIdx := 2147483647, pastLastIndex := true }
#guard nextLine { lineIdx := 2147483647, pastLastIndex := true } ==
  { lineIdx := 2147483647, pastLastIndex := true }

theorem tracks_init : Tracks 0 0 false := Or.inl ⟨rfl, rfl, Int.le_refl _, by simp [i32Max]⟩

/-- **`cut_lines_forward_only`: the statements are the normal form** — same bytes, same status —
    for EVERY input, of any number of lines, and every `Opt` whose bounds are `PastOk`: every
    written side is at most `i32::MAX` and no open-ended bound starts at a negative index (every
    forward-only list the parser produces: `pastOk_of_forwardOnly`, `parsed_inI32`).  The `i32`
    counter with its flag `past_last_index` behaves like the unbounded counter of the model. -/
theorem cutLinesForwardOnlyLoop_eq (opt : Opt) (input : Bytes)
    (hb : ∀ b, BoF.bound b ∈ opt.bounds.list → PastOk b) :
    cutLinesForwardOnlyLoop opt input = cutLinesForwardOnly opt input :=
  readWhile_eq opt (input.length + 1) input [] opt.bounds.list 0 0 false false (by simp) (by omega)
    tracks_init (Or.inl hb)

/-- the same for EVERY bounds list (forward-only or not, sides of any size) on an input of at most
    2³¹ − 1 lines: the flag is then never set -/
theorem cutLinesForwardOnlyLoop_eq_of_count (opt : Opt) (input : Bytes)
    (hfit : ((records opt.eol.byte input).length : Int) ≤ i32Max) :
    cutLinesForwardOnlyLoop opt input = cutLinesForwardOnly opt input :=
  readWhile_eq opt (input.length + 1) input [] opt.bounds.list 0 0 false false (by simp) (by omega)
    tracks_init (Or.inr (by omega))

/-- **it ends with `Ok` or `Err`**: no panic (`.unwrap()` of l.36), and the loops terminate (the
    fuel is never used up) -/
theorem cutLinesForwardOnlyLoop_safe (opt : Opt) (input : Bytes)
    (hb : ∀ b, BoF.bound b ∈ opt.bounds.list → PastOk b) :
    (cutLinesForwardOnlyLoop opt input).Safe := by
  rw [cutLinesForwardOnlyLoop_eq opt input hb]
  exact cutLinesForwardOnly_safe opt input

/-- `cut_lines` has no loop: its statements, the `let`s unfolded, ARE the definition `cutLines` of
    `Tuc.Model.Lines` — hence `rfl` -/
theorem cutLinesLit_eq (opt : Opt) (input : Bytes) : cutLinesLit opt input = cutLines opt input := rfl

/-- forward-only lists have no negative index -/
theorem pastOk_of_forwardOnly (l : List BoF) (hfwd : isForwardOnly l = true)
    (h32 : ∀ b, BoF.bound b ∈ l → b.l.InI32 ∧ b.r.InI32) :
    ∀ b, BoF.bound b ∈ l → PastOk b := by
  intro b hb
  obtain ⟨hl, hr⟩ := h32 b hb
  have hbn : (b.l.isNeg || b.r.isNeg) = false := by
    have hneg := noNeg_of_forwardOnly hfwd
    unfold hasNegativeIndices at hneg
    have := List.any_eq_false.1 hneg b (mem_boundsOnly_iff.2 hb)
    simpa using this
  refine ⟨?_, ?_, ?_⟩
  · intro v hv; rw [hv] at hl; exact hl.2
  · intro w hw; rw [hw] at hr; exact hr.2
  · intro _ v hv
    rw [hv] at hbn
    simp only [Side.isNeg, Bool.or_eq_false_iff, decide_eq_false_iff_not] at hbn
    omega

/-- **`read_and_cut_lines`: same path, same run**, for EVERY input (any number of lines) and every
    `Opt` whose written sides fit an `i32` (what the parser guarantees: `parsed_inI32`) -/
theorem readAndCutLinesLoop_eq (opt : Opt) (input : Bytes)
    (h32 : ∀ b, BoF.bound b ∈ opt.bounds.list → b.l.InI32 ∧ b.r.InI32) :
    readAndCutLinesLoop opt input = readAndCutLines opt input := by
  unfold readAndCutLinesLoop readAndCutLines
  by_cases hs : (!opt.complement && !opt.compressDelimiter && isForwardOnly opt.bounds.list) = true
  · have hfwd : isForwardOnly opt.bounds.list = true := by
      simp only [Bool.and_eq_true] at hs
      exact hs.2
    simp only [hs, if_true, Run.seq_empty,
      cutLinesForwardOnlyLoop_eq opt input (pastOk_of_forwardOnly _ hfwd h32)]
  · simp only [hs, Bool.false_eq_true, if_false, Run.seq_empty, cutLinesLit_eq]

/-- the buffered path needs no hypothesis -/
theorem readAndCutLinesLoop_eq_buffered (opt : Opt) (input : Bytes)
    (h : (!opt.complement && !opt.compressDelimiter && isForwardOnly opt.bounds.list) = false) :
    readAndCutLinesLoop opt input = readAndCutLines opt input := by
  unfold readAndCutLinesLoop readAndCutLines
  simp only [h, Bool.false_eq_true, if_false, Run.seq_empty, cutLinesLit_eq]

/-- **`read_and_cut_lines` on what the command line can produce**: bounds the parser accepted, any
    other option, EVERY input — no hypothesis left -/
theorem readAndCutLinesLoop_eq_of_parsed (opt : Opt) (linesArg : List Char)
    (hb : boundsListOfString linesArg = .ok opt.bounds) (input : Bytes) :
    readAndCutLinesLoop opt input = readAndCutLines opt input :=
  readAndCutLinesLoop_eq opt input (parsed_inI32 linesArg opt.bounds hb)

/-- … and the line-at-a-time function on its own, for parsed forward-only bounds -/
theorem cutLinesForwardOnlyLoop_eq_of_parsed (opt : Opt) (linesArg : List Char)
    (hb : boundsListOfString linesArg = .ok opt.bounds)
    (hfwd : isForwardOnly opt.bounds.list = true) (input : Bytes) :
    cutLinesForwardOnlyLoop opt input = cutLinesForwardOnly opt input :=
  cutLinesForwardOnlyLoop_eq opt input
    (pastOk_of_forwardOnly _ hfwd (parsed_inI32 linesArg opt.bounds hb))

namespace LinesLoop

theorem records_count_le (eol : UInt8) (input : Bytes) : (records eol input).length ≤ input.length :=
  records_ind (P := fun x rs => rs.length ≤ x.length)
    (fun l _ => by cases l <;> simp)
    (fun l rest _ ih => by simp only [List.length_cons, List.length_append]; omega) input

end LinesLoop

/-- every bounds list (forward-only or not, sides of any size), input shorter than 2³¹ bytes -/
theorem cutLinesForwardOnlyLoop_eq_of_length (opt : Opt) (input : Bytes)
    (hlen : (input.length : Int) ≤ i32Max) :
    cutLinesForwardOnlyLoop opt input = cutLinesForwardOnly opt input :=
  cutLinesForwardOnlyLoop_eq_of_count opt input
    (by have := records_count_le opt.eol.byte input; omega)

end Tuc
