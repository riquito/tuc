import Tuc.Model.Stream
import Tuc.Lemmas.Total
import Tuc.Props.C10Stream
/-!
# Three one-step facts about `-M`; C03 itself is proved in `Props/C03Refine`

C03 — fixed-memory mode computes the same cut as line-at-a-time mode: `streamOptOf opt = some so →
(bounds as the parser leaves them) → (every record admissible) →
cutBytesStream so segs = Spec.specRun (Spec.cfgOf opt) segs.flatten` — is `stream_refines_spec`
(`Props/C03Refine.lean`), and `stream_refines_spec_of_parsed` (`Props/C03Parsed.lean`) for parsed
command lines.  Neither uses this file, nor does anything else: the three statements below are what
`-M` accepts, what it does on an empty record, and that it is silent after the early stop, each read
off one lemma of `Lemmas/Total` resp. `Props/C10Stream`.
-/
namespace Tuc

/-- `-M` is accepted only for: a one-byte delimiter, an absent or one-byte replacement, field
    mode, none of `-m -g -p --json -t -e -s`, and bounds that `ForwardBounds` accepts -/
theorem streamOptOf_domain (o : Opt) (so : StreamOpt) (h : streamOptOf o = some so) :
    o.delimiter = [so.delimiter] ∧
    (o.replaceDelimiter = none ∨ ∃ r, o.replaceDelimiter = some [r]) ∧
    o.complement = false ∧ o.greedyDelimiter = false ∧ o.compressDelimiter = false ∧
    o.json = false ∧ o.boundsType = .fields ∧ o.trim = none ∧ o.regexBag.isSome = false ∧
    o.onlyDelimited = false ∧ (forwardBoundsOf o.bounds).isSome := by
  have F := streamOptOf_facts o so h
  exact ⟨F.delimiter, by rw [F.replace]; cases so.replaceDelimiter <;> simp, F.complement, F.greedy, F.compress,
    F.json, F.fields, F.trim, by rw [F.regex]; rfl, F.onlyDelimited, by rw [F.bounds]; rfl⟩

/-- an empty record (EOL as the first byte of a record, wherever it falls in a chunk) yields an
    empty record: no filler, no fallback -/
theorem stream_empty_record (o : StreamOpt) (last : Bool) :
    streamStep o {} o.eol.byte last = (Run.ok [o.eol.byte], {}) :=
  (streamStep_eol o {} _ last rfl rfl).trans (if_pos ⟨rfl, rfl, rfl⟩)

/-- after the early stop nothing is written until the EOL, which ends the record -/
theorem stream_skip_silent (o : StreamOpt) (st : SState) (c : UInt8) (last : Bool)
    (hs : st.skip = true) :
    streamStep o st c last =
      if c = o.eol.byte then (Run.ok [o.eol.byte], {}) else (Run.empty, { st with started := true }) :=
  streamStep_skip o st c last hs

end Tuc
