import Tuc.Model.TextLoops
import Tuc.Lemmas.Split
import Tuc.Lemmas.Total
import Tuc.Lemmas.Checked
/-!
# Tuc.Props.TextLoops — the loops of `cut_str.rs` refine the normal-form model

`Tuc.Model.TextLoops` follows the Rust text of `fill_with_fields_locations`,
`fill_with_fields_locations_greedy`, `compress_delimiter` and `trim` statement by statement
(checked slicing → `Outcome.panic`, `while` loops with fuel → `Outcome.hang`).  This file proves
that each of them computes exactly what the normal-form model of `Tuc.Model.Text` says, for
EVERY line and EVERY delimiter — the empty one and self-overlapping ones (`--` in `---`, `aba` in
`ababa`) included — and any previous content of the reused buffers:

* `fillWithFieldsLocationsLoop_refines`
* `compressDelimiterLoop_refines`
* `trimLoop_refines`
* `fillWithFieldsLocationsGreedyLoop_refines` (proved last: its inner loop tests `starts_with`
  where the normal form merges adjacent entries of `findIter`, and the link between the two is the
  `find` / `find_iter` correspondence `findAux_spec`, `scanFrom_of_find_*`)

"`= .ok …`" says in particular: no slice out of bounds, no `usize` underflow, no cursor crossing
another one (`r_idx` below `idx` in the `Both` arm of `trim`), and the fuel `len + 1` given to every
`while` loop is never used up (the loops terminate).

The `#guard`s at the head of the file compare each pair by evaluation on every line of at most 7 bytes over `{a,b,c}` ×
the delimiters `a`, `aa`, `ab`, `aba`, empty (× the three kinds for `trim`), with dirty buffers; likewise
`findIterLoop` against `findIter`.
-/

namespace Tuc
open TextLoops

namespace TextLoops

def linesOfLength (alphabet : Bytes) : Nat → List Bytes
  | 0 => [[]]
  | n + 1 => (linesOfLength alphabet n).flatMap fun l => alphabet.map fun c => c :: l

def testAlphabet : Bytes := [97, 98, 99]
/-- all lines of at most 7 bytes over `{a, b, c}` -/
def testLines : List Bytes := (List.range 8).flatMap (linesOfLength testAlphabet)
/-- `a`, `aa`, `ab`, `aba`, and the empty delimiter -/
def testDelimiters : List Bytes := [[97], [97, 97], [97, 98], [97, 98, 97], []]
/-- previous contents of the reused buffers -/
def dirtyRanges : List Range := [⟨7, 9⟩, ⟨0, 0⟩]
def dirtyBytes : Bytes := [120, 121]

end TextLoops

#guard testLines.length == 3280

#guard testLines.all fun line => testDelimiters.all fun d =>
  fillWithFieldsLocationsLoop dirtyRanges line d == .ok (fillWithFieldsLocations dirtyRanges line d)

#guard testLines.all fun line => testDelimiters.all fun d =>
  fillWithFieldsLocationsGreedyLoop dirtyRanges line d ==
    .ok (fillWithFieldsLocationsGreedy dirtyRanges line d)

#guard testLines.all fun line => testDelimiters.all fun d =>
  compressDelimiterLoop line d dirtyBytes == .ok (compressDelimiter line d dirtyBytes)

#guard testLines.all fun line => testDelimiters.all fun d =>
  [TrimKind.left, .right, .both].all fun k => trimLoop line k d == .ok (trimLiteral line k d)

#guard testLines.all fun line => testDelimiters.all fun d =>
  findIterLoop d line (line.length + 2) 0 == findIter d line

/-! self-overlapping delimiters, concretely (`-` = 45, `a` = 97, `b` = 98) -/

-- `--` in `---`: one occurrence at 0, the field after it is the last `-`
#guard fillWithFieldsLocationsGreedyLoop [] [45, 45, 45] [45, 45] == .ok [⟨0, 0⟩, ⟨2, 3⟩]
-- `aba` in `ababa`: one occurrence at 0, then `ba`
#guard fillWithFieldsLocationsGreedyLoop [] [97, 98, 97, 98, 97] [97, 98, 97] == .ok [⟨0, 0⟩, ⟨3, 5⟩]
#guard trimLoop [97, 98, 97, 98, 97] .both [97, 98, 97] == .ok [98, 97]
#guard trimLoop [97, 98, 97, 98, 97] .right [97, 98, 97] == .ok [97, 98]
#guard compressDelimiterLoop [45, 45, 45, 45, 45, 120] [45, 45] [] == .ok [45, 45, 45, 120]

/-! why the guards for the empty delimiter (cut_str.rs:55-59 and 177-180) are there: without
    them the loops would not advance -/

#guard greedySkip [97] [] 0 100 0 == .hang
#guard trimLeftWhile [97] [] 100 0 == .hang
#guard trimRightWhile [97] [] 100 1 == .hang

namespace TextLoops

theorem fillFor_cons (dlen idx : Nat) (t : List Nat) (buffer : List Range) (prev : Nat) :
    fillFor dlen (idx :: t) buffer prev = fillFor dlen t (buffer ++ [⟨prev, idx⟩]) (idx + dlen) := rfl

theorem fillFor_eq (dlen len : Nat) :
    ∀ (ms : List Nat) (buffer : List Range) (prev : Nat),
      push (fillFor dlen ms buffer prev).1 ⟨(fillFor dlen ms buffer prev).2, len⟩ =
        buffer ++ rangesBetween dlen len prev ms := by
  intro ms
  induction ms with
  | nil => intro buffer prev; rfl
  | cons idx t ih =>
    intro buffer prev
    rw [fillFor_cons, ih]
    simp [rangesBetween]

end TextLoops

/-- **`fill_with_fields_locations`: the loop is the normal form**, for every line, every delimiter
    (the empty one included) and any previous content of the buffer; it cannot panic. -/
theorem fillWithFieldsLocationsLoop_refines (buffer : List Range) (line d : Bytes) :
    fillWithFieldsLocationsLoop buffer line d = .ok (fillWithFieldsLocations buffer line d) := by
  unfold fillWithFieldsLocationsLoop fillWithFieldsLocations
  by_cases hl : line.isEmpty = true
  · simp only [hl, if_true]; rfl
  · simp only [hl, Bool.false_eq_true, if_false]
    have := fillFor_eq d.length line.length (findIter d line) (clear buffer) 0
    simp only [clear, List.nil_append] at this
    rw [← this]
    rfl

namespace TextLoops

theorem compressFor_eq (line d : Bytes) :
    ∀ (ms : List Nat) (output : Bytes) (prev : Nat), MatchesIn d.length line.length prev ms →
      prev ≤ line.length →
      (compressFor line d ms output prev).bind (compressFinish line) =
        .ok (output ++ compressAux line d prev ms) := by
  intro ms
  induction ms with
  | nil =>
    intro output prev _ hp
    simp only [compressFor, bind_ok, compressFinish, compressAux]
    by_cases h : prev < line.length
    · rw [if_pos h, if_pos h, sliceFrom_ok line hp]; rfl
    · rw [if_neg h, if_neg h, List.append_nil]
  | cons idx t ih =>
    intro output prev hm hp
    obtain ⟨h1, h2, h3⟩ := hm
    have hidx : idx ≤ line.length := by omega
    simp only [compressFor, compressAux]
    rw [sliceRange_ok line h1 hidx, bind_ok, ih _ _ h3 h2]
    congr 1
    by_cases h0 : idx = 0
    · simp only [h0, if_true, extend, List.append_assoc]
    · simp only [h0, if_false]
      cases (slice line prev idx).isEmpty <;> simp [extend, List.append_assoc]

end TextLoops

/-- **`compress_delimiter`: the loop is the normal form**, for every line, every delimiter (the
    empty one included) and any previous content of the output buffer; the slicing
    `&line[prev_idx..idx]` cannot panic. -/
theorem compressDelimiterLoop_refines (line d output : Bytes) :
    compressDelimiterLoop line d output = .ok (compressDelimiter line d output) := by
  unfold compressDelimiterLoop compressDelimiter
  have := compressFor_eq line d (findIter d line) (clear output) 0 (findIter_in d line) (Nat.zero_le _)
  simpa [clear] using this

namespace TextLoops

/-- a fuelled `while` loop over a cursor `x` that strips `D` from the front of a view `V x` of the
    buffer as long as it is there: with more fuel than the view is long it ends, and what is left
    of the view is `trimStartFuel`.  `hstep` is the loop unfolded once, `hnext` one pass. -/
theorem cursorWhile_spec {W : Nat → Nat → Outcome Nat} {V : Nat → Bytes} {D : Bytes}
    {next : Nat → Nat} {Inv : Nat → Prop} (hD : D ≠ [])
    (hstep : ∀ fuel x, Inv x →
      W (fuel + 1) x = if D.isPrefixOf (V x) then W fuel (next x) else .ok x)
    (hnext : ∀ x, Inv x → D.isPrefixOf (V x) = true →
      Inv (next x) ∧ V (next x) = (V x).drop D.length) :
    ∀ (fuel x f' : Nat), Inv x → (V x).length < fuel → (V x).length ≤ f' →
      ∃ x', W fuel x = .ok x' ∧ Inv x' ∧ V x' = trimStartFuel D f' (V x) := by
  have hDpos := length_pos_of_ne_nil hD
  intro fuel
  induction fuel with
  | zero => intro x f' _ h _; omega
  | succ fuel ih =>
    intro x f' hx hfuel hf'
    rw [hstep fuel x hx]
    by_cases hp : D.isPrefixOf (V x) = true
    · have hlen := (List.isPrefixOf_iff_prefix.mp hp).length_le
      obtain ⟨hx', hV⟩ := hnext x hx hp
      have hVlen : (V (next x)).length = (V x).length - D.length := by rw [hV, List.length_drop]
      obtain ⟨f0, rfl⟩ : ∃ k, f' = k + 1 := ⟨f' - 1, by omega⟩
      obtain ⟨x', h1, h2, h3⟩ := ih (next x) f0 hx' (by omega) (by omega)
      refine ⟨x', by rw [if_pos hp]; exact h1, h2, ?_⟩
      rw [h3, hV]
      simp only [trimStartFuel, if_pos hp]
    · refine ⟨x, by rw [if_neg hp], hx, ?_⟩
      cases f' with
      | zero => rfl
      | succ f => simp only [trimStartFuel, if_neg hp]

theorem trimLeftWhile_eq (buffer d : Bytes) (hd : d ≠ []) :
    ∃ idx, trimLeftWhile buffer d (buffer.length + 1) 0 = .ok idx ∧ idx ≤ buffer.length ∧
      buffer.drop idx = trimStart d buffer := by
  have := cursorWhile_spec (W := trimLeftWhile buffer d) (V := fun x => buffer.drop x)
    (next := fun x => x + d.length) (Inv := fun x => x ≤ buffer.length) hd
    (fun fuel x hx => by simp only [trimLeftWhile, sliceFrom_ok buffer hx, bind_ok])
    (fun x hx hp => by
      have := (List.isPrefixOf_iff_prefix.mp hp).length_le
      rw [List.length_drop] at this
      exact ⟨by omega, by rw [List.drop_drop]⟩)
    (buffer.length + 1) 0 buffer.length (Nat.zero_le _) (by simp) (by simp)
  simpa [trimStart] using this

/-- the right loop of the `Both` arm (the `Right` arm is the case `idx = 0`) from the end of the
    buffer, with the fuel the entry point gives: `r_idx` never goes below `idx`, the subtraction
    never underflows, and what is left is the normal form -/
theorem trimBothRightWhile_eq (buffer d : Bytes) (hd : d ≠ []) (idx : Nat) (hidx : idx ≤ buffer.length) :
    ∃ r', trimBothRightWhile buffer d idx (buffer.length + 1) buffer.length = .ok r' ∧ idx ≤ r' ∧
      r' ≤ buffer.length ∧ slice buffer idx r' = trimEnd d (buffer.drop idx) := by
  have hsuf : ∀ x, d.isSuffixOf (slice buffer idx x) = true → d.length ≤ x - idx := by
    intro x hp
    have := (List.isSuffixOf_iff_suffix.mp hp).length_le
    rw [slice_length] at this
    exact Nat.le_trans this (Nat.min_le_left _ _)
  obtain ⟨r', h1, ⟨h2, h3⟩, h4⟩ := cursorWhile_spec (W := trimBothRightWhile buffer d idx)
    (V := fun x => (slice buffer idx x).reverse) (D := d.reverse)
    (next := fun x => x - d.length) (Inv := fun x => idx ≤ x ∧ x ≤ buffer.length)
    (by simpa using hd)
    (fun fuel x hx => by
      simp only [trimBothRightWhile, sliceRange_ok buffer hx.1 hx.2, bind_ok]
      by_cases hp : d.isSuffixOf (slice buffer idx x) = true
      · have hp' : d.reverse.isPrefixOf (slice buffer idx x).reverse = true := hp
        rw [if_pos hp, if_pos hp', checkedSub_ok (by have := hsuf x hp; omega), bind_ok]
      · have hp' : ¬ d.reverse.isPrefixOf (slice buffer idx x).reverse = true := hp
        rw [if_neg hp, if_neg hp'])
    (fun x hx hp => by
      have hk := hsuf x hp
      refine ⟨⟨by omega, by omega⟩, ?_⟩
      simp only [List.length_reverse, List.drop_reverse, slice_take_sub buffer idx d.length hx.2])
    (buffer.length + 1) buffer.length (buffer.length - idx) ⟨hidx, Nat.le_refl _⟩
    (by simp [slice_length]; omega) (by simp [slice_length])
  refine ⟨r', h1, h2, h3, ?_⟩
  simp only [slice_to_end] at h4
  unfold trimEnd trimStart
  rw [← List.reverse_inj, List.reverse_reverse, h4]
  simp

theorem sliceTo_eq_sliceRange {α : Type} (l : List α) (b : Nat) : sliceTo l b = sliceRange l 0 b := by
  unfold sliceTo sliceRange slice
  simp

theorem trimRightWhile_eq_both (buffer d : Bytes) :
    ∀ (fuel rIdx : Nat), trimRightWhile buffer d fuel rIdx = trimBothRightWhile buffer d 0 fuel rIdx := by
  intro fuel
  induction fuel with
  | zero => intro _; rfl
  | succ fuel ih =>
    intro rIdx
    simp only [trimRightWhile, trimBothRightWhile, sliceTo_eq_sliceRange, ih]

theorem trimBothArm_eq (buffer d : Bytes) (hd : d ≠ []) :
    trimBothArm buffer d = .ok (trimEnd d (trimStart d buffer)) := by
  obtain ⟨idx, h1, h2, h3⟩ := trimLeftWhile_eq buffer d hd
  obtain ⟨r', e1, e2, e3, e4⟩ := trimBothRightWhile_eq buffer d hd idx h2
  unfold trimBothArm
  simp only [h1, bind_ok, e1, sliceRange_ok buffer e2 e3, e4, h3]

theorem trimLeftArm_eq (buffer d : Bytes) (hd : d ≠ []) :
    trimLeftArm buffer d = .ok (trimStart d buffer) := by
  obtain ⟨idx, h1, h2, h3⟩ := trimLeftWhile_eq buffer d hd
  unfold trimLeftArm
  simp only [h1, bind_ok, sliceFrom_ok buffer h2, h3]

theorem trimRightArm_eq (buffer d : Bytes) (hd : d ≠ []) :
    trimRightArm buffer d = .ok (trimEnd d buffer) := by
  obtain ⟨r', e1, _, e3, e4⟩ := trimBothRightWhile_eq buffer d hd 0 (Nat.zero_le _)
  unfold trimRightArm
  simp only [trimRightWhile_eq_both, e1, bind_ok, sliceTo_eq_sliceRange,
    sliceRange_ok buffer (Nat.zero_le _) e3, e4, List.drop_zero]

end TextLoops

/-- **`trim`: the three arms are the normal form**, for every buffer and every delimiter (the
    empty one included); no slice is out of bounds, `r_idx -= delimiter.len()` never underflows
    and, in the `Both` arm, `r_idx` never crosses `idx`. -/
theorem trimLoop_refines (buffer : Bytes) (kind : TrimKind) (d : Bytes) :
    trimLoop buffer kind d = .ok (trimLiteral buffer kind d) := by
  unfold trimLoop trimLiteral
  by_cases hd : d = []
  · subst hd; rfl
  · simp only [isEmpty_eq_false_of_ne_nil hd, Bool.false_eq_true, if_false]
    cases kind with
    | left => exact trimLeftArm_eq buffer d hd
    | right => exact trimRightArm_eq buffer d hd
    | both => exact trimBothArm_eq buffer d hd

namespace TextLoops

/-- the scanner of `findIter`, started (outside a match) at offset `p` of `line` -/
def scanFrom (d line : Bytes) (p : Nat) : List Nat := findIterAux d 0 p (line.drop p)

theorem scanFrom_zero (d line : Bytes) : scanFrom d line 0 = findIter d line := rfl

theorem findAux_spec (d line : Bytes) :
    ∀ (l : Bytes) (p : Nat), line.drop p = l → p ≤ line.length →
      (findAux d p l = Option.none → findIterAux d 0 p l = []) ∧
      (∀ idx, findAux d p l = Option.some idx →
        idx + d.length ≤ line.length ∧ d <+: line.drop idx ∧
        findIterAux d 0 p l = idx ::
          (if idx + max d.length 1 ≤ line.length then scanFrom d line (idx + max d.length 1) else [])) := by
  intro l
  induction l with
  | nil =>
    intro p hl hp
    have hlen : line.length ≤ p := List.drop_eq_nil_iff.mp hl
    cases d with
    | nil =>
      -- the empty needle is found at the end of the line, and the scanner stops there
      refine ⟨fun h => (by cases h), ?_⟩
      intro idx h
      cases h
      refine ⟨hp, List.nil_prefix, ?_⟩
      rw [if_neg (by omega)]
      rfl
    | cons x d => exact ⟨fun _ => rfl, fun idx h => by cases h⟩
  | cons c t ih =>
    intro p hl hp
    have hlen : line.length - p = t.length + 1 := by
      rw [← List.length_drop, hl]
      rfl
    have ht := (drop_eq_cons hl).2
    by_cases hpre : d.isPrefixOf (c :: t) = true
    · refine ⟨by simp [findAux, hpre], ?_⟩
      intro idx h
      have : p = idx := by simpa [findAux, hpre] using h
      subst this
      have hpf := List.isPrefixOf_iff_prefix.mp hpre
      have hdl : d.length ≤ t.length + 1 := by simpa using hpf.length_le
      refine ⟨by omega, by rw [hl]; exact hpf, ?_⟩
      have hg : p + max d.length 1 ≤ line.length := by omega
      simp only [findIterAux, if_pos hpre, if_pos hg, scanFrom]
      rw [findIterAux_skip d t (d.length - 1) (p + 1) (by omega), ← ht, List.drop_drop]
      have : p + 1 + (d.length - 1) = p + max d.length 1 := by omega
      rw [this]
    · obtain ⟨ih1, ih2⟩ := ih (p + 1) ht (by omega)
      simp only [findAux, findIterAux, if_neg hpre]
      exact ⟨ih1, ih2⟩

/-- `find` reports the FIRST occurrence: none starts between `p` and what it reports, and none
    at all at or after `p` when it reports nothing -/
theorem findAux_leftmost (d line : Bytes) :
    ∀ (l : Bytes) (p : Nat), line.drop p = l →
      (∀ idx, findAux d p l = Option.some idx → ∀ j, p ≤ j → j < idx → ¬ d <+: line.drop j) ∧
      (findAux d p l = Option.none → ∀ j, p ≤ j → ¬ d <+: line.drop j) := by
  intro l
  induction l with
  | nil =>
    intro p hl
    cases d with
    | nil =>
      -- the empty needle is found right at `p`
      refine ⟨fun idx h j h1 h2 => ?_, fun h => (by cases h)⟩
      cases h
      omega
    | cons x d =>
      refine ⟨fun idx h => (by cases h), fun _ j hj hpre => ?_⟩
      have hdj : line.drop j = [] :=
        List.drop_eq_nil_iff.mpr (Nat.le_trans (List.drop_eq_nil_iff.mp hl) hj)
      rw [hdj] at hpre
      cases List.prefix_nil.mp hpre
  | cons c t ih =>
    intro p hl
    have ht := (drop_eq_cons hl).2
    obtain ⟨ih1, ih2⟩ := ih (p + 1) ht
    by_cases hpre : d.isPrefixOf (c :: t) = true
    · refine ⟨?_, by simp [findAux, hpre]⟩
      intro idx h j h1 h2
      have : p = idx := by simpa [findAux, hpre] using h
      omega
    · have hnp : ¬ d <+: line.drop p := by
        rw [hl]; exact fun h => hpre (List.isPrefixOf_iff_prefix.mpr h)
      simp only [findAux, if_neg hpre]
      refine ⟨?_, ?_⟩
      · intro idx h j h1 h2
        by_cases hj : j = p
        · subst hj; exact hnp
        · exact ih1 idx h j (by omega) h2
      · intro h j h1
        by_cases hj : j = p
        · subst hj; exact hnp
        · exact ih2 h j (by omega)

theorem findAux_shift (d : Bytes) :
    ∀ (l : Bytes) (pos : Nat), findAux d pos l = (findAux d 0 l).map (· + pos) := by
  intro l
  induction l with
  | nil => intro pos; simp only [findAux]; split <;> simp
  | cons c t ih =>
    intro pos
    simp only [findAux]
    split
    · simp
    · rw [ih (pos + 1), ih (0 + 1), Option.map_map]
      congr 1
      funext x
      simp only [Function.comp]
      omega

theorem findFrom_eq (line d : Bytes) {p : Nat} (hp : p ≤ line.length) :
    findFrom line d p = findAux d p (line.drop p) := by
  unfold findFrom find
  rw [if_pos hp, findAux_shift d (line.drop p) p]

theorem scanFrom_of_find_none (d line : Bytes) {p : Nat} (hp : p ≤ line.length)
    (h : find (line.drop p) d = Option.none) : scanFrom d line p = [] :=
  (findAux_spec d line _ p rfl hp).1 (by
    rw [findAux_shift, show findAux d 0 (line.drop p) = Option.none from h]
    rfl)

theorem scanFrom_of_find_some (d line : Bytes) {p i : Nat} (hp : p ≤ line.length)
    (h : find (line.drop p) d = Option.some i) :
    i + p + d.length ≤ line.length ∧ d <+: line.drop (i + p) ∧
      scanFrom d line p = (i + p) ::
        (if i + p + max d.length 1 ≤ line.length then scanFrom d line (i + p + max d.length 1)
          else []) :=
  (findAux_spec d line _ p rfl hp).2 (i + p) (by
    rw [findAux_shift, show findAux d 0 (line.drop p) = Option.some i from h]
    rfl)

theorem scanFrom_of_find_some' (d line : Bytes) (hd : d ≠ []) {p i : Nat} (hp : p ≤ line.length)
    (h : find (line.drop p) d = Option.some i) :
    i + p + d.length ≤ line.length ∧ d <+: line.drop (i + p) ∧
      scanFrom d line p = (i + p) :: scanFrom d line (i + p + d.length) := by
  obtain ⟨h2, h3, h4⟩ := scanFrom_of_find_some d line hp h
  have hdpos := length_pos_of_ne_nil hd
  have hm : max d.length 1 = d.length := by omega
  rw [hm, if_pos h2] at h4
  exact ⟨h2, h3, h4⟩

theorem find_of_prefix (d l : Bytes) (hd : d ≠ []) (h : d.isPrefixOf l = true) :
    find l d = Option.some 0 := by
  unfold find
  cases l with
  | nil =>
    cases d with
    | nil => exact absurd rfl hd
    | cons _ _ => simp [List.isPrefixOf] at h
  | cons c t => simp only [findAux, if_pos h]

theorem findIterLoop_from (d line : Bytes) :
    ∀ (fuel p : Nat), p ≤ line.length → line.length - p + 2 ≤ fuel →
      findIterLoop d line fuel p = scanFrom d line p := by
  intro fuel
  induction fuel with
  | zero => intro p _ h; omega
  | succ fuel ih =>
    intro p hp hf
    simp only [findIterLoop, sliceFrom_ok line hp, Outcome.toOption]
    cases hfind : find (line.drop p) d with
    | none => exact (scanFrom_of_find_none d line hp hfind).symm
    | some i =>
      obtain ⟨h2, _, h4⟩ := scanFrom_of_find_some d line hp hfind
      simp only []
      rw [h4, Nat.add_comm p i]
      congr 1
      by_cases hg : i + p + max d.length 1 ≤ line.length
      · rw [if_pos hg]
        exact ih _ hg (by omega)
      · rw [if_neg hg]
        cases fuel with
        | zero => rfl
        | succ f =>
          simp only [findIterLoop, sliceFrom, if_neg hg, Outcome.toOption]

/-- **the literal `memmem::FindIter` is `findIter`**, for every needle (the empty one included):
    with fuel for `len + 2` calls of `next`, the collected iterator is the list the normal-form
    model works with. -/
theorem findIterLoop_eq_findIter (d line : Bytes) :
    findIterLoop d line (line.length + 2) 0 = findIter d line :=
  findIterLoop_from d line _ 0 (Nat.zero_le _) (by omega)

theorem scanFrom_of_prefix (d line : Bytes) (hd : d ≠ []) {p : Nat} (hp : p ≤ line.length)
    (h : d.isPrefixOf (line.drop p) = true) :
    p + d.length ≤ line.length ∧ scanFrom d line p = p :: scanFrom d line (p + d.length) := by
  obtain ⟨h2, _, h4⟩ := scanFrom_of_find_some' d line hd hp (find_of_prefix d _ hd h)
  rw [Nat.zero_add] at h2 h4
  exact ⟨h2, h4⟩

/-- the inner loop (cut_str.rs:81-83): it stays inside the line, stops where no occurrence
    starts, and the occurrences it steps over are those the normal form merges -/
theorem greedySkip_spec (line d : Bytes) (hd : d ≠ []) :
    ∀ (fuel q : Nat), q ≤ line.length → line.length - q < fuel →
      ∃ q', greedySkip line d d.length fuel q = .ok q' ∧ q ≤ q' ∧ q' ≤ line.length ∧
        ¬ d.isPrefixOf (line.drop q') = true ∧
        rangesBetweenGreedy d.length line.length true q (scanFrom d line q) =
          rangesBetweenGreedy d.length line.length true q' (scanFrom d line q') := by
  have hdpos := length_pos_of_ne_nil hd
  intro fuel
  induction fuel with
  | zero => intro q _ h; omega
  | succ fuel ih =>
    intro q hq hf
    by_cases hp : d.isPrefixOf (line.drop q) = true
    · obtain ⟨h1, h2⟩ := scanFrom_of_prefix d line hd hq hp
      obtain ⟨q', e1, e2, e3, e4, e5⟩ := ih (q + d.length) h1 (by omega)
      refine ⟨q', ?_, by omega, e3, e4, ?_⟩
      · simp only [greedySkip, sliceFrom_ok line hq, bind_ok, if_pos hp]
        exact e1
      · rw [h2, ← e5]
        simp only [rangesBetweenGreedy, and_self, if_true]
    · refine ⟨q, ?_, Nat.le_refl _, hq, hp, rfl⟩
      simp only [greedySkip, sliceFrom_ok line hq, bind_ok, if_neg hp]

/-- the outer loop (cut_str.rs:70-84) and the final push (86-89): from a state
    `(buffer, prev_part_start)` where no occurrence starts at `prev_part_start` (or no occurrence
    has been seen yet), the ranges appended are those of the normal form -/
theorem greedyWhile_spec (line d : Bytes) (hd : d ≠ []) :
    ∀ (fuel p : Nat) (buffer : List Range) (am : Bool), p ≤ line.length → line.length - p < fuel →
      (am = true → ¬ d.isPrefixOf (line.drop p) = true) →
      (greedyWhile line d d.length fuel buffer p).bind (greedyFinish line) =
        .ok (buffer ++ rangesBetweenGreedy d.length line.length am p (scanFrom d line p)) := by
  have hdpos := length_pos_of_ne_nil hd
  intro fuel
  induction fuel with
  | zero => intro p _ _ _ h; omega
  | succ fuel ih =>
    intro p buffer am hp hf ham
    simp only [greedyWhile, sliceFrom_ok line hp, bind_ok]
    cases hfind : find (line.drop p) d with
    | none =>
      rw [scanFrom_of_find_none d line hp hfind]
      rfl
    | some i =>
      obtain ⟨h2, h3, h4⟩ := scanFrom_of_find_some' d line hd hp hfind
      obtain ⟨q', e1, e2, e3, e4, e5⟩ := greedySkip_spec line d hd (line.length + 1) (i + p + d.length)
        h2 (by omega)
      have hne : ¬ (am = true ∧ i + p = p) := by
        intro ⟨ha, hi⟩
        apply ham ha
        rw [hi] at h3
        exact List.isPrefixOf_iff_prefix.mpr h3
      simp only [e1, bind_ok]
      rw [ih q' _ true e3 (by omega) (fun _ => e4), h4]
      simp only [rangesBetweenGreedy, if_neg hne, push, e5, List.append_assoc, List.singleton_append]

end TextLoops

/-- **`fill_with_fields_locations_greedy`: the loops are the normal form**, for every line, every
    delimiter (the empty one and self-overlapping ones included) and any previous content of the
    buffer; `line[prev_part_start..]` is never out of bounds and the loops terminate. -/
theorem fillWithFieldsLocationsGreedyLoop_refines (buffer : List Range) (line d : Bytes) :
    fillWithFieldsLocationsGreedyLoop buffer line d =
      .ok (fillWithFieldsLocationsGreedy buffer line d) := by
  unfold fillWithFieldsLocationsGreedyLoop fillWithFieldsLocationsGreedy
  by_cases hd : d = []
  · subst hd
    simp only [List.isEmpty_nil, if_true]
    exact fillWithFieldsLocationsLoop_refines buffer line []
  · simp only [isEmpty_eq_false_of_ne_nil hd, Bool.false_eq_true, if_false]
    by_cases hl : line.isEmpty = true
    · simp only [hl, if_true]; rfl
    · simp only [hl, Bool.false_eq_true, if_false]
      have := greedyWhile_spec line d hd (line.length + 1) 0 (clear buffer) false (Nat.zero_le _)
        (by omega) (by simp)
      simpa [clear, scanFrom_zero] using this

end Tuc
