import Tuc.Spec.Json
import Tuc.Model.CutStr
/-!
# C08 — `--json` prints one well-formed array of strings per record, and decoding it yields each
selected part exactly

The encoder is the model of `serde_json::to_string::<str>` (`jsonString`, `Tuc.Model.Utf8`); the
decoder is the independent strict RFC 8259 reader of `Tuc.Spec.Json`.  The reader decodes what the
encoder writes: a string, for *every* byte string, and an array, for every list of parts, with or
without the LF / CRLF of the line.  A string literal contains no raw control byte, so a record is
one line; its only unescaped quotes are its first and its last byte; different parts print
differently.  The output loop of the model under `--json` writes exactly that array
(`emitRecord_json_decodes`) — under hypotheses on the field vector and the bounds that are not
discharged here (`htext`, `hvalid`, `hlast`, `hunpacked`; no `-m`, no format text, a record that `-s`
does not drop); the statement about `cut_str` itself is
`json_record_decodes` in `Tuc/Props/C08Spec.lean`.
-/
namespace Tuc
open Tuc.Spec

theorem jsonDecodeBody_quote (t : Bytes) : jsonDecodeBody (0x22 :: t) = some ([], t) := by
  rw [jsonDecodeBody.eq_def]; simp

theorem jsonDecodeBody_raw (b : UInt8) (t : Bytes) (h1 : b ≠ 0x22) (h2 : b ≠ 0x5C) (h3 : ¬ b < 0x20) :
    jsonDecodeBody (b :: t) = jsonPrepend [b] (jsonDecodeBody t) := by
  rw [jsonDecodeBody.eq_def]; simp [h1, h2, h3]

theorem jsonDecodeBody_simple (e c : UInt8) (t : Bytes) (he : e ≠ 0x75)
    (h : jsonSimpleEscape e = some c) :
    jsonDecodeBody (0x5C :: e :: t) = jsonPrepend [c] (jsonDecodeBody t) := by
  rw [jsonDecodeBody.eq_def]; simp [he, h]

theorem jsonDecodeBody_u (h1 h2 h3 h4 : UInt8) (t : Bytes) (cp : Nat)
    (h : jsonHex4 h1 h2 h3 h4 = some cp) (hcp : cp < 0xD800) :
    jsonDecodeBody (0x5C :: 0x75 :: h1 :: h2 :: h3 :: h4 :: t) =
      jsonPrepend (utf8OfBmp cp) (jsonDecodeBody t) := by
  rw [jsonDecodeBody.eq_def]; simp [h, hcp]

theorem hexDigitLower_spec (n : Nat) : n < 16 →
    jsonHexVal (hexDigitLower n) = some n ∧ hexDigitLower n ≠ 0x22 ∧ hexDigitLower n ≠ 0x5C ∧
      0x20 ≤ hexDigitLower n := by
  revert n
  decide

theorem jsonHex4_lower (n : Nat) (h : n < 256) :
    jsonHex4 0x30 0x30 (hexDigitLower (n / 16)) (hexDigitLower (n % 16)) = some n := by
  have e0 : jsonHexVal 0x30 = some 0 := rfl
  simp only [jsonHex4, e0, (hexDigitLower_spec (n / 16) (by omega)).1,
    (hexDigitLower_spec (n % 16) (by omega)).1, Option.some.injEq]
  omega

theorem utf8OfBmp_ascii (n : Nat) (h : n < 0x80) : utf8OfBmp n = [UInt8.ofNat n] := if_pos h

theorem jsonEscapeByte_cases (b : UInt8) :
    (∃ e, jsonEscapeByte b = [0x5C, e] ∧ e ≠ 0x75 ∧ jsonSimpleEscape e = some b ∧ 0x20 ≤ e) ∨
    (b < 0x20 ∧ jsonEscapeByte b =
      [0x5C, 0x75, 0x30, 0x30, hexDigitLower (b.toNat / 16), hexDigitLower (b.toNat % 16)]) ∨
    (b ≠ 0x22 ∧ b ≠ 0x5C ∧ ¬ b < 0x20 ∧ jsonEscapeByte b = [b]) := by
  by_cases h : b ∈ [0x22, 0x5C, 0x08, 0x0C, 0x0A, 0x0D, 0x09]
  · simp only [List.mem_cons, List.not_mem_nil, or_false] at h
    rcases h with rfl | rfl | rfl | rfl | rfl | rfl | rfl <;> exact .inl ⟨_, rfl, by decide⟩
  simp only [List.mem_cons, List.not_mem_nil, or_false, not_or] at h
  obtain ⟨h1, h2, h3, h4, h5, h6, h7⟩ := h
  rw [jsonEscapeByte, if_neg h1, if_neg h2, if_neg h3, if_neg h4, if_neg h5, if_neg h6, if_neg h7]
  by_cases h8 : b < 0x20
  · exact .inr (.inl ⟨h8, if_pos h8⟩)
  · exact .inr (.inr ⟨h1, h2, h8, if_neg h8⟩)

theorem jsonDecodeBody_escape (b : UInt8) (more : Bytes) :
    jsonDecodeBody (jsonEscapeByte b ++ more) = jsonPrepend [b] (jsonDecodeBody more) := by
  rcases jsonEscapeByte_cases b with ⟨e, he, hu, hs, -⟩ | ⟨hlt, he⟩ | ⟨h1, h2, h3, he⟩ <;> rw [he]
  · exact jsonDecodeBody_simple e b more hu hs
  · have hn : b.toNat < 0x20 := UInt8.lt_iff_toNat_lt.mp hlt
    have hu := jsonDecodeBody_u _ _ _ _ more _ (jsonHex4_lower b.toNat b.toNat_lt)
      (Nat.lt_trans hn (by decide))
    rwa [utf8OfBmp_ascii _ (Nat.lt_trans hn (by decide)), UInt8.ofNat_toNat] at hu
  · exact jsonDecodeBody_raw b more h1 h2 h3

theorem jsonDecodeBody_flatMap (s rest : Bytes) :
    jsonDecodeBody (s.flatMap jsonEscapeByte ++ 0x22 :: rest) = some (s, rest) := by
  induction s with
  | nil => exact jsonDecodeBody_quote rest
  | cons b s ih =>
    rw [List.flatMap_cons, List.append_assoc, jsonDecodeBody_escape, ih]
    rfl

/-- **C08, one string**: the strict reader decodes what serde_json writes, whatever the content -/
theorem jsonDecodeString_jsonString (s rest : Bytes) :
    jsonDecodeString (jsonString s ++ rest) = some (s, rest) := by
  have : jsonString s ++ rest = 0x22 :: (s.flatMap jsonEscapeByte ++ 0x22 :: rest) := by
    simp [jsonString]
  rw [this, jsonDecodeString]
  simp [jsonDecodeBody_flatMap]

/-- two different parts never print the same -/
theorem jsonString_injective (s s' : Bytes) (h : jsonString s = jsonString s') : s = s' := by
  have h1 := jsonDecodeString_jsonString s []
  have h2 := jsonDecodeString_jsonString s' []
  rw [h, h2] at h1
  simpa using h1.symm

theorem Spec.joinWith_cons (sep x : Bytes) (xs : List Bytes) :
    Spec.joinWith sep (x :: xs) = x ++ xs.flatMap (fun y => sep ++ y) := by
  induction xs generalizing x with
  | nil => simp [Spec.joinWith]
  | cons y ys ih => rw [Spec.joinWith, ih]; simp

/-- `Spec.joinWith` is `List.intercalate` (as is the `joinWith` of `Tuc.Lemmas.Split`) -/
theorem Spec.joinWith_eq_intercalate (sep : Bytes) (xs : List Bytes) :
    Spec.joinWith sep xs = List.intercalate sep xs := by
  induction xs with
  | nil => simp [Spec.joinWith, List.intercalate]
  | cons x xs ih =>
    cases xs with
    | nil => simp [Spec.joinWith, List.intercalate]
    | cons y ys => rw [Spec.joinWith, ih]; simp [List.intercalate]

theorem Spec.joinWith_comma_ge (xs : List Bytes) (h : ∀ x ∈ xs, ∀ b ∈ x, (0x20 : UInt8) ≤ b) :
    ∀ b ∈ Spec.joinWith [0x2C] xs, (0x20 : UInt8) ≤ b := by
  intro b hb
  cases xs with
  | nil => simp [Spec.joinWith] at hb
  | cons x xs =>
    rw [joinWith_cons] at hb
    simp only [List.mem_append, List.mem_flatMap, List.mem_singleton] at hb
    rcases hb with hb | ⟨y, hy, rfl | hb⟩
    · exact h x (by simp) b hb
    · decide
    · exact h y (by simp [hy]) b hb

theorem jsonSkipWs_of_not_ws (b : UInt8) (t : Bytes) (h : jsonIsWs b = false) :
    jsonSkipWs (b :: t) = b :: t := by
  simp [jsonSkipWs, h]

theorem jsonString_eq_cons (s : Bytes) : jsonString s = 0x22 :: (s.flatMap jsonEscapeByte ++ [0x22]) := by
  simp [jsonString]

theorem jsonSkipWs_jsonString (s rest : Bytes) :
    jsonSkipWs (jsonString s ++ rest) = jsonString s ++ rest := by
  rw [jsonString_eq_cons, List.cons_append]
  exact jsonSkipWs_of_not_ws _ _ (by decide)

theorem jsonDecodeElems_tail (ps : List Bytes) (trail : Bytes) (htrail : jsonSkipWs trail = [])
    (fuel : Nat) (h : ps.length < fuel) :
    jsonDecodeElems fuel (ps.flatMap (fun p => 0x2C :: jsonString p) ++ 0x5D :: trail) = some ps := by
  induction ps generalizing fuel with
  | nil =>
    obtain ⟨f, rfl⟩ : ∃ f, fuel = f + 1 := ⟨fuel - 1, by omega⟩
    rw [List.flatMap_nil, List.nil_append, jsonDecodeElems, jsonSkipWs_of_not_ws _ _ (by decide)]
    simp [htrail]
  | cons p ps ih =>
    obtain ⟨f, rfl⟩ : ∃ f, fuel = f + 1 := ⟨fuel - 1, by omega⟩
    have hf : ps.length < f := by simp at h; omega
    rw [List.flatMap_cons, List.append_assoc, List.cons_append,
      jsonDecodeElems, jsonSkipWs_of_not_ws _ _ (by decide)]
    simp [jsonSkipWs_jsonString, jsonDecodeString_jsonString, ih f hf]

theorem jsonDecodeArray_cons (p R : Bytes) :
    jsonDecodeArray (0x5B :: (jsonString p ++ R)) =
      (jsonDecodeElems (0x5B :: (jsonString p ++ R)).length R).map (p :: ·) := by
  rw [jsonDecodeArray, jsonSkipWs_of_not_ws _ _ (by decide)]
  generalize (0x5B :: (jsonString p ++ R)).length = n
  simp only [if_true]
  rw [jsonSkipWs_jsonString]
  have hd := jsonDecodeString_jsonString p R
  rw [jsonString_eq_cons, List.cons_append] at hd ⊢
  simp only []
  rw [if_neg (by decide), hd]

private theorem length_le_flatMap_length {α β : Type} (f : α → List β) (l : List α) (h : ∀ a, 1 ≤ (f a).length) :
    l.length ≤ (l.flatMap f).length := by
  induction l with
  | nil => simp
  | cons a l ih =>
    have := h a
    simp only [List.flatMap_cons, List.length_append, List.length_cons]; omega

/-- **C08, one array, with what follows the array on the line**: trailing JSON whitespace (the LF or
    CRLF that ends the record) does not change what the reader gets. -/
theorem json_array_roundtrip_ws (parts : List Bytes) (trail : Bytes) (htrail : jsonSkipWs trail = []) :
    jsonDecodeArray ([0x5B] ++ Spec.joinWith [0x2C] (parts.map jsonString) ++ [0x5D] ++ trail) =
      some parts := by
  cases parts with
  | nil =>
    simp only [List.map_nil, Spec.joinWith, List.append_nil, List.cons_append, List.nil_append]
    rw [jsonDecodeArray, jsonSkipWs_of_not_ws _ _ (by decide)]
    simp only [if_true]
    rw [jsonSkipWs_of_not_ws _ _ (by decide)]
    simp [htrail]
  | cons p ps =>
    have hlen := length_le_flatMap_length (fun q => 0x2C :: jsonString q) ps (by intro a; simp)
    rw [List.map_cons, joinWith_cons, List.flatMap_map, List.singleton_append, List.cons_append,
      List.append_assoc, List.cons_append, List.append_assoc, List.append_assoc]
    simp only [List.singleton_append]
    rw [jsonDecodeArray_cons, jsonDecodeElems_tail _ _ htrail]
    · rfl
    · simp only [List.length_append, List.length_cons]; omega

/-- **C08, one array per record**: the reader gets back every part exactly — any number of
    parts (none included), any content (the empty string included). -/
theorem json_array_roundtrip (parts : List Bytes) :
    jsonDecodeArray ([0x5B] ++ Spec.joinWith [0x2C] (parts.map jsonString) ++ [0x5D]) = some parts := by
  have := json_array_roundtrip_ws parts [] rfl
  rwa [List.append_nil] at this

theorem jsonEscapeByte_ge (b : UInt8) : ∀ c ∈ jsonEscapeByte b, 0x20 ≤ c := by
  have hd (n : Nat) (h : n < 16) := (hexDigitLower_spec n h).2.2.2
  have := b.toNat_lt
  rcases jsonEscapeByte_cases b with ⟨e, he, _, _, hge⟩ | ⟨_, he⟩ | ⟨_, _, h3, he⟩ <;> rw [he]
  · simp [hge]
  · simp [hd (b.toNat / 16) (by omega), hd (b.toNat % 16) (by omega)]
  · simpa using h3

/-- **C08, one line**: no raw control byte (no LF, no NUL, …) in what `--json` prints for a part -/
theorem jsonString_no_raw_control (s : Bytes) : ∀ b ∈ jsonString s, 0x20 ≤ b := by
  intro b hb
  simp only [jsonString, List.mem_append, List.mem_flatMap, List.mem_singleton] at hb
  rcases hb with (rfl | ⟨a, _, hc⟩) | rfl
  · decide
  · exact jsonEscapeByte_ge a b hc
  · decide

theorem jsonFirstUnescapedQuote_quote (t : Bytes) : jsonFirstUnescapedQuote (0x22 :: t) = some 0 := by
  rw [jsonFirstUnescapedQuote.eq_def]; simp

theorem jsonFirstUnescapedQuote_esc (e : UInt8) (t : Bytes) :
    jsonFirstUnescapedQuote (0x5C :: e :: t) = (jsonFirstUnescapedQuote t).map (· + 2) := by
  rw [jsonFirstUnescapedQuote.eq_def]; simp

theorem jsonFirstUnescapedQuote_raw (b : UInt8) (t : Bytes) (h1 : b ≠ 0x22) (h2 : b ≠ 0x5C) :
    jsonFirstUnescapedQuote (b :: t) = (jsonFirstUnescapedQuote t).map (· + 1) := by
  rw [jsonFirstUnescapedQuote.eq_def]; simp [h1, h2]

theorem jsonFirstUnescapedQuote_escape (b : UInt8) (more : Bytes) :
    jsonFirstUnescapedQuote (jsonEscapeByte b ++ more) =
      (jsonFirstUnescapedQuote more).map (· + (jsonEscapeByte b).length) := by
  rcases jsonEscapeByte_cases b with ⟨e, he, _⟩ | ⟨_, he⟩ | ⟨h1, h2, _, he⟩ <;> rw [he]
  · exact jsonFirstUnescapedQuote_esc e more
  · have hd1 := hexDigitLower_spec (b.toNat / 16) (by have := b.toNat_lt; omega)
    have hd2 := hexDigitLower_spec (b.toNat % 16) (by omega)
    simp only [List.cons_append, List.nil_append]
    rw [jsonFirstUnescapedQuote_esc,
      jsonFirstUnescapedQuote_raw _ _ (by decide) (by decide),
      jsonFirstUnescapedQuote_raw _ _ (by decide) (by decide),
      jsonFirstUnescapedQuote_raw _ _ hd1.2.1 hd1.2.2.1,
      jsonFirstUnescapedQuote_raw _ _ hd2.2.1 hd2.2.2.1]
    cases jsonFirstUnescapedQuote more <;> simp
  · exact jsonFirstUnescapedQuote_raw b more h1 h2

theorem jsonFirstUnescapedQuote_flatMap (s rest : Bytes) :
    jsonFirstUnescapedQuote (s.flatMap jsonEscapeByte ++ 0x22 :: rest) =
      some (s.flatMap jsonEscapeByte).length := by
  induction s with
  | nil => exact jsonFirstUnescapedQuote_quote rest
  | cons b s ih =>
    rw [List.flatMap_cons, List.append_assoc, jsonFirstUnescapedQuote_escape, ih]
    simp [Nat.add_comm]

/-- **C08, where the quotes are**: the first byte is a `"`, and a lexer that starts after it (a
    `\` hides the next byte) meets its first unescaped `"` exactly at the last byte of
    `jsonString s`, whatever follows: the only unescaped quotes of the literal are its first and
    its last byte. -/
theorem jsonString_quotes (s rest : Bytes) :
    (jsonString s).head? = some 0x22 ∧
    jsonFirstUnescapedQuote ((jsonString s).tail ++ rest) = some ((jsonString s).length - 2) := by
  rw [jsonString_eq_cons]
  refine ⟨rfl, ?_⟩
  simp only [List.tail_cons, List.append_assoc, List.singleton_append, List.length_cons,
    List.length_append, List.length_nil]
  rw [jsonFirstUnescapedQuote_flatMap]
  simp

/-- The text the ENGINE's output loop prints for a bound (the specification's is `Spec.boundText`,
    `Tuc.Lemmas.SpecLaws`): the slice of the record it selects (with the
    delimiters inside it replaced), else its own fallback, else the global fallback; `none`
    where the loop fails or panics. -/
def boundText (line : Bytes) (fields : List Range) (numFields : Nat) (opt : Opt)
    (compressedWithRegex : Bool) (b : UserBounds) : Option Bytes :=
  match b.tryIntoRange numFields with
  | some (s, e) =>
    match fields[s]?, fields[e - 1]? with
    | some fs, some fe =>
      if fs.start ≤ fe.stop ∧ fe.stop ≤ line.length then
        some (maybeReplaceDelimiter (slice line fs.start fe.stop) opt compressedWithRegex)
      else none
    | _, _ => none
  | none =>
    match b.fallback with
    | some f => some f
    | none => opt.fallbackOob

theorem outputBof_json (line : Bytes) (fields : List Range) (numFields : Nat) (opt : Opt)
    (cwr : Bool) (b : UserBounds) (t : Bytes) (hjson : opt.json = true)
    (ht : boundText line fields numFields opt cwr b = some t) (hv : validUtf8 t = true) :
    outputBof line fields numFields opt cwr (.bound b) =
      (Run.ok (jsonString t)).seq
        (if opt.join && !b.isLast then Run.ok (opt.replaceDelimiter.getD opt.delimiter)
         else Run.empty) := by
  unfold boundText at ht
  unfold outputBof
  split at ht
  · rename_i s e hr
    simp only [hr]
    split at ht
    · rename_i fs fe hs he
      simp only [hs, he]
      split at ht
      · rename_i hc
        cases ht
        simp [hc, writeMaybeAsJson, hjson, hv]
      · cases ht
    · cases ht
  · rename_i hr
    simp only [hr]
    split at ht
    · rename_i f hf
      cases ht
      simp [hf, writeMaybeAsJson, hjson, hv]
    · rename_i hf
      simp [hf, ht, writeMaybeAsJson, hjson, hv]

/-- **C08, the output loop** under `--json` (which implies `-j` and `-r ,`): for a
    list of bounds (no fillers) in which exactly the last one is flagged `isLast`, each of which
    yields a valid UTF-8 text `tᵢ` (its slice of the record or a fallback), the loop ends well
    and has written the JSON strings of the texts separated by single commas. -/
theorem outputLoop_json (line : Bytes) (fields : List Range) (numFields : Nat) (opt : Opt)
    (cwr : Bool) (us : List UserBounds) (ts : List Bytes)
    (hjson : opt.json = true) (hjoin : opt.join = true) (hrep : opt.replaceDelimiter = some [0x2C])
    (hlast : ∀ pre b suf, us = pre ++ b :: suf → (b.isLast = true ↔ suf = []))
    (htext : us.map (boundText line fields numFields opt cwr) = ts.map some)
    (hvalid : ∀ t ∈ ts, validUtf8 t = true) :
    outputLoop line fields numFields opt cwr (us.map BoF.bound) =
      Run.ok (Spec.joinWith [0x2C] (ts.map jsonString)) := by
  induction us generalizing ts with
  | nil =>
    cases ts with
    | nil => rfl
    | cons t ts => simp at htext
  | cons u us ih =>
    cases ts with
    | nil => simp at htext
    | cons t ts =>
      simp only [List.map_cons, List.cons.injEq] at htext
      have ih' := ih ts (fun pre b suf h => hlast (u :: pre) b suf (by rw [h]; rfl)) htext.2
        (fun t' h' => hvalid t' (List.mem_cons_of_mem _ h'))
      rw [List.map_cons, outputLoop,
        outputBof_json _ _ _ _ _ _ t hjson htext.1 (hvalid t (List.mem_cons_self ..)), ih',
        List.map_cons]
      -- the joiner is written unless `u` is the last bound, that is unless `ts` is empty
      have hu := hlast [] u us rfl
      have hlen : us.length = ts.length := by simpa using congrArg List.length htext.2
      cases ts with
      | nil =>
        have : u.isLast = true := hu.mpr (List.eq_nil_of_length_eq_zero hlen)
        simp [this, Run.seq, Run.ok, Run.empty, Spec.joinWith]
      | cons t' ts' =>
        have : u.isLast = false := Bool.eq_false_iff.2 fun h => by simp [hu.mp h] at hlen
        simp [this, hjoin, hrep, Run.seq, Run.ok, Spec.joinWith]

/-- **C08, the output stage of one record**: under the hypotheses of `outputLoop_json`, for a record
    that `-s` does not drop, with no complement and nothing left to unpack, `emitRecord` writes
    `[`, the parts as JSON strings separated by commas, `]`, and the end of line. -/
theorem emitRecord_json (line : Bytes) (fields : List Range) (opt : Opt) (cwr : Bool) (eol : Bytes)
    (us : List UserBounds) (ts : List Bytes)
    (hjson : opt.json = true) (hjoin : opt.join = true) (hrep : opt.replaceDelimiter = some [0x2C])
    (hod : (opt.onlyDelimited && fields.length == 1) = false)
    (hcompl : opt.complement = false)
    (hbounds : opt.bounds.list = us.map BoF.bound)
    (hunpacked : ∀ u ∈ us, needsUnpack (.bound u) = false)
    (hlast : ∀ pre b suf, us = pre ++ b :: suf → (b.isLast = true ↔ suf = []))
    (htext : us.map (boundText line fields fields.length opt cwr) = ts.map some)
    (hvalid : ∀ t ∈ ts, validUtf8 t = true) :
    emitRecord line fields opt cwr eol =
      Run.ok ([0x5B] ++ Spec.joinWith [0x2C] (ts.map jsonString) ++ [0x5D] ++ eol) := by
  have hany : opt.bounds.list.any needsUnpack = false := by
    rw [hbounds, List.any_eq_false]
    intro x hx
    obtain ⟨u, hu, rfl⟩ := List.mem_map.mp hx
    simp [hunpacked u hu]
  have hloop := outputLoop_json line fields fields.length opt cwr us ts hjson hjoin hrep hlast htext hvalid
  unfold emitRecord
  simp only [hod, hjson, hcompl, hany, Bool.true_or, Bool.true_and, Bool.false_eq_true, if_false,
    if_true]
  simp only [hbounds, hloop]
  simp [Run.seq, Run.ok]

/-- **C08, record level**: under the hypotheses of `emitRecord_json`, what the record prints
    before its end of line is one JSON text without any raw control byte (so: one line), and
    the strict reader decodes it to exactly the selected parts. -/
theorem emitRecord_json_decodes (line : Bytes) (fields : List Range) (opt : Opt) (cwr : Bool)
    (eol : Bytes) (us : List UserBounds) (ts : List Bytes)
    (hjson : opt.json = true) (hjoin : opt.join = true) (hrep : opt.replaceDelimiter = some [0x2C])
    (hod : (opt.onlyDelimited && fields.length == 1) = false)
    (hcompl : opt.complement = false)
    (hbounds : opt.bounds.list = us.map BoF.bound)
    (hunpacked : ∀ u ∈ us, needsUnpack (.bound u) = false)
    (hlast : ∀ pre b suf, us = pre ++ b :: suf → (b.isLast = true ↔ suf = []))
    (htext : us.map (boundText line fields fields.length opt cwr) = ts.map some)
    (hvalid : ∀ t ∈ ts, validUtf8 t = true) :
    ∃ text : Bytes, emitRecord line fields opt cwr eol = Run.ok (text ++ eol) ∧
      jsonDecodeArray text = some ts ∧ ∀ b ∈ text, 0x20 ≤ b := by
  refine ⟨[0x5B] ++ Spec.joinWith [0x2C] (ts.map jsonString) ++ [0x5D],
    emitRecord_json line fields opt cwr eol us ts hjson hjoin hrep hod hcompl hbounds hunpacked
      hlast htext hvalid,
    json_array_roundtrip ts, ?_⟩
  intro b hb
  simp only [List.mem_append, List.mem_singleton] at hb
  rcases hb with (rfl | hb) | rfl
  · decide
  · exact joinWith_comma_ge (ts.map jsonString)
      (by intro x hx; obtain ⟨t, _, rfl⟩ := List.mem_map.mp hx; exact jsonString_no_raw_control t)
      b hb
  · decide

/-- `a"\` U+0001 LF `é` `😎` -/
def c08Sample : Bytes := [0x61, 0x22, 0x5C, 0x01, 0x0A, 0xC3, 0xA9, 0xF0, 0x9F, 0x98, 0x8E]

-- "a\"\\\u0001\né😎"
example : jsonString c08Sample =
    [0x22, 0x61, 0x5C, 0x22, 0x5C, 0x5C, 0x5C, 0x75, 0x30, 0x30, 0x30, 0x31, 0x5C, 0x6E,
     0xC3, 0xA9, 0xF0, 0x9F, 0x98, 0x8E, 0x22] := by decide +kernel
example : jsonDecodeString (jsonString c08Sample ++ [0x2C, 0x78]) = some (c08Sample, [0x2C, 0x78]) := by
  decide +kernel
example : jsonFirstUnescapedQuote ((jsonString c08Sample).tail ++ [0x22, 0x22]) = some 19 := by decide +kernel
-- every control byte, DEL, a lone continuation byte, 0xFF: the round trip does not look at UTF-8
example : jsonDecodeString (jsonString ((List.range 34).map UInt8.ofNat ++ [0x7F, 0x80, 0xFF])) =
    some ((List.range 34).map UInt8.ofNat ++ [0x7F, 0x80, 0xFF], []) := by decide +kernel
example :
    jsonDecodeArray ([0x5B] ++ Spec.joinWith [0x2C] ([c08Sample, [], [0x2C], [0x5D, 0x22], [0x00, 0x1F, 0x7F]].map jsonString)
      ++ [0x5D]) = some [c08Sample, [], [0x2C], [0x5D, 0x22], [0x00, 0x1F, 0x7F]] := by decide +kernel
-- the empty array and the array of one empty string are different texts
example : [0x5B] ++ Spec.joinWith [0x2C] (([] : List Bytes).map jsonString) ++ [0x5D] = [0x5B, 0x5D] := by decide
example : [0x5B] ++ Spec.joinWith [0x2C] ([[]].map jsonString) ++ [0x5D] = [0x5B, 0x22, 0x22, 0x5D] := by decide

/-! the reader alone: escapes the encoder never writes, and strictness -/

-- "\u00e9\u20AC\ud83d\ude0e\/"x  ↦  é € 😎 /   (rest: x)
example : jsonDecodeString
    [0x22, 0x5C, 0x75, 0x30, 0x30, 0x65, 0x39, 0x5C, 0x75, 0x32, 0x30, 0x41, 0x43, 0x5C, 0x75, 0x64,
     0x38, 0x33, 0x64, 0x5C, 0x75, 0x64, 0x65, 0x30, 0x65, 0x5C, 0x2F, 0x22, 0x78] =
    some ([0xC3, 0xA9, 0xE2, 0x82, 0xAC, 0xF0, 0x9F, 0x98, 0x8E, 0x2F], [0x78]) := by decide +kernel
-- "\u000A\u000a": hex digits of either case
example : jsonDecodeString [0x22, 0x5C, 0x75, 0x30, 0x30, 0x30, 0x41, 0x5C, 0x75, 0x30, 0x30, 0x30, 0x61, 0x22] =
    some ([0x0A, 0x0A], []) := by decide
-- "\ud83d"  lone high surrogate
example : jsonDecodeString [0x22, 0x5C, 0x75, 0x64, 0x38, 0x33, 0x64, 0x22] = none := by decide
-- "\ude0e"  lone low surrogate
example : jsonDecodeString [0x22, 0x5C, 0x75, 0x64, 0x65, 0x30, 0x65, 0x22] = none := by decide
-- "\ud83dx"  high surrogate followed by something else
example : jsonDecodeString [0x22, 0x5C, 0x75, 0x64, 0x38, 0x33, 0x64, 0x78, 0x22] = none := by decide
-- "\x"  unknown escape
example : jsonDecodeString [0x22, 0x5C, 0x78, 0x22] = none := by decide
-- "\u00G0" and "\u12": not four hex digits
example : jsonDecodeString [0x22, 0x5C, 0x75, 0x30, 0x30, 0x47, 0x30, 0x22] = none := by decide
example : jsonDecodeString [0x22, 0x5C, 0x75, 0x31, 0x32, 0x22] = none := by decide
-- "a<LF>b"  raw control byte
example : jsonDecodeString [0x22, 0x61, 0x0A, 0x62, 0x22] = none := by decide
-- "abc  unterminated;  abc"  no opening quote
example : jsonDecodeString [0x22, 0x61, 0x62, 0x63] = none := by decide
example : jsonDecodeString [0x61, 0x62, 0x63, 0x22] = none := by decide
-- ␠[␠"a"␠,␠"","b\n"␠]␠<LF>
example : jsonDecodeArray
    [0x20, 0x5B, 0x20, 0x22, 0x61, 0x22, 0x20, 0x2C, 0x20, 0x22, 0x22, 0x2C, 0x22, 0x62, 0x5C, 0x6E,
     0x22, 0x20, 0x5D, 0x20, 0x0A] = some [[0x61], [], [0x62, 0x0A]] := by decide +kernel
-- ␠[<TAB>]<CR><LF>
example : jsonDecodeArray [0x20, 0x5B, 0x09, 0x5D, 0x0D, 0x0A] = some [] := by decide
-- ["a",]   ["a"]x   ["a" "b"]   ["a"   "a"   [1]   [["a"]]   []<NUL>
example : jsonDecodeArray [0x5B, 0x22, 0x61, 0x22, 0x2C, 0x5D] = none := by decide
example : jsonDecodeArray [0x5B, 0x22, 0x61, 0x22, 0x5D, 0x78] = none := by decide
example : jsonDecodeArray [0x5B, 0x22, 0x61, 0x22, 0x20, 0x22, 0x62, 0x22, 0x5D] = none := by decide
example : jsonDecodeArray [0x5B, 0x22, 0x61, 0x22] = none := by decide
example : jsonDecodeArray [0x22, 0x61, 0x22] = none := by decide
example : jsonDecodeArray [0x5B, 0x31, 0x5D] = none := by decide
example : jsonDecodeArray [0x5B, 0x5B, 0x22, 0x61, 0x22, 0x5D, 0x5D] = none := by decide
example : jsonDecodeArray [0x5B, 0x5D, 0x00] = none := by decide

end Tuc
