import Tuc.Props.C13Runs
import Tuc.Props.C09Runs
/-!
# C13 at the level of runs — the fast lane (through C02 and `fastOptOf_general`)
-/
namespace Tuc
open Tuc.Spec

/-- **C13, fast lane, the run.**  The fast lane's run is the general engine's (C02), which is the
    specification's (C01): a bound that does not resolve on some record and has no fallback at
    all fails the run, after the output of the records before it and of what the failing record
    printed before that bound. -/
theorem readAndCutFast_never_silent (o : Opt) (fo : FastOpt) (ho : fastOptOf o = some fo)
    (l : List BoF) (hfv : fromVec l = .ok o.bounds)
    (hz : AllNonzero o.bounds.list) (hL : LastMarked o.bounds.list) (input : Bytes)
    (before after : List Bytes) (r : Bytes)
    (hrec : records o.eol.byte input = before ++ r :: after)
    (tok : Tok) (pre post : List BoF) (b : UserBounds) (ht : recordTok (cfgOf o) r = some tok)
    (hs : (o.onlyDelimited && tok.numFields == 1) = false)
    (hb : o.bounds.list = pre ++ .bound b :: post)
    (h : resolve b tok.numFields = none) (hf : b.fallback = none) (hg : o.fallbackOob = none) :
    (readAndCutFast fo input).status = .fail ∧
    ((specRunRecords (cfgOf o) before).status = .ok →
      (readAndCutFast fo input).out =
        (specRunRecords (cfgOf o) before).out ++
          (emitThen (cfgOf o) tok (specSep (cfgOf o)) (specJoiner (cfgOf o))
            (rewriteList (cfgOf o) tok.numFields pre)).out) := by
  obtain ⟨hd, hre, hty, hjson⟩ := fastOptOf_general ho
  rw [readAndCutFast_eq_readAndCutStr o fo ho l hfv hz input]
  exact readAndCutStr_never_silent o input hd hre (Or.inl hty) hjson hz hL before after r hrec tok
    pre post b ht hs hb h hf hg

/-- `-d - -f 1,5,2` on `a-b-c⏎`: `a` is printed, then the run fails; with `-f 1,5=x,2` it does not -/
example :
    let o (l : List BoF) : Opt := { delimiter := [45], bounds := ⟨l, .cont⟩ }
    (fastOptOf (o [.bound { l := .some 1, r := .some 1 }, .bound { l := .some 5, r := .some 5 },
        .bound { l := .some 2, r := .some 2, isLast := true }])).map
      (readAndCutFast · [97, 45, 98, 45, 99, 10]) = some ⟨[97], .fail⟩ ∧
    (fastOptOf (o [.bound { l := .some 1, r := .some 1 },
        .bound { l := .some 5, r := .some 5, fallback := some [0x78] },
        .bound { l := .some 2, r := .some 2, isLast := true }])).map
      (readAndCutFast · [97, 45, 98, 45, 99, 10]) = some (Run.ok [97, 0x78, 98, 10]) := by
  decide +kernel

end Tuc
