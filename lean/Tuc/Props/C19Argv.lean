import Tuc.Props.C19
import Tuc.Lemmas.ParseWith
import Tuc.Lemmas.StreamOpt
import Tuc.Lemmas.Total
import Tuc.Props.C18
/-!
# C19 (argv layer) — `parse_args` over `pico_args`, on canonical command lines, rejects as the decision table says

`Tuc.Model.Argv` models `pico_args` and `parse_args` literally (and is tied to the real binary by
`tool/argv_diff.py`); `parse_args` is written once over an interface `Ops` of three lookups.  Here it
runs on three argument stores: `pico_args` on a list of arguments, the same lookups on a list of option
groups (`Group`, rendered by `render`), and a table of the options given (`Table`).  In the order of the file:

* the text of `parse_args` is gone through on two stores at once, with the rules of `Tuc.Lemmas.ParseWith`
  (`SimE`: the stores related by a map, an invariant that the four bounds lookups change, a
  postcondition) — `SimE.parseWith`; on one store, whatever it is, `parseWith_spec`;
* what a lookup of `pico_args` finds on a rendered command line — `picoContains_render`, `picoOptValue_render`;
* on a canonical command line the three stores answer alike — `parseArgv_renderB` (`parseArgv_render`, hence
  `parseArgv_perm`); on any arguments no `unwrap` of `parse_args` fails and the bounds it returns came out
  of `UserBoundsList::from_str` — `parseArgv_spec`;
* `parse_args` on a table is a closed form, the one run of its text on a table — `parseTable_closed`; when
  every value parses (`Sensible`) it is `reject` iff `upFrontReject (flagsOf t)`, the tests of `decision`
  that sit inside `parse_args`, else `run (optOf t) ..` (`parseTable_eq`), and with the `-M` test of `main`
  the real parsing chain rejects up front iff `decision` does — `parseArgv_canon_decision`;
* `Canon`, a `Flags`-like record with the values, and its canonical command line `canonArgv K` —
  `Canon.Accepted.parse`; then what else is read off the closed form (`parseTable_congr`) and single
  command lines by computation.

`decision` is proved equal to the property's `conflict` list in `Tuc.Props.C19`.  Only its `reject` answer
is tied to `parse_args` / `main` here; what `Tuc.Props.C19` says of `failFirst` and of the engine chosen is
about `decision` alone.

Canonical = every option at most once, spelled with its first key (`-d`, `--json`), the value as a
separate argument, values and stray arguments not starting with `-`.  The restriction is lifted
for the values of `-f -c -b -l` (`-1=hello`, `-2:-1`; `WFB`, `parseArgv_renderB`, `parseArgv_canonB`):
`parse_args` consumes them before it looks for `-h`, so their letters cannot be taken for a flag.
That holds of the command lines of option groups; `Canon.clean` asks `noDash` of the bounds value too, so the
theorems over `Canon` (`Canon.Accepted.parse` and all that start from it) stop short of `tuc -f -1`.
What else pico_args accepts (glued values, `=`, clusters, repeated options, other values that look
like options) is covered by the differential test, apart from the single command lines computed at
the end of the file.
-/
namespace Tuc
-- bound variables `j`, `b` share their names with constructors of `FlagId` / `ValId`
set_option linter.constructorNameAsVariable false

/-- `m₁` started from `h s` does what `m₂` does from `s` -/
def Sim {σ₁ σ₂ α : Type} (h : σ₂ → σ₁) (m₁ : P σ₁ α) (m₂ : P σ₂ α) : Prop :=
  ∀ s, m₁ (h s) = Step.map h (m₂ s)

/-- `Sim` from the states that satisfy `I`; the states it goes on with satisfy `J` -/
def SimI {σ₁ σ₂ α : Type} (h : σ₂ → σ₁) (I J : σ₂ → Prop) (m₁ : P σ₁ α) (m₂ : P σ₂ α) : Prop :=
  ∀ s, I s → m₁ (h s) = Step.map h (m₂ s) ∧ ∀ a s', m₂ s = .next a s' → J s'

theorem Sim.unwrap {σ₁ σ₂ α : Type} {h : σ₂ → σ₁} (o : Option α) :
    Sim h (P.unwrap o : P σ₁ α) (P.unwrap o) := by
  intro s; unfold P.unwrap; cases o <;> rfl

theorem SimI.unwrap {σ₁ σ₂ α : Type} {h : σ₂ → σ₁} {I : σ₂ → Prop} (o : Option α) :
    SimI h I I (P.unwrap o : P σ₁ α) (P.unwrap o) := by
  intro s hs
  unfold P.unwrap
  cases o
  · exact ⟨rfl, fun a' s' h' => by cases h'⟩
  · exact ⟨rfl, fun a' s' h' => by cases h'; exact hs⟩

def usedFlagKeys : List Keys :=
  [kHelp, kGreedy, kJson, kJoin, kNoJoin, kComplement, kOnlyDelimited, kCompress, kVersion, kZero, kFallbackEq]

def usedValKeys : List Keys :=
  [kFields, kCharacters, kBytes, kLines, kDelimiter, kReplace, kFixedMemory, kRegex, kTrim, kFallback]

inductive FlagId where
  | help | g | json | j | noJoin | m | s | p | V | z
  deriving DecidableEq, Repr

inductive ValId where
  | f | c | b | l | d | r | M | e | t | fallback
  deriving DecidableEq, Repr

def FlagId.keys : FlagId → Keys
  | .help => kHelp | .g => kGreedy | .json => kJson | .j => kJoin | .noJoin => kNoJoin
  | .m => kComplement | .s => kOnlyDelimited | .p => kCompress | .V => kVersion | .z => kZero

def ValId.keys : ValId → Keys
  | .f => kFields | .c => kCharacters | .b => kBytes | .l => kLines | .d => kDelimiter
  | .r => kReplace | .M => kFixedMemory | .e => kRegex | .t => kTrim | .fallback => kFallback

def allFlagIds : List FlagId := [.help, .g, .json, .j, .noJoin, .m, .s, .p, .V, .z]
def allValIds : List ValId := [.f, .c, .b, .l, .d, .r, .M, .e, .t, .fallback]

theorem FlagId.mem_all (i : FlagId) : i ∈ allFlagIds := by cases i <;> decide
theorem ValId.mem_all (i : ValId) : i ∈ allValIds := by cases i <;> decide

-- the key lists are the keys of the options in the order of `allFlagIds` / `allValIds` (and `--fallback-oob=`)
theorem FlagId.keys_used (i : FlagId) : i.keys ∈ usedFlagKeys :=
  List.mem_append_left [kFallbackEq] (List.mem_map_of_mem i.mem_all)
theorem ValId.keys_used (i : ValId) : i.keys ∈ usedValKeys := List.mem_map_of_mem i.mem_all

/-- `h` maps the states of `ops₂` to states of `ops₁` on which `ops₁` does the same -/
structure Hom {σ₁ σ₂ : Type} (ops₁ : Ops σ₁) (ops₂ : Ops σ₂) (h : σ₂ → σ₁) : Prop where
  isEmpty : ∀ s, ops₁.isEmpty (h s) = ops₂.isEmpty s
  contains : ∀ k ∈ usedFlagKeys, ∀ s,
    ops₁.contains k (h s) = ((ops₂.contains k s).1, h (ops₂.contains k s).2)
  optValue : ∀ k ∈ usedValKeys, ∀ s, ops₁.optValue k (h s) = mapOptValue h (ops₂.optValue k s)

theorem Res.exists_ok {α : Type} {r : Res α} (h : r.isOk = true) : ∃ a, r = .ok a := by
  cases r with
  | ok a => exact ⟨a, rfl⟩
  | fail => cases h
  | panic => cases h

theorem default_bounds_ok : ∃ y, (boundsListOfString ['1', ':']).toOption.map some = some (some y) := by
  obtain ⟨a, h⟩ := Res.exists_ok (by decide +kernel : (boundsListOfString ['1', ':']).isOk = true)
  exact ⟨a, by rw [h]; rfl⟩

theorem strArg_ne_panic (v : Arg) : strArg v ≠ .panic := by simp [strArg]

theorem usizeArg_ne_panic (v : Arg) : usizeArg v ≠ .panic := by
  unfold usizeArg; cases parseUsize v <;> simp

theorem trimArg_ne_panic (v : Arg) : trimArg v ≠ .panic := by
  unfold trimArg; split <;> simp

/-- the bounds list is a value of `UserBoundsList::from_str` -/
def FromParser (u : UserBoundsList) : Prop := ∃ f : Arg, boundsListOfString f = .ok u

def OptFromParser (x : Option UserBoundsList) : Prop := ∀ u, x = Option.some u → FromParser u

theorem OptFromParser.or {x y : Option UserBoundsList} (hx : OptFromParser x) (hy : OptFromParser y) :
    OptFromParser (x.or y) := by
  cases x with
  | none => exact hy
  | some a => exact hx

section
variable {σ₁ σ₂ : Type} {ops₁ : Ops σ₁} {ops₂ : Ops σ₂} {h : σ₂ → σ₁} {E : ArgvResult → Prop}

/-- the step `maybe_fields = Some(UserBoundsList::from_str("1:").unwrap())`, taken when none of
    `-f -c -b -l` was given: afterwards one of the four is there, and it came out of the parser -/
theorem SimE.defaultStep {I : σ₂ → Prop} (mf mc mb ml : Option UserBoundsList) (hf : OptFromParser mf) :
    SimE h E I I
      (if (!mf.isSome && !mb.isSome && !mc.isSome && !ml.isSome) = true then
        P.unwrap ((boundsListOfString ['1', ':']).toOption.map some)
       else (Pure.pure mf : P σ₁ (Option UserBoundsList)))
      (if (!mf.isSome && !mb.isSome && !mc.isSome && !ml.isSome) = true then
        P.unwrap ((boundsListOfString ['1', ':']).toOption.map some)
       else (Pure.pure mf : P σ₂ (Option UserBoundsList)))
      fun mf' => OptFromParser mf' ∧ (mf'.or (mc.or (mb.or ml))).isSome = true := by
  obtain ⟨y, hy⟩ := default_bounds_ok
  have hd : OptFromParser (some y) := by
    cases h : boundsListOfString ['1', ':'] with
    | ok a => rw [h] at hy; cases hy; intro u hu; cases hu; exact ⟨_, h⟩
    | fail => rw [h] at hy; cases hy
    | panic => rw [h] at hy; cases hy
  rw [hy]
  intro s hs
  cases mf <;> cases mc <;> cases mb <;> cases ml <;>
    first | exact ⟨rfl, ⟨hd, rfl⟩, hs⟩ | exact ⟨rfl, ⟨hf, rfl⟩, hs⟩

/-- **`parse_args`, statement by statement, on two argument stores at once.**  The invariant is indexed by the
    bounds options still to be looked up: their lookups take it from `I [.f, .c, .b, .l]` to `I []`, which every
    later operation keeps.  No `unwrap`/`expect` fails: the parsers of the values do not panic, and the one
    `unwrap` that depends on what went before (the bounds in force) is covered by the default step. -/
theorem SimE.parseWith {I : List ValId → σ₂ → Prop} (regexOk : Arg → Bool)
    (hh : E .help) (hv : E .version) (hr : E .reject)
    (isEmpty : ∀ S s, I S s → ops₁.isEmpty (h s) = ops₂.isEmpty s)
    (bounds : ∀ i S, i ∈ [ValId.f, .c, .b, .l] → ∀ s, I (i :: S) s → ValueSim h ops₁ ops₂ i.keys s (I S))
    (contains : ∀ i : FlagId, ∀ s, I [] s → FlagSim h ops₁ ops₂ i.keys s (I []))
    (fallbackEq : ∀ s, I [] s → FlagSim h ops₁ ops₂ kFallbackEq s (I []))
    (optValue : ∀ i : ValId, ∀ s, I [] s → ValueSim h ops₁ ops₂ i.keys s (I [])) :
    SimE h E (I [.f, .c, .b, .l]) (I []) (Tuc.parseWith ops₁ regexOk) (Tuc.parseWith ops₂ regexOk) fun r =>
      r ≠ .panic ∧ ∀ o fm rt, r = .run o fm rt → FromParser o.bounds ∧ o.fixedMemory.isSome = fm :=
  have test S := SimE.test (E := E) (isEmpty S)
  have bounds i S hi : SimE h E _ _ _ _ OptFromParser :=
    .value hr i.keys boundsArg (fun v h => absurd h (boundsListOfString_never_panics v)) (bounds i S hi)
  have flag (i : FlagId) := SimE.flag (E := E) i.keys (contains i)
  have value {α : Type} (f : Arg → Res α) (hf : ∀ v, f v ≠ .panic) (i : ValId) :=
    SimE.value hr i.keys f (fun v h => absurd h (hf v)) (optValue i)
  .bind (test _) fun noArgs _ =>
  .bind (.exitIf _ hh) fun _ _ =>                          -- no arguments: the short help
  .bind (bounds .f _ (by decide)) fun maybeFields hf =>
  .bind (bounds .c _ (by decide)) fun maybeCharacters hc =>
  .bind (bounds .b _ (by decide)) fun maybeBytes hb =>
  .bind (bounds .l _ (by decide)) fun maybeLines hl =>
  .bind (flag .help) fun hasHelp _ =>
  .bind (.exitIf _ hh) fun _ _ =>
  .bind (.defaultStep maybeFields maybeCharacters maybeBytes maybeLines hf) fun maybeFields hf =>
  .bind (.exitIf _ hr) fun _ _ =>                          -- field mode without a bound
  .bind (.ite _ (value _ strArg_ne_panic .d) (.pure _ nofun)) fun d _ =>
  .bind (flag .g) fun greedyDelimiter _ =>
  .bind (value _ strArg_ne_panic .r) fun tmpReplace _ =>
  .bind (value _ usizeArg_ne_panic .M) fun fixedMemoryKb _ =>
  .bind (.exitIf _ hr) fun _ _ =>                          -- `-M 0`
  .bind (flag .json) fun hasJson _ =>
  .bind (flag .j) fun hasJoin _ =>
  .bind (flag .noJoin) fun hasNoJoin _ =>
  .bind (.exitIf _ hr) fun _ _ =>                          -- `-j` with `--no-join`
  .bind (.exitIf _ hr) fun _ _ =>                          -- `--json` with `--no-join`
  .bind (.exitIf _ hr) fun _ _ =>                          -- `-r` with `--no-join` or `--json`
  .bind (.exitIf _ hr) fun _ _ =>                          -- `-c` with `--no-join`
  .bind (.exitIf _ hr) fun _ _ =>                          -- `--json` with `-b` or `-l`
  .bind (.ite _ (.pure _ fun a _ => ⟨a, rfl⟩) (value _ strArg_ne_panic .e)) fun regexText _ =>
  .bind (.exitIf _ hr) fun _ _ =>                          -- the regex does not compile
  .bind (.unwrap _ fun hn => by have := hf.2; rw [hn] at this; cases this) fun bounds hbounds =>
  .bind (.exitIf _ hr) fun _ _ =>                          -- `--json` with format text in the bounds
  .bind (flag .m) fun complement _ =>
  .bind (flag .s) fun onlyDelimited _ =>
  .bind (flag .p) fun compressDelimiter _ =>
  .bind (flag .V) fun version _ =>
  .bind (flag .z) fun zero _ =>
  .bind (value _ trimArg_ne_panic .t) fun trim _ =>
  .bind (.fallbackOob hr (optValue .fallback) fallbackEq) fun fallbackOob _ =>
  .bind (test _) fun remainingEmpty _ =>
  .bind (.exitIf _ hv) fun _ _ =>
  .bind (.exitIf _ hr) fun _ _ =>                          -- arguments left over
  .pure _ ⟨nofun, fun _ _ _ h => by
    cases h
    exact ⟨(hf.1.or (hc.or (hb.or hl))) _ hbounds, Option.isSome_map⟩⟩

/-- `SimE.parseWith` on one store, whatever it is: what is true of the answer of `parse_args` -/
theorem parseWith_spec {σ : Type} (ops : Ops σ) (regexOk : Arg → Bool) (hh : E .help) (hv : E .version)
    (hr : E .reject) :
    SimE id E (fun _ => True) (fun _ => True) (Tuc.parseWith ops regexOk) (Tuc.parseWith ops regexOk) fun r =>
      r ≠ .panic ∧ ∀ o fm rt, r = .run o fm rt → FromParser o.bounds ∧ o.fixedMemory.isSome = fm :=
  have value (i : ValId) (s : σ) : ValueSim id ops ops i.keys s fun _ => True :=
    ⟨(mapOptValue_id _).symm, by unfold ValuePost; split <;> trivial⟩
  SimE.parseWith (I := fun _ _ => True) regexOk hh hv hr (fun _ _ _ => rfl) (fun i _ _ s _ => value i s)
    (fun _ _ _ => ⟨rfl, trivial⟩) (fun _ _ => ⟨rfl, trivial⟩) (fun i s _ => value i s)

theorem Hom.parseWith (H : Hom ops₁ ops₂ h) (regexOk : Arg → Bool) :
    Sim h (Tuc.parseWith ops₁ regexOk) (Tuc.parseWith ops₂ regexOk) :=
  have value (i : ValId) (s : σ₂) : ValueSim h ops₁ ops₂ i.keys s fun _ => True :=
    ⟨H.optValue _ i.keys_used s, by unfold ValuePost; split <;> trivial⟩
  fun s => (SimE.parseWith (E := fun _ => True) (I := fun _ _ => True) regexOk trivial trivial trivial
    (fun _ s _ => H.isEmpty s) (fun i _ _ s _ => value i s)
    (fun i s _ => ⟨H.contains _ i.keys_used s, trivial⟩) (fun s _ => ⟨H.contains _ (by decide) s, trivial⟩)
    (fun i s _ => value i s) s trivial).1
end

/-- the canonical spelling of an option: the first key (the short one when there is one) -/
def FlagId.tok (i : FlagId) : Arg := i.keys.first
def ValId.tok (i : ValId) : Arg := i.keys.first

/-- an option together with its value, or an argument that is no option -/
inductive Group where
  | flag (i : FlagId)
  | opt (i : ValId) (v : Arg)
  | extra (a : Arg)
  deriving DecidableEq, Repr

def Group.head : Group → Arg
  | .flag i => i.tok
  | .opt i _ => i.tok
  | .extra a => a

/-- each option as separate arguments: `-g`, `-d VALUE` -/
def Group.render : Group → List Arg
  | .flag i => [i.tok]
  | .opt i v => [i.tok, v]
  | .extra a => [a]

def render (gs : List Group) : List Arg := gs.flatMap Group.render

def noDash (a : Arg) : Bool := a.head? != some '-'

def Group.clean : Group → Bool
  | .flag _ => true
  | .opt _ v => noDash v
  | .extra a => noDash a

/-- canonical: every option at most once, values and stray arguments do not start with `-` -/
def WF (gs : List Group) : Prop := (gs.map Group.head).Nodup ∧ ∀ g ∈ gs, g.clean = true

def allTokens : List Arg := allFlagIds.map FlagId.tok ++ allValIds.map ValId.tok

theorem FlagId.tok_mem (i : FlagId) : i.tok ∈ allTokens := List.mem_append_left _ (List.mem_map_of_mem i.mem_all)
theorem ValId.tok_mem (i : ValId) : i.tok ∈ allTokens := List.mem_append_right _ (List.mem_map_of_mem i.mem_all)

/-- the argument is invisible to `contains(k)` -/
def missesFlag (k : Keys) (a : Arg) : Bool :=
  !(a == k.first) && (k.second.isEmpty || !(a == k.second)) &&
    (match k.first with
     | [_, flag] => !isClusterWith flag a
     | _ => true)

/-- the argument is invisible to `opt_value_from_str(k)` -/
def missesVal (k : Keys) (a : Arg) : Bool :=
  !(a == k.first) && !indexPredicate a k.first &&
    (k.second.isEmpty || (!(a == k.second) && !indexPredicate a k.second))

theorem tokens_miss_flag : ∀ k ∈ usedFlagKeys, ∀ t ∈ allTokens, t ≠ k.first → missesFlag k t = true := by
  decide +kernel

theorem tokens_miss_val : ∀ k ∈ usedValKeys, ∀ t ∈ allTokens, t ≠ k.first → missesVal k t = true := by
  decide +kernel

theorem keys_dash : ∀ k ∈ usedFlagKeys ++ usedValKeys,
    k.first.head? = some '-' ∧ (k.second = [] ∨ k.second.head? = some '-') := by
  decide +kernel

def flagIdOf (k : Keys) : Option FlagId := allFlagIds.find? (fun i => i.tok == k.first)
def valIdOf (k : Keys) : Option ValId := allValIds.find? (fun i => i.tok == k.first)

theorem flagIdOf_tok (i : FlagId) (k : Keys) (h : k.first = i.tok) : flagIdOf k = some i := by
  unfold flagIdOf
  rw [h]
  cases i <;> decide +kernel

theorem valIdOf_tok (i : ValId) (k : Keys) (h : k.first = i.tok) : valIdOf k = some i := by
  unfold valIdOf
  rw [h]
  cases i <;> decide +kernel

theorem flag_tok_ne_val_key : ∀ k ∈ usedValKeys, ∀ i : FlagId, i.tok ≠ k.first := by
  intro k hk i h
  have hn : ∀ k ∈ usedValKeys, flagIdOf k = none := by decide +kernel
  have := flagIdOf_tok i k h.symm
  rw [hn k hk] at this
  cases this

theorem val_tok_ne_flag_key : ∀ k ∈ usedFlagKeys, ∀ i : ValId, i.tok ≠ k.first := by
  intro k hk i h
  have hn : ∀ k ∈ usedFlagKeys, valIdOf k = none := by decide +kernel
  have := valIdOf_tok i k h.symm
  rw [hn k hk] at this
  cases this

theorem flagIdOf_some {k : Keys} {i : FlagId} (h : flagIdOf k = some i) : i.tok = k.first := by
  have := List.find?_some h
  simpa using this

theorem valIdOf_some {k : Keys} {i : ValId} (h : valIdOf k = some i) : i.tok = k.first := by
  have := List.find?_some h
  simpa using this

theorem valIdOf_used : ∀ k ∈ usedValKeys, valIdOf k ≠ none := by decide +kernel

theorem noDash_beq {a b : Arg} (ha : noDash a = true) (hb : b.head? = some '-') : (a == b) = false := by
  cases h : a == b with
  | false => rfl
  | true =>
    have : a = b := by simpa using h
    subst this
    simp [noDash, hb] at ha

theorem noDash_prefix {a p : Arg} (ha : noDash a = true) (hp : p.head? = some '-') :
    p.isPrefixOf a = false := by
  cases p with
  | nil => simp at hp
  | cons c p' =>
    simp only [List.head?_cons, Option.some.injEq] at hp
    subst hp
    cases a with
    | nil => rfl
    | cons d a' =>
      have hd : ('-' == d) = false := by
        cases h : '-' == d with
        | false => rfl
        | true =>
          have : '-' = d := by simpa using h
          subst this
          simp [noDash] at ha
      simp [List.isPrefixOf, hd]

theorem noDash_indexPredicate {a key : Arg} (ha : noDash a = true) (hk : key.head? = some '-') :
    indexPredicate a key = false := by
  simp only [indexPredicate, startsWithPlusEq, startsWithShortPrefix, noDash_prefix ha hk]
  simp

theorem noDash_cluster {a : Arg} (flag : Char) (ha : noDash a = true) : isClusterWith flag a = false := by
  have : ['-'].isPrefixOf a = false := noDash_prefix ha rfl
  simp [isClusterWith, this]

theorem clean_miss_flag (k : Keys) (hk : k ∈ usedFlagKeys) (a : Arg) (ha : noDash a = true) :
    missesFlag k a = true := by
  obtain ⟨h1, h2⟩ := keys_dash k (List.mem_append_left _ hk)
  have e1 := noDash_beq ha h1
  have e2 : (k.second.isEmpty || !(a == k.second)) = true := by
    rcases h2 with h2 | h2
    · simp [h2]
    · simp [noDash_beq ha h2]
  unfold missesFlag
  rw [e1, e2]
  split
  · simp [noDash_cluster _ ha]
  · rfl

theorem clean_miss_val (k : Keys) (hk : k ∈ usedValKeys) (a : Arg) (ha : noDash a = true) :
    missesVal k a = true := by
  obtain ⟨h1, h2⟩ := keys_dash k (List.mem_append_right _ hk)
  unfold missesVal
  rw [noDash_beq ha h1, noDash_indexPredicate ha h1]
  rcases h2 with h2 | h2
  · simp [h2]
  · simp [noDash_beq ha h2, noDash_indexPredicate ha h2]

theorem getElem?_mid {α : Type} (A B : List α) (x : α) : (A ++ x :: B)[A.length]? = some x := by
  simp

theorem indexOfKey_cons (a key : Arg) (args : List Arg) (h : key.isEmpty = true ∨ (a == key) = false) :
    indexOfKey (a :: args) key = (indexOfKey args key).map fun p => (p.1 + 1, p.2) := by
  unfold indexOfKey
  rcases h with h | h
  · simp [h]
  · rw [List.findIdx?_cons, h]
    split
    · rfl
    · cases args.findIdx? (fun v => v == key) <;> rfl

theorem indexOf_cons (k : Keys) (a : Arg) (args : List Arg) (h1 : (a == k.first) = false)
    (h2 : k.second.isEmpty = true ∨ (a == k.second) = false) :
    indexOf (a :: args) k = (indexOf args k).map fun p => (p.1 + 1, p.2) := by
  unfold indexOf
  rw [indexOfKey_cons a _ args (.inr h1), indexOfKey_cons a _ args h2]
  cases indexOfKey args k.first <;> rfl

theorem indexOf2Key_cons (a key : Arg) (args : List Arg) (h : key.isEmpty = true ∨ indexPredicate a key = false) :
    indexOf2Key (a :: args) key = (indexOf2Key args key).map fun p => (p.1 + 1, p.2) := by
  unfold indexOf2Key
  rcases h with h | h
  · simp [h]
  · rw [List.findIdx?_cons, h]
    split
    · rfl
    · cases args.findIdx? (fun v => indexPredicate v key) <;> rfl

theorem picoContains_cons {k : Keys} {a : Arg} (args : List Arg) (h : missesFlag k a = true) :
    picoContains k (a :: args) = ((picoContains k args).1, a :: (picoContains k args).2) := by
  simp only [missesFlag, Bool.and_eq_true, Bool.not_eq_true', Bool.or_eq_true] at h
  unfold picoContains
  rw [indexOf_cons k a args h.1.1 h.1.2]
  cases indexOf args k with
  | some p => rfl
  | none =>
    dsimp only [Option.map_none]
    split
    · rename_i x flag hk
      have hc : isClusterWith flag a = false := by simpa [hk] using h.2
      rw [List.findIdx?_cons, hc]
      cases args.findIdx? (isClusterWith flag) with
      | none => rfl
      | some n =>
        simp only [Bool.false_eq_true, if_false, Option.map_some, List.getD_cons_succ]
        split <;> rfl
    · rfl

theorem picoContains_head (k : Keys) (args : List Arg) (hne : k.first ≠ []) :
    picoContains k (k.first :: args) = (true, args) := by
  have : indexOf (k.first :: args) k = some (0, k.first) := by
    simp [indexOf, indexOfKey, hne, List.findIdx?_cons]
  unfold picoContains
  rw [this]
  rfl

theorem picoContains_nil (k : Keys) : picoContains k [] = (false, []) := by
  unfold picoContains
  simp only [indexOf, indexOfKey, List.findIdx?_nil, ite_self]
  split <;> rfl

theorem picoContains_append {k : Keys} (A args : List Arg) (h : ∀ a ∈ A, missesFlag k a = true) :
    picoContains k (A ++ args) = ((picoContains k args).1, A ++ (picoContains k args).2) := by
  induction A with
  | nil => rfl
  | cons a A ih =>
    rw [List.cons_append, picoContains_cons _ (h a (List.mem_cons_self ..)),
      ih fun b hb => h b (List.mem_cons_of_mem _ hb)]
    rfl

theorem picoContains_miss (k : Keys) (args : List Arg) (h : ∀ a ∈ args, missesFlag k a = true) :
    picoContains k args = (false, args) := by
  have := picoContains_append args [] h
  rwa [List.append_nil, picoContains_nil, List.append_nil] at this

theorem picoOptValue_cons {k : Keys} {a : Arg} (args : List Arg) (h : missesVal k a = true) :
    picoOptValue k (a :: args) = mapOptValue (a :: ·) (picoOptValue k args) := by
  simp only [missesVal, Bool.and_eq_true, Bool.not_eq_true', Bool.or_eq_true] at h
  obtain ⟨⟨h1, h2⟩, h3⟩ := h
  have e2 : indexOf2 (a :: args) k = (indexOf2 args k).map fun p => (p.1 + 1, p.2) := by
    unfold indexOf2
    rw [indexOf2Key_cons a _ args (.inr h2), indexOf2Key_cons a _ args (h3.imp_right (·.2))]
    cases indexOf2Key args k.first <;> rfl
  unfold picoOptValue findValue
  rw [indexOf_cons k a args h1 (h3.imp_right (·.1)), e2]
  cases indexOf args k with
  | some p =>
    simp only [Option.map_some, List.getElem?_cons_succ]
    cases args[p.1 + 1]? <;> rfl
  | none =>
    cases indexOf2 args k with
    | none => rfl
    | some p =>
      simp only [Option.map_some, Option.map_none, List.getD_cons_succ]
      cases singleArgValue (args.getD p.1 []) p.2 <;> rfl

theorem picoOptValue_head (k : Keys) (v : Arg) (args : List Arg) (hne : k.first ≠ []) :
    picoOptValue k (k.first :: v :: args) = .ok (some (v, args)) := by
  have : indexOf (k.first :: v :: args) k = some (0, k.first) := by
    simp [indexOf, indexOfKey, hne, List.findIdx?_cons]
  unfold picoOptValue findValue
  rw [this]
  rfl

theorem picoOptValue_nil (k : Keys) : picoOptValue k [] = .ok none := by
  simp [picoOptValue, findValue, indexOf, indexOfKey, indexOf2, indexOf2Key]

theorem picoOptValue_append {k : Keys} (A args : List Arg) (h : ∀ a ∈ A, missesVal k a = true) :
    picoOptValue k (A ++ args) = mapOptValue (A ++ ·) (picoOptValue k args) := by
  induction A with
  | nil =>
    show picoOptValue k args = _
    generalize picoOptValue k args = r
    rcases r with e | _ | ⟨v, s⟩ <;> rfl
  | cons a A ih =>
    rw [List.cons_append, picoOptValue_cons _ (h a (List.mem_cons_self ..)),
      ih fun b hb => h b (List.mem_cons_of_mem _ hb)]
    generalize picoOptValue k args = r
    rcases r with e | _ | ⟨v, s⟩ <;> rfl

/-- the value the group gives to the option `i`, if it is a group of `i` -/
def Group.optVal (i : ValId) : Group → Option Arg
  | .opt j v => if j = i then some v else none
  | _ => none

/-- `contains(k)` on a list of groups: written like `tableOps.contains` -/
def grpContains (k : Keys) (gs : List Group) : Bool × List Group :=
  match flagIdOf k with
  | some i => (gs.any (· == .flag i), gs.filter fun g => !(g == .flag i))
  | none => (false, gs)

def grpOptValue (k : Keys) (gs : List Group) : Except PicoErr (Option (Arg × List Group)) :=
  match valIdOf k with
  | some i =>
    match gs.findSome? (Group.optVal i) with
    | some v => .ok (some (v, gs.filter fun g => (g.optVal i).isNone))
    | none => .ok none
  | none => .ok none

theorem render_cons (g : Group) (gs : List Group) : render (g :: gs) = g.render ++ render gs := by
  simp [render]

theorem mem_render {a : Arg} {gs : List Group} : a ∈ render gs ↔ ∃ g ∈ gs, a ∈ g.render := by
  simp [render]

theorem group_miss_flag (k : Keys) (hk : k ∈ usedFlagKeys) (g : Group) (hc : g.clean = true)
    (hh : g.head ≠ k.first) : ∀ a ∈ g.render, missesFlag k a = true := by
  intro a ha
  cases g with
  | flag i =>
    simp only [Group.render, List.mem_singleton] at ha; subst ha
    exact tokens_miss_flag k hk _ i.tok_mem hh
  | opt i v =>
    simp only [Group.render, List.mem_cons, List.not_mem_nil, or_false] at ha
    rcases ha with rfl | rfl
    · exact tokens_miss_flag k hk _ i.tok_mem hh
    · exact clean_miss_flag k hk _ hc
  | extra x =>
    simp only [Group.render, List.mem_singleton] at ha; subst ha
    exact clean_miss_flag k hk _ hc

theorem group_miss_val (k : Keys) (hk : k ∈ usedValKeys) (g : Group) (hc : g.clean = true)
    (hh : g.head ≠ k.first) : ∀ a ∈ g.render, missesVal k a = true := by
  intro a ha
  cases g with
  | flag i =>
    simp only [Group.render, List.mem_singleton] at ha; subst ha
    exact tokens_miss_val k hk _ i.tok_mem hh
  | opt i v =>
    simp only [Group.render, List.mem_cons, List.not_mem_nil, or_false] at ha
    rcases ha with rfl | rfl
    · exact tokens_miss_val k hk _ i.tok_mem hh
    · exact clean_miss_val k hk _ hc
  | extra x =>
    simp only [Group.render, List.mem_singleton] at ha; subst ha
    exact clean_miss_val k hk _ hc

theorem extra_head_ne (k : Keys) (hk : k ∈ usedFlagKeys ++ usedValKeys) (x : Arg) (hx : noDash x = true) :
    x ≠ k.first := by
  intro h
  have := noDash_beq hx (keys_dash k hk).1
  simp [h] at this

theorem keys_first_ne_nil (k : Keys) (hk : k ∈ usedFlagKeys ++ usedValKeys) : k.first ≠ [] := by
  have := (keys_dash k hk).1
  intro h; simp [h] at this

theorem head_ne_of_ne_flag (k : Keys) (hk : k ∈ usedFlagKeys) (g : Group) (hc : g.clean = true)
    (h : ∀ i, flagIdOf k = some i → g ≠ .flag i) : g.head ≠ k.first := by
  cases g with
  | flag j => exact fun e => h j (flagIdOf_tok j k e.symm) rfl
  | opt j v => exact val_tok_ne_flag_key k hk j
  | extra x => exact extra_head_ne k (List.mem_append_left _ hk) x hc

theorem head_ne_of_optVal_none (k : Keys) (hk : k ∈ usedValKeys) (g : Group)
    (hx : ∀ x, g = .extra x → noDash x = true) (h : ∀ i, valIdOf k = some i → g.optVal i = none) :
    g.head ≠ k.first := by
  cases g with
  | flag j => exact flag_tok_ne_val_key k hk j
  | opt j v =>
    intro e
    have := h j (valIdOf_tok j k e.symm)
    simp [Group.optVal] at this
  | extra x => exact extra_head_ne k (List.mem_append_right _ hk) x (hx x rfl)

theorem optVal_eq_some {i : ValId} {g : Group} {v : Arg} (h : g.optVal i = some v) : g = .opt i v := by
  cases g with
  | flag j => cases h
  | extra x => cases h
  | opt j w =>
    simp only [Group.optVal] at h
    split at h
    · rename_i e; subst e; cases h; rfl
    · cases h

theorem WF.tail {g : Group} {gs : List Group} (h : WF (g :: gs)) : WF gs :=
  ⟨(List.nodup_cons.mp h.1).2, fun g' hg' => h.2 g' (List.mem_cons_of_mem _ hg')⟩

theorem picoContains_render (k : Keys) (hk : k ∈ usedFlagKeys) (gs : List Group) (hwf : WF gs) :
    picoContains k (render gs) = ((grpContains k gs).1, render (grpContains k gs).2) := by
  unfold grpContains
  cases hi : flagIdOf k with
  | none =>
    -- `--fallback-oob=`: no group is taken for it
    refine picoContains_miss k _ fun a ha => ?_
    obtain ⟨g, hg, hag⟩ := mem_render.mp ha
    exact group_miss_flag k hk g (hwf.2 g hg) (head_ne_of_ne_flag k hk g (hwf.2 g hg) (by simp [hi])) a hag
  | some i =>
    have hik : k.first = i.tok := (flagIdOf_some hi).symm
    induction gs with
    | nil => exact picoContains_nil _
    | cons g gs ih =>
      have hc := hwf.2 g (List.mem_cons_self ..)
      rw [render_cons]
      by_cases hg : g = .flag i
      · -- the group of the flag: no other group has its token
        subst hg
        have : gs.filter (fun g => !(g == Group.flag i)) = gs :=
          List.filter_eq_self.mpr fun g' hg' => by
            have : g' ≠ Group.flag i := fun e =>
              (List.nodup_cons.mp hwf.1).1 (List.mem_map_of_mem (f := Group.head) (e ▸ hg'))
            simpa using this
        rw [show (Group.flag i).render ++ render gs = k.first :: render gs by rw [hik]; rfl,
          picoContains_head _ _ (keys_first_ne_nil _ (List.mem_append_left _ hk))]
        simp [this]
      · rw [picoContains_append _ _ (group_miss_flag k hk g hc
            (head_ne_of_ne_flag k hk g hc fun j hj => by rw [hi] at hj; cases hj; exact hg)), ih hwf.tail]
        simp [hg, render_cons]

theorem picoOptValue_render_of (k : Keys) (hk : k ∈ usedValKeys) (gs : List Group)
    (hn : (gs.map Group.head).Nodup)
    (hmiss : ∀ g ∈ gs, (∀ i, valIdOf k = some i → g.optVal i = none) → ∀ a ∈ g.render, missesVal k a = true) :
    picoOptValue k (render gs) = mapOptValue render (grpOptValue k gs) := by
  unfold grpOptValue
  cases hi : valIdOf k with
  | none => exact absurd hi (valIdOf_used k hk)
  | some i =>
    have hik : k.first = i.tok := (valIdOf_some hi).symm
    dsimp only
    induction gs with
    | nil => exact picoOptValue_nil _
    | cons g gs ih =>
      rw [render_cons, List.findSome?_cons, List.filter_cons]
      cases hv : g.optVal i with
      | some v =>
        -- the group of the option: no other group has its token
        cases optVal_eq_some hv
        have : gs.filter (fun g => (g.optVal i).isNone) = gs :=
          List.filter_eq_self.mpr fun g' hg' => by
            cases hv' : g'.optVal i with
            | none => rfl
            | some w =>
              cases optVal_eq_some hv'
              exact absurd (List.mem_map_of_mem (f := Group.head) hg') (List.nodup_cons.mp hn).1
        rw [show (Group.opt i v).render ++ render gs = k.first :: v :: render gs by rw [hik]; rfl,
          picoOptValue_head _ _ _ (keys_first_ne_nil _ (List.mem_append_right _ hk))]
        simp [this, mapOptValue]
      | none =>
        rw [picoOptValue_append _ _ (hmiss g (List.mem_cons_self ..) fun j hj => by rw [hi] at hj; cases hj; exact hv),
          ih (List.nodup_cons.mp hn).2 fun g' hg' => hmiss g' (List.mem_cons_of_mem _ hg')]
        cases gs.findSome? (Group.optVal i) <;> simp [mapOptValue, render_cons]

theorem picoOptValue_render (k : Keys) (hk : k ∈ usedValKeys) (gs : List Group) (hwf : WF gs) :
    picoOptValue k (render gs) = mapOptValue render (grpOptValue k gs) :=
  picoOptValue_render_of k hk gs hwf.1 fun g hg hv =>
    group_miss_val k hk g (hwf.2 g hg)
      (head_ne_of_optVal_none k hk g (fun x e => by subst e; exact hwf.2 _ hg) hv)

theorem render_isEmpty (gs : List Group) : (render gs).isEmpty = gs.isEmpty := by
  cases gs with
  | nil => rfl
  | cons g gs => cases g <;> simp [render_cons, Group.render]

/-- what a canonical command line says, whatever the order: which flags are given, the value of each
    option given, and whether there is an argument that is no option -/
structure Table where
  flag : FlagId → Bool
  val : ValId → Option Arg
  extra : Bool

def Table.clearFlag (t : Table) (i : FlagId) : Table :=
  { t with flag := fun j => if j = i then false else t.flag j }

def Table.clearVal (t : Table) (i : ValId) : Table :=
  { t with val := fun j => if j = i then none else t.val j }

def Table.isEmpty (t : Table) : Bool :=
  allFlagIds.all (fun i => !t.flag i) && allValIds.all (fun i => (t.val i).isNone) && !t.extra

theorem Table.isEmpty_of_flag {t : Table} {i : FlagId} (h : t.flag i = true) : t.isEmpty = false := by
  have : allFlagIds.all (fun j => !t.flag j) = false := List.all_eq_false.mpr ⟨i, i.mem_all, by simp [h]⟩
  simp [Table.isEmpty, this]

theorem Table.isEmpty_of_val {t : Table} {i : ValId} {v : Arg} (h : t.val i = some v) : t.isEmpty = false := by
  have : allValIds.all (fun j => (t.val j).isNone) = false := List.all_eq_false.mpr ⟨i, i.mem_all, by simp [h]⟩
  simp [Table.isEmpty, this]

/-- the three lookups on a table: an option that is looked up is read and cleared -/
def tableOps : Ops Table where
  isEmpty := Table.isEmpty
  contains k t :=
    match flagIdOf k with
    | some i => (t.flag i, t.clearFlag i)
    | none => (false, t)
  optValue k t :=
    match valIdOf k with
    | some i =>
      match t.val i with
      | some v => .ok (some (v, t.clearVal i))
      | none => .ok none
    | none => .ok none

def Group.isExtra : Group → Bool
  | .extra _ => true
  | _ => false

/-- the table of a list of option groups (the first group of an option counts) -/
def tableOf (gs : List Group) : Table where
  flag i := gs.any (· == .flag i)
  val i := gs.findSome? (Group.optVal i)
  extra := gs.any Group.isExtra

theorem tableOf_append (a b : List Group) :
    tableOf (a ++ b) = ⟨fun i => (tableOf a).flag i || (tableOf b).flag i,
      fun i => ((tableOf a).val i).or ((tableOf b).val i), (tableOf a).extra || (tableOf b).extra⟩ := by
  simp only [tableOf, List.any_append, List.findSome?_append]

/-- what `parse_args` makes of a table of options -/
def parseTable (regexOk : Arg → Bool) (t : Table) : ArgvResult := (parseWith tableOps regexOk t).result

theorem findSome?_filter {α β : Type} (f : α → Option β) (p : α → Bool) (l : List α)
    (h : ∀ a, p a = false → f a = none) : (l.filter p).findSome? f = l.findSome? f := by
  induction l with
  | nil => rfl
  | cons a l ih =>
    rw [List.filter_cons]
    cases hp : p a with
    | true => simp only [if_true, List.findSome?_cons, ih]
    | false => simp [h a hp, ih]

theorem tableOf_filter_flag (gs : List Group) (i : FlagId) :
    tableOf (gs.filter (fun g => !(g == Group.flag i))) = (tableOf gs).clearFlag i := by
  simp only [tableOf, Table.clearFlag, Table.mk.injEq]
  refine ⟨?_, ?_, ?_⟩
  · funext i'
    rw [List.any_filter]
    by_cases e : i' = i
    · subst e; simp
    · simp only [e, if_false]
      congr 1; funext g
      cases hg : g == Group.flag i' with
      | false => simp
      | true =>
        have : g = Group.flag i' := by simpa using hg
        subst this
        simp [e]
  · funext i'
    apply findSome?_filter
    intro g hg
    have : g = Group.flag i := by simpa using hg
    subst this; rfl
  · rw [List.any_filter]
    congr 1; funext g
    cases g <;> simp [Group.isExtra]

theorem tableOf_filter_val (gs : List Group) (i : ValId) :
    tableOf (gs.filter (fun g => (g.optVal i).isNone)) = (tableOf gs).clearVal i := by
  simp only [tableOf, Table.clearVal, Table.mk.injEq]
  refine ⟨?_, ?_, ?_⟩
  · funext i'
    rw [List.any_filter]
    congr 1; funext g
    cases g <;> simp [Group.optVal]
  · funext i'
    by_cases e : i' = i
    · subst e
      simp only [if_true]
      rw [List.findSome?_eq_none_iff]
      intro g hg
      have := (List.mem_filter.mp hg).2
      simpa using this
    · simp only [e, if_false]
      apply findSome?_filter
      intro g hg
      cases g with
      | flag j => rfl
      | extra x => rfl
      | opt j v =>
        simp only [Group.optVal] at hg ⊢
        by_cases e2 : j = i
        · subst e2; simp [Ne.symm e]
        · simp [e2] at hg
  · rw [List.any_filter]
    congr 1; funext g
    cases g <;> simp [Group.isExtra, Group.optVal]

theorem tableOf_isEmpty (gs : List Group) : (tableOf gs).isEmpty = gs.isEmpty := by
  cases gs with
  | nil => rfl
  | cons g gs =>
    simp only [List.isEmpty_cons]
    cases g with
    | flag i => exact Table.isEmpty_of_flag (i := i) (by simp [tableOf])
    | opt i v => exact Table.isEmpty_of_val (i := i) (v := v) (by simp [tableOf, Group.optVal])
    | extra x => simp [Table.isEmpty, tableOf, Group.isExtra]

/-- `pico_args`' operations on a list of option groups (`grpContains`, `grpOptValue`).  Well-formedness
    is not part of the state: it is the invariant of `simB_parseWith`. -/
def rawOps : Ops (List Group) where
  isEmpty := List.isEmpty
  contains := grpContains
  optValue := grpOptValue

theorem hom_table_raw : Hom tableOps rawOps tableOf where
  isEmpty s := tableOf_isEmpty s
  contains k _ s := by
    simp only [tableOps, rawOps, grpContains]
    cases flagIdOf k with
    | some i => simp only [tableOf_filter_flag]; rfl
    | none => rfl
  optValue k _ s := by
    simp only [tableOps, rawOps, grpOptValue]
    cases valIdOf k with
    | none => rfl
    | some i =>
      have hv : (tableOf s).val i = s.findSome? (Group.optVal i) := rfl
      cases hf : s.findSome? (Group.optVal i) <;> simp only [hv, hf, mapOptValue, tableOf_filter_val]

theorem Step.result_map {σ₁ σ₂ : Type} (h : σ₂ → σ₁) (x : Step σ₂ ArgvResult) :
    (Step.map h x).result = x.result := by
  cases x <;> rfl

/-! ## `pico_args` on a command line of groups is `parse_args` on its table

`parse_args` consumes the values of `-f`, `-c`, `-b`, `-l` before it looks for `-h` / `--help` (with
pico_args' `combined-flags` the lookup of `-h`, when no argument is `-h` or `--help`, takes an `h`
out of the first argument that starts with one `-` and contains an `h` anywhere: a bounds value such
as `-1=hello` would be taken for a cluster with `h`).  So the
simulation is proved at once for command lines that are canonical EXCEPT that the values of
`-f -c -b -l` may start with `-` (`WFB`: such a value must only be invisible to the four bounds
lookups themselves, `quietVal`); a canonical command line is the special case (`WF.toWFB`).
-/

/-- the value is invisible to the lookups of `-f`, `-c`, `-b`, `-l`: it is none of `-f`, `--fields`, …
    and starts with none of `-f`, `--fields=`, … (e.g. `-1=hello`, `-2:-1`) -/
def quietVal (v : Arg) : Bool :=
  missesVal kFields v && missesVal kCharacters v && missesVal kBytes v && missesVal kLines v

theorem quietVal_miss {v : Arg} (hq : quietVal v = true) : ∀ i ∈ [ValId.f, .c, .b, .l], missesVal i.keys v = true := by
  intro i hi
  simp only [quietVal, Bool.and_eq_true] at hq
  simp only [List.mem_cons, List.not_mem_nil, or_false] at hi
  rcases hi with rfl | rfl | rfl | rfl
  · exact hq.1.1.1
  · exact hq.1.1.2
  · exact hq.1.2
  · exact hq.2

/-- canonical, except that the value of an option of `S` may start with `-` when it is `quietVal` -/
def Group.cleanB (S : List ValId) : Group → Bool
  | .flag _ => true
  | .opt i v => noDash v || (S.contains i && quietVal v)
  | .extra a => noDash a

def WFB (S : List ValId) (gs : List Group) : Prop :=
  (gs.map Group.head).Nodup ∧ ∀ g ∈ gs, g.cleanB S = true

instance (S : List ValId) (gs : List Group) : Decidable (WFB S gs) := by unfold WFB; infer_instance

theorem Group.cleanB_nil (g : Group) : g.cleanB [] = g.clean := by
  cases g <;> simp [Group.cleanB, Group.clean]

theorem WFB.toWF {gs : List Group} (h : WFB [] gs) : WF gs :=
  ⟨h.1, fun g hg => by rw [← g.cleanB_nil]; exact h.2 g hg⟩

theorem WF.toWFB {gs : List Group} (h : WF gs) (S : List ValId) : WFB S gs := by
  refine ⟨h.1, fun g hg => ?_⟩
  have := h.2 g hg
  cases g <;> simp_all [Group.cleanB, Group.clean]

theorem WFB.filter {S : List ValId} {gs : List Group} (h : WFB S gs) (p : Group → Bool) : WFB S (gs.filter p) := by
  refine ⟨?_, fun g hg => h.2 g (List.mem_filter.mp hg).1⟩
  exact List.Nodup.sublist (List.Sublist.map _ List.filter_sublist) h.1

theorem group_miss_valB (i : ValId) (hi : i ∈ [ValId.f, .c, .b, .l]) {S : List ValId} (g : Group)
    (hc : g.cleanB S = true) (hh : g.head ≠ i.tok) : ∀ a ∈ g.render, missesVal i.keys a = true := by
  cases g with
  | flag j => exact group_miss_val _ i.keys_used _ rfl hh
  | extra x => exact group_miss_val _ i.keys_used _ hc hh
  | opt j v =>
    simp only [Group.cleanB, Bool.or_eq_true, Bool.and_eq_true] at hc
    rcases hc with hc | ⟨-, hq⟩
    · exact group_miss_val _ i.keys_used _ hc hh
    · intro a ha
      simp only [Group.render, List.mem_cons, List.not_mem_nil, or_false] at ha
      rcases ha with rfl | rfl
      · exact tokens_miss_val _ i.keys_used _ j.tok_mem hh
      · exact quietVal_miss hq i hi

theorem picoOptValue_renderB (i : ValId) (hi : i ∈ [ValId.f, .c, .b, .l]) (S : List ValId) (gs : List Group)
    (hwf : WFB S gs) : picoOptValue i.keys (render gs) = mapOptValue render (grpOptValue i.keys gs) :=
  picoOptValue_render_of _ i.keys_used gs hwf.1 fun g hg hv =>
    group_miss_valB i hi g (hwf.2 g hg)
      (head_ne_of_optVal_none _ i.keys_used g (fun x e => by subst e; exact hwf.2 _ hg) hv)

theorem Group.cleanB_drop {i : ValId} {S : List ValId} {g : Group} (hc : g.cleanB (i :: S) = true)
    (h : g.optVal i = none) : g.cleanB S = true := by
  cases g with
  | flag j => rfl
  | extra x => exact hc
  | opt j v =>
    have hji : j ≠ i := by
      intro e; subst e
      simp [Group.optVal] at h
    simp only [Group.cleanB, List.contains_cons, Bool.or_eq_true, Bool.and_eq_true, beq_iff_eq] at hc ⊢
    rcases hc with hc | ⟨hc | hc, hq⟩
    · exact Or.inl hc
    · exact absurd hc hji
    · exact Or.inr ⟨hc, hq⟩

theorem WFB.drop {i : ValId} {S : List ValId} {gs : List Group} (hwf : WFB (i :: S) gs) :
    WFB S (gs.filter fun g => (g.optVal i).isNone) := by
  refine ⟨(hwf.filter _).1, fun g hg => ?_⟩
  obtain ⟨hg1, hg2⟩ := List.mem_filter.mp hg
  exact Group.cleanB_drop (hwf.2 g hg1) (by simpa using hg2)

theorem WFB.drop_none {i : ValId} {S : List ValId} {gs : List Group} (hwf : WFB (i :: S) gs)
    (h : gs.findSome? (Group.optVal i) = none) : WFB S gs :=
  ⟨hwf.1, fun g hg => Group.cleanB_drop (hwf.2 g hg) (List.findSome?_eq_none_iff.mp h g hg)⟩

theorem grpOptValue_post {J : List Group → Prop} (k : Keys) (gs : List Group)
    (hnone : (∀ i, valIdOf k = some i → gs.findSome? (Group.optVal i) = none) → J gs)
    (hsome : ∀ i, valIdOf k = some i → J (gs.filter fun g => (g.optVal i).isNone)) :
    ValuePost J gs (grpOptValue k gs) := by
  unfold grpOptValue
  cases hi : valIdOf k with
  | none => exact hnone fun i h => by rw [hi] at h; cases h
  | some i =>
    dsimp only
    cases hv : gs.findSome? (Group.optVal i) with
    | none => exact hnone fun j h => by rw [hi] at h; cases h; exact hv
    | some v => exact hsome i hi

/-- the BOUNDS values may start with `-`: they are consumed before any flag is looked up -/
theorem simB_parseWith (regexOk : Arg → Bool) (gs : List Group) (hwf : WFB [.f, .c, .b, .l] gs) :
    parseWith picoOps regexOk (render gs) = Step.map render (parseWith rawOps regexOk gs) :=
  have contains k (hk : k ∈ usedFlagKeys) gs (hwf : WFB [] gs) : FlagSim render picoOps rawOps k gs (WFB []) :=
    ⟨picoContains_render k hk gs hwf.toWF, by
      show WFB [] (grpContains k gs).2
      unfold grpContains
      split
      · exact hwf.filter _
      · exact hwf⟩
  (SimE.parseWith (I := WFB) (E := fun _ => True) regexOk trivial trivial trivial (fun _ gs _ => render_isEmpty gs)
    (fun i _ hi gs hwf =>
      have hik : valIdOf i.keys = some i := valIdOf_tok i _ rfl
      ⟨picoOptValue_renderB i hi _ gs hwf,
        grpOptValue_post _ gs (fun h => hwf.drop_none (h i hik)) fun j hj => by cases hik.symm.trans hj; exact hwf.drop⟩)
    (fun i => contains _ i.keys_used) (contains _ (by decide))
    (fun i gs hwf =>
      ⟨picoOptValue_render _ i.keys_used gs hwf.toWF, grpOptValue_post _ gs (fun _ => hwf) fun _ _ => hwf.filter _⟩)
    gs hwf).1

theorem parseArgv_renderB (regexOk : Arg → Bool) (gs : List Group) (hwf : WFB [.f, .c, .b, .l] gs) :
    parseArgv regexOk (render gs) = parseTable regexOk (tableOf gs) := by
  have h1 := simB_parseWith regexOk gs hwf
  have h2 := hom_table_raw.parseWith regexOk gs
  simp only [parseArgv, parseTable] at *
  rw [h1, h2, Step.result_map, Step.result_map]

theorem parseArgv_render (regexOk : Arg → Bool) (gs : List Group) (hwf : WF gs) :
    parseArgv regexOk (render gs) = parseTable regexOk (tableOf gs) :=
  parseArgv_renderB regexOk gs (hwf.toWFB _)

theorem WF.perm {gs gs' : List Group} (h : gs.Perm gs') (hwf : WF gs) : WF gs' :=
  ⟨(h.map Group.head).nodup hwf.1, fun g hg => hwf.2 g (h.mem_iff.mpr hg)⟩

theorem mem_of_tableOf_val {gs : List Group} {i : ValId} {v : Arg} (h : (tableOf gs).val i = some v) :
    Group.opt i v ∈ gs := by
  obtain ⟨g, hg, hv⟩ := List.exists_of_findSome?_eq_some h
  cases optVal_eq_some hv
  exact hg

theorem tableOf_val_of_mem {gs : List Group} (hn : (gs.map Group.head).Nodup) (i : ValId) (v : Arg)
    (h : Group.opt i v ∈ gs) : (tableOf gs).val i = some v := by
  show gs.findSome? (Group.optVal i) = some v
  induction gs with
  | nil => cases h
  | cons g gs ih =>
    rw [List.findSome?_cons]
    rcases List.mem_cons.mp h with e | h'
    · subst e; simp [Group.optVal]
    · cases hv : g.optVal i with
      | none => exact ih (List.nodup_cons.mp hn).2 h'
      | some w =>
        -- a second group of the same option
        cases optVal_eq_some hv
        exact absurd (List.mem_map_of_mem (f := Group.head) h') (List.nodup_cons.mp hn).1

theorem tableOf_val_eq_some_iff {gs : List Group} (hwf : WF gs) (i : ValId) (v : Arg) :
    (tableOf gs).val i = some v ↔ Group.opt i v ∈ gs :=
  ⟨mem_of_tableOf_val, tableOf_val_of_mem hwf.1 i v⟩

theorem Table.ext' {t t' : Table} (hf : t.flag = t'.flag) (hv : t.val = t'.val) (he : t.extra = t'.extra) :
    t = t' := by
  cases t; cases t'; simp_all

theorem tableOf_perm {gs gs' : List Group} (h : gs.Perm gs') (hwf : WF gs) : tableOf gs = tableOf gs' := by
  refine Table.ext' (funext fun i => h.any_eq) (funext fun i => Option.ext fun v => ?_) h.any_eq
  rw [tableOf_val_eq_some_iff hwf, tableOf_val_eq_some_iff (hwf.perm h), h.mem_iff]

/-- **Order independence.**  On a canonical command line (every option at most once, as separate
    arguments, values and stray arguments not starting with `-`) any permutation of the option
    groups — an option together with its value — gives the same result of `parse_args`. -/
theorem parseArgv_perm (regexOk : Arg → Bool) (gs gs' : List Group) (hwf : WF gs) (h : gs.Perm gs') :
    parseArgv regexOk (render gs) = parseArgv regexOk (render gs') := by
  rw [parseArgv_render regexOk gs hwf, parseArgv_render regexOk gs' (hwf.perm h), tableOf_perm h hwf]

/-- `m` never ends in `panic`, and what it returns satisfies `Q` -/
def Safe {σ α : Type} (m : P σ α) (Q : α → Prop) : Prop :=
  ∀ s, match m s with
    | .done r => r ≠ .panic
    | .next a _ => Q a

theorem Safe.unwrap {σ α : Type} (o : Option α) (h : o.isSome = true) : Safe (P.unwrap o : P σ α) (fun _ => True) := by
  intro s
  cases o with
  | none => cases h
  | some a => trivial

/-- **What `parse_args` guarantees of its result**, whatever the arguments: no `unwrap`/`expect` of it
    fails, and an `Opt` it returns carries bounds that came out of `UserBoundsList::from_str`, next to the
    flag `opt.fixed_memory.is_some()`. -/
theorem parseArgv_spec (regexOk : Arg → Bool) (argv : List Arg) :
    parseArgv regexOk argv ≠ .panic ∧
      ∀ o fm rt, parseArgv regexOk argv = .run o fm rt → FromParser o.bounds ∧ o.fixedMemory.isSome = fm := by
  unfold parseArgv
  -- the early exits satisfy the postcondition itself
  exact ((parseWith_spec picoOps regexOk
    (E := fun r => r ≠ .panic ∧ ∀ o fm rt, r = .run o fm rt → FromParser o.bounds ∧ o.fixedMemory.isSome = fm)
    ⟨nofun, fun _ _ _ h => nomatch h⟩ ⟨nofun, fun _ _ _ h => nomatch h⟩ ⟨nofun, fun _ _ _ h => nomatch h⟩).result
      argv trivial).elim id id

/-- **No `unwrap`/`expect` of `parse_args` can fail**, whatever the arguments. -/
theorem parseArgv_total (regexOk : Arg → Bool) (argv : List Arg) : parseArgv regexOk argv ≠ .panic :=
  (parseArgv_spec regexOk argv).1

/-- no arguments: the short help, exit 0 -/
theorem parseArgv_nil (regexOk : Arg → Bool) : parseArgv regexOk [] = .help := rfl

/-- a rejection is final: nothing is run (exit 1 with nothing on stdout) -/
theorem parseArgv_reject_no_run (regexOk : Arg → Bool) (argv : List Arg) (h : parseArgv regexOk argv = .reject)
    (o : Opt) (fm : Bool) (re : Option Arg) : parseArgv regexOk argv ≠ .run o fm re := by
  rw [h]; intro h'; cases h'

@[simp] theorem Table.clearFlag_flag (t : Table) (i j : FlagId) :
    (t.clearFlag i).flag j = if j = i then false else t.flag j := rfl
@[simp] theorem Table.clearFlag_val (t : Table) (i : FlagId) : (t.clearFlag i).val = t.val := rfl
@[simp] theorem Table.clearFlag_extra (t : Table) (i : FlagId) : (t.clearFlag i).extra = t.extra := rfl
@[simp] theorem Table.clearVal_val (t : Table) (i j : ValId) :
    (t.clearVal i).val j = if j = i then none else t.val j := rfl
@[simp] theorem Table.clearVal_flag (t : Table) (i : ValId) : (t.clearVal i).flag = t.flag := rfl
@[simp] theorem Table.clearVal_extra (t : Table) (i : ValId) : (t.clearVal i).extra = t.extra := rfl

theorem Table.ite_val (c : Prop) [Decidable c] (a b : Table) (j : ValId) :
    (if c then a else b).val j = if c then a.val j else b.val j := apply_ite (Table.val · j) c a b

theorem Table.ite_flag (c : Prop) [Decidable c] (a b : Table) (j : FlagId) :
    (if c then a else b).flag j = if c then a.flag j else b.flag j := apply_ite (Table.flag · j) c a b

theorem Table.clearVal_of_none (t : Table) (i : ValId) (h : t.val i = none) : t.clearVal i = t := by
  cases t with
  | mk f v x =>
    simp only [Table.clearVal, Table.mk.injEq, true_and, and_true]
    funext j
    by_cases e : j = i
    · subst e; simp [h.symm]
    · simp [e]

theorem tflag_bind {β : Type} (k : Keys) (i : FlagId) (h : k.first = i.tok) (f : Bool → P Table β)
    (t : Table) : (tableOps.flag k >>= f) t = f (t.flag i) (t.clearFlag i) := by
  show P.bind _ _ _ = _
  simp only [P.bind, Ops.flag, tableOps, flagIdOf_tok i k h]

def refused {α : Type} (f : Arg → Res α) (v : Arg) : Bool := !(f v).isOk

theorem any_refused {α : Type} {f : Arg → Res α} {o : Option Arg} :
    o.any (refused f) = false ↔ ∀ v, o = some v → (f v).isOk = true := by
  cases o with
  | none => exact ⟨fun _ _ h => (nomatch h), fun _ => rfl⟩
  | some w => simp [refused]

theorem bind_toOption {α : Type} {f : Arg → Res α} {o : Option Arg} (h : o.any (refused f) = false) :
    ∀ v, o = some v → ∃ a, f v = .ok a ∧ (o.bind fun v => (f v).toOption) = some a := by
  intro v hv
  obtain ⟨a, ha⟩ := Res.exists_ok (any_refused.mp h v hv)
  exact ⟨a, ha, by rw [hv, Option.bind_some, ha]; rfl⟩

theorem bind_toOption_isSome {α : Type} {f : Arg → Res α} {o : Option Arg} (h : o.any (refused f) = false) :
    (o.bind fun v => (f v).toOption).isSome = o.isSome := by
  cases ho : o with
  | none => rfl
  | some v => obtain ⟨a, -, e⟩ := bind_toOption h v ho; rw [← ho, e, ho]; rfl

theorem tvalue_bind {α β : Type} (k : Keys) (i : ValId) (h : k.first = i.tok) (f : Arg → Res α)
    (hp : ∀ v, f v ≠ .panic) (cont : Option α → P Table β) (t : Table) :
    (tableOps.value k f >>= cont) t =
      if (t.val i).any (refused f) = true then .done .reject
      else cont ((t.val i).bind fun v => (f v).toOption) (t.clearVal i) := by
  show P.bind _ _ _ = _
  have h := valIdOf_tok i k h
  cases hv : t.val i with
  | none => simp [P.bind, Ops.value, tableOps, h, hv, Table.clearVal_of_none t i hv]
  | some v =>
    cases hf : f v with
    | panic => exact absurd hf (hp v)
    | _ => simp [P.bind, Ops.value, tableOps, h, hv, hf, refused, Res.isOk, Res.toOption]

theorem ite_tvalue_bind {α β : Type} (c : Prop) [Decidable c] (k : Keys) (i : ValId) (h : k.first = i.tok)
    (f : Arg → Res α) (hp : ∀ v, f v ≠ .panic) (cont : Option α → P Table β) (t : Table) :
    ((if c then tableOps.value k f else pure none) >>= cont) t =
      if (if c then t.val i else none).any (refused f) = true then .done .reject
      else cont ((if c then t.val i else none).bind fun v => (f v).toOption) (if c then t.clearVal i else t) := by
  by_cases hc : c <;> simp only [hc, if_true, if_false]
  · exact tvalue_bind k i h f hp cont t
  · rfl

theorem ite_pure_tvalue_bind {α β : Type} (c : Prop) [Decidable c] (x : Option α) (k : Keys) (i : ValId)
    (h : k.first = i.tok) (f : Arg → Res α) (hp : ∀ v, f v ≠ .panic) (cont : Option α → P Table β) (t : Table) :
    ((if c then pure x else tableOps.value k f) >>= cont) t =
      if (if c then none else t.val i).any (refused f) = true then .done .reject
      else cont (if c then x else (t.val i).bind fun v => (f v).toOption) (if c then t else t.clearVal i) := by
  by_cases hc : c <;> simp only [hc, if_true, if_false]
  · rfl
  · exact tvalue_bind k i h f hp cont t

theorem boundsArg_ne_panic (v : Arg) : boundsArg v ≠ .panic := boundsListOfString_never_panics v

theorem any_refused_strArg (o : Option Arg) : o.any (refused strArg) = false := by cases o <;> rfl

theorem bind_strArg (o : Option Arg) : (o.bind fun v => (strArg v).toOption) = o := by cases o <;> rfl

theorem unwrap_bind_any {σ α β : Type} (o : Option α) (cont : α → P σ β) (s : σ) :
    (P.unwrap o >>= cont) s = match o with | some a => cont a s | none => .done .panic := by
  cases o <;> rfl

theorem ite_unwrap_bind {σ α β : Type} (c : Prop) [Decidable c] (a b : α) (cont : α → P σ β) (s : σ) :
    ((if c then P.unwrap (some a) else pure b) >>= cont) s = cont (if c then a else b) s := by
  by_cases hc : c <;> simp only [hc, if_true, if_false] <;> rfl

theorem tfallback_bind {β : Type} (cont : Option Arg → P Table β) (t : Table) :
    (tableOps.fallbackOob >>= cont) t = cont (t.val .fallback) (t.clearVal .fallback) := by
  show P.bind _ _ _ = _
  have h : valIdOf kFallback = some .fallback := valIdOf_tok .fallback _ rfl
  simp only [P.bind, Ops.fallbackOob, tableOps, h]
  cases hv : t.val .fallback with
  | none => simp [Table.clearVal_of_none t _ hv]
  | some v => simp

theorem ttest_bind {β : Type} (cont : Bool → P Table β) (t : Table) :
    (P.test tableOps.isEmpty >>= cont) t = cont t.isEmpty t := rfl

theorem exitIf_bind {σ β : Type} (c : Bool) (r : ArgvResult) (cont : Unit → P σ β) (s : σ) :
    (P.exitIf c r >>= cont) s = if c = true then .done r else cont () s := by
  show P.bind _ _ _ = _
  unfold P.bind P.exitIf
  cases c <;> rfl

theorem pure_bind' {σ α β : Type} (a : α) (cont : α → P σ β) (s : σ) :
    ((pure a : P σ α) >>= cont) s = cont a s := rfl

theorem unwrap_bind {σ α β : Type} (a : α) (cont : α → P σ β) (s : σ) :
    (P.unwrap (some a) >>= cont) s = cont a s := rfl

theorem ite_bind {σ α β : Type} (c : Prop) [Decidable c] (m₁ m₂ : P σ α) (cont : α → P σ β) (s : σ) :
    ((if c then m₁ else m₂) >>= cont) s = if c then (m₁ >>= cont) s else (m₂ >>= cont) s := by
  by_cases h : c <;> simp [h]

-- called by no proof: the run of `parse_args` on a table is made once, in `parseTable_closed`
macro "table_walk" Hf:term "," Hc:term "," Hb:term "," Hl:term "," HM:term "," Ht:term "," facts:Lean.Parser.Tactic.simpLemma,* : tactic => `(tactic| (
  unfold parseWith
  simp only [ttest_bind, exitIf_bind]
  rw [tvalue_bind _ _ vid_f _ _ _ (by intro v hv; exact $Hf v hv)]
  rw [tvalue_bind _ _ vid_c _ _ _ (by intro v hv; simp at hv; exact $Hc v hv)]
  rw [tvalue_bind _ _ vid_b _ _ _ (by intro v hv; simp at hv; exact $Hb v hv)]
  rw [tvalue_bind _ _ vid_l _ _ _ (by intro v hv; simp at hv; exact $Hl v hv)]
  simp only [tflag_bind _ _ fid_help, exitIf_bind]
  simp only [Table.clearVal_val, Table.clearFlag_val, $facts,*, reduceCtorEq, if_false, Option.bind_none,
    Option.bind_some, Res.toOption, Option.map_some, Option.isSome_none, Option.isSome_some,
    Bool.not_false, Bool.not_true, Bool.and_self, Bool.and_false, Bool.false_and, Bool.true_and, Bool.and_true,
    if_true, unwrap_bind, pure_bind', exitIf_bind, Bool.false_eq_true]
  try rw [tvalue_bind _ _ vid_d _ _ _ (fun v _ => strArg_isOk v)]
  simp only [tflag_bind _ _ fid_g]
  rw [tvalue_bind _ _ vid_r _ _ _ (fun v _ => strArg_isOk v)]
  rw [tvalue_bind _ _ vid_M _ _ _ (by intro v hv; simp at hv; exact $HM v hv)]
  simp only [exitIf_bind, tflag_bind _ _ fid_json, tflag_bind _ _ fid_j, tflag_bind _ _ fid_noJoin, pure_bind']
  try rw [tvalue_bind _ _ vid_e _ _ _ (fun v _ => strArg_isOk v)]
  simp only [exitIf_bind, unwrap_bind, Option.or_some, Option.or_none, Option.none_or, tflag_bind _ _ fid_m, tflag_bind _ _ fid_s,
    tflag_bind _ _ fid_p, tflag_bind _ _ fid_V, tflag_bind _ _ fid_z]
  rw [tvalue_bind _ _ vid_t _ _ _ (by intro v hv; simp at hv; exact $Ht v hv)]
  simp only [tfallback_bind, ttest_bind, exitIf_bind]))

def widthOf : Option Arg → Width
  | none => .absent
  | some v => if (utf8 v).length = 1 then .one else .other

/-- which of `-f` / `-b` / `-c` / `-l` is given (in the priority order of `parse_args`) -/
def Table.mode (t : Table) : Mode :=
  if (t.val .f).isSome then .f else if (t.val .b).isSome then .b else if (t.val .c).isSome then .c
  else if (t.val .l).isSome then .l else .dflt

/-- the text of the bounds in force (`1:` when none of `-f -c -b -l` is given) -/
def Table.boundsText (t : Table) : Arg :=
  ((t.val .f).or ((t.val .c).or ((t.val .b).or (t.val .l)))).getD ['1', ':']

def memOf : Option Arg → MemArg
  | none => .absent
  | some v =>
    match parseUsize v with
    | some 0 => .zero
    | some _ => .pos
    | none => .absent

/-- the abstraction of `Tuc.Model.Args`: what the decision logic sees of the options given -/
def flagsOf (t : Table) : Flags where
  mode := t.mode
  d := widthOf (t.val .d)
  e := (t.val .e).isSome
  g := t.flag .g
  p := t.flag .p
  s := t.flag .s
  z := t.flag .z
  m := t.flag .m
  j := t.flag .j
  noJoin := t.flag .noJoin
  json := t.flag .json
  r := widthOf (t.val .r)
  t := (t.val .t).isSome
  fallback := (t.val .fallback).isSome
  mem := memOf (t.val .M)
  fmt := match boundsListOfString t.boundsText with
    | .ok l => l.list.any isFiller
    | _ => false
  fwd := match boundsListOfString t.boundsText with
    | .ok l => (forwardBoundsOf l).isSome
    | _ => false
  extra := t.extra

/-- the hypotheses under which the option-set abstraction says everything: at most one of
    `-f -c -b -l`, every value parses, the regex compiles, no `-h` / `-V`, something is given -/
structure Sensible (regexOk : Arg → Bool) (t : Table) : Prop where
  nonempty : t.isEmpty = false
  noHelp : t.flag .help = false
  noVersion : t.flag .V = false
  oneMode :
    (t.val .c = none ∧ t.val .b = none ∧ t.val .l = none) ∨ (t.val .f = none ∧ t.val .b = none ∧ t.val .l = none) ∨
    (t.val .f = none ∧ t.val .c = none ∧ t.val .l = none) ∨ (t.val .f = none ∧ t.val .c = none ∧ t.val .b = none)
  bounds : (boundsListOfString t.boundsText).isOk = true
  mem : ∀ v, t.val .M = some v → (parseUsize v).isSome = true
  trim : ∀ v, t.val .t = some v → (trimArg v).isOk = true
  regex : ∀ v, t.val .e = some v → regexOk v = true
  charsRegex : regexOk charsRegexText = true

theorem usizeArg_isOk (v : Arg) (h : (parseUsize v).isSome = true) : (usizeArg v).isOk = true := by
  unfold usizeArg; cases hp : parseUsize v with
  | none => rw [hp] at h; cases h
  | some n => rfl

theorem markLast_ne_nil (l l' : List BoF) (h : markLast l = some l') : l'.isEmpty = false := by
  have := markLast_some_bounds l l' h
  cases l' with
  | nil => exact absurd rfl this
  | cons a t => rfl

/-- a parsed bounds list is not empty (the "invariant error" of `parse_args` cannot happen) -/
theorem boundsListOfString_nonempty (s : Arg) (l : UserBoundsList) (h : boundsListOfString s = .ok l) :
    l.list.isEmpty = false := by
  have := boundsListOfString_ok_has_bound s l h
  cases hl : l.list with
  | nil => rw [hl] at this; exact absurd rfl this
  | cons a t => rfl

@[simp] theorem widthOf_none : widthOf none = .absent := rfl
@[simp] theorem widthOf_some_ne (v : Arg) : (widthOf (some v) = .absent) = False := by
  simp only [widthOf, eq_iff_iff, iff_false]; split <;> simp

@[simp] theorem Step.result_done {σ : Type} (r : ArgvResult) : (Step.done r : Step σ ArgvResult).result = r := rfl
@[simp] theorem Step.result_next {σ : Type} (r : ArgvResult) (s : σ) : (Step.next r s).result = r := rfl
theorem Step.result_ite {σ : Type} (c : Prop) [Decidable c] (a b : Step σ ArgvResult) :
    (if c then a else b).result = if c then a.result else b.result := by
  by_cases h : c <;> simp [h]

def boundsTypeOf : Mode → BoundsType
  | .f => .fields
  | .dflt => .fields
  | .c => .characters
  | .b => .bytes
  | .l => .lines

/-- the parsed bounds in force -/
def Table.bounds (t : Table) : UserBoundsList :=
  match boundsListOfString t.boundsText with
  | .ok l => l
  | _ => ⟨[], .cont⟩

/-- `-M`'s value in KiB -/
def Table.memKb (t : Table) : Option Nat := (t.val .M).bind fun v => (usizeArg v).toOption

/-- the text of the regex: `-e`'s value, or the fixed one of `-c` -/
def Table.regexText (t : Table) : Option Arg :=
  if t.mode = .c then some charsRegexText else t.val .e

/-- **the `Opt` that `parse_args` builds**, in closed form -/
def optOf (t : Table) : Opt :=
  { delimiter :=
      if boundsTypeOf t.mode = .lines then [(if t.flag .z = true then EOL.zero else EOL.newline).byte]
      else if boundsTypeOf t.mode = .fields then (match t.val .d with | some x => utf8 x | none => [9])
      else []
    eol := if t.flag .z = true then .zero else .newline
    bounds := t.bounds
    boundsType := boundsTypeOf t.mode
    onlyDelimited := t.flag .s
    greedyDelimiter := t.flag .g
    compressDelimiter := t.flag .p
    replaceDelimiter :=
      if t.flag .json = true then some [44]
      else if boundsTypeOf t.mode = .characters then some []
      else (t.val .r).map utf8
    trim := (t.val .t).bind fun v => (trimArg v).toOption
    complement := t.flag .m
    join := t.flag .j || t.flag .json || (t.val .r).isSome || (boundsTypeOf t.mode = .lines && !t.flag .noJoin)
      || boundsTypeOf t.mode = .characters
    json := t.flag .json
    fixedMemory := t.memKb.map saturatingMul1024
    fallbackOob := (t.val .fallback).map utf8
    regexBag := none }

/-- what `parse_args` answers on a sensible table -/
def tableAnswer (t : Table) : ArgvResult :=
  if upFrontReject (flagsOf t) = true then .reject else .run (optOf t) t.memKb.isSome t.regexText

def memOfNat : Option Nat → MemArg
  | none => .absent
  | some 0 => .zero
  | some _ => .pos

theorem memOf_eq (o : Option Arg) (h : ∀ v, o = some v → (parseUsize v).isSome = true) :
    memOf o = memOfNat (o.bind fun v => (usizeArg v).toOption) := by
  cases o with
  | none => rfl
  | some v =>
    have := h v rfl
    simp only [memOf, usizeArg, Option.bind_some]
    cases hp : parseUsize v with
    | none => rw [hp] at this; cases this
    | some n => cases n <;> rfl

theorem memOf_zero (o : Option Arg) :
    (memOf o = .zero) = ((o.bind fun v => (usizeArg v).toOption) = some 0) := by
  cases o with
  | none => simp [memOf]
  | some v =>
    simp only [memOf, usizeArg, Option.bind_some]
    cases hp : parseUsize v with
    | none => simp [Res.toOption]
    | some n => cases n <;> simp [Res.toOption]

theorem widthOf_ne_absent (o : Option Arg) : decide (¬widthOf o = .absent) = o.isSome := by
  cases o <;> simp

theorem Table.bounds_eq {t : Table} (hb : (boundsListOfString t.boundsText).isOk = true) :
    boundsListOfString t.boundsText = .ok t.bounds := by
  obtain ⟨a, h⟩ := Res.exists_ok hb
  rw [Table.bounds, h]

theorem ite_reject_or (a b : Bool) (x : ArgvResult) :
    (if a = true then .reject else if b = true then .reject else x) = if (a || b) = true then .reject else x := by
  cases a <;> rfl

theorem or_isSome_ite (c : Bool) {α : Type} (x : α) (o : Option α) :
    (c || (if c = true then some x else o).isSome) = (c || o.isSome) := by
  cases c <;> rfl

theorem Table.boundsType_eq (t : Table) :
    (if (t.val .f).isSome = true then BoundsType.fields else if (t.val .b).isSome = true then .bytes
      else if (t.val .c).isSome = true then .characters else if (t.val .l).isSome = true then .lines else .fields) =
      boundsTypeOf t.mode := by
  unfold Table.mode
  cases (t.val .f).isSome <;> cases (t.val .b).isSome <;> cases (t.val .c).isSome <;> cases (t.val .l).isSome <;> rfl

theorem Table.default_eq (t : Table) :
    (!(t.val .f).isSome && !(t.val .b).isSome && !(t.val .c).isSome && !(t.val .l).isSome) =
      decide (t.mode = .dflt) := by
  unfold Table.mode
  cases (t.val .f).isSome <;> cases (t.val .b).isSome <;> cases (t.val .c).isSome <;> cases (t.val .l).isSome <;> rfl

/-- the bounds stage when every value of `-f -c -b -l` parses: the bounds in force parse to `t.bounds`; `-f`'s
    parse; `maybe_fields.or(maybe_characters)…` after the default step -/
theorem Table.parsedBounds (t : Table) (l1 : UserBoundsList) (h1 : boundsListOfString ['1', ':'] = .ok l1)
    (hf : (t.val .f).any (refused boundsArg) = false) (hc : (t.val .c).any (refused boundsArg) = false)
    (hb : (t.val .b).any (refused boundsArg) = false) (hl : (t.val .l).any (refused boundsArg) = false) :
    boundsListOfString t.boundsText = .ok t.bounds ∧
    ((t.val .f).bind fun v => (boundsArg v).toOption) = (if t.mode = .f then some t.bounds else none) ∧
    ((if decide (t.mode = .dflt) = true then some l1 else (t.val .f).bind fun v => (boundsArg v).toOption).or
      (((t.val .c).bind fun v => (boundsArg v).toOption).or (((t.val .b).bind fun v => (boundsArg v).toOption).or
        ((t.val .l).bind fun v => (boundsArg v).toOption)))) = some t.bounds := by
  unfold Table.bounds Table.boundsText Table.mode
  cases hvf : t.val .f with
  | some v => obtain ⟨a, ha, hg⟩ := bind_toOption hf v hvf; rw [hvf] at hg; simp [hg, show boundsListOfString v = .ok a from ha]
  | none =>
    cases hvc : t.val .c with
    | some v =>
      obtain ⟨a, ha, hg⟩ := bind_toOption hc v hvc
      rw [hvc] at hg
      cases (t.val .b).isSome <;> simp [hg, show boundsListOfString v = .ok a from ha]
    | none =>
      cases hvb : t.val .b with
      | some v => obtain ⟨a, ha, hg⟩ := bind_toOption hb v hvb; rw [hvb] at hg; simp [hg, show boundsListOfString v = .ok a from ha]
      | none =>
        cases hvl : t.val .l with
        | some v => obtain ⟨a, ha, hg⟩ := bind_toOption hl v hvl; rw [hvl] at hg; simp [hg, show boundsListOfString v = .ok a from ha]
        | none => simp [h1]

/-- the conflicts between options that `parse_args` notices while it reads them (the first part of
    `upFrontReject`; `--json` with format text comes later, after the regex is compiled) -/
def Flags.clashWhileReading (f : Flags) : Bool :=
  f.mem = .zero || (f.j && f.noJoin) || (f.json && f.noJoin) || (f.r ≠ .absent && f.noJoin) ||
  (f.r ≠ .absent && f.json) || (f.mode = .c && f.noJoin) || (f.json && !(f.mode = .c || f.isFields))

/-- what only `pargs.finish()` notices: an option that was not looked up, a stray argument (the end of
    `upFrontReject`) -/
def Flags.leftOver (f : Flags) : Bool :=
  (f.d ≠ .absent && !f.isFields) || (f.e && f.mode = .c) || f.extra

theorem upFrontReject_eq (f : Flags) : upFrontReject f = (f.clashWhileReading || (f.json && f.fmt) || f.leftOver) := by
  simp only [upFrontReject, Flags.clashWhileReading, Flags.leftOver, Bool.or_assoc]

/-- **`parse_args` on ANY table of options, in closed form**: the tests in the order of the program — a value
    of `-f -c -b -l` that is no bounds list is reported BEFORE `-h` is looked for. -/
theorem parseTable_closed (regexOk : Arg → Bool) (t : Table) :
    parseTable regexOk t =
      if t.isEmpty = true then .help
      else if ((t.val .f).any (refused boundsArg) || (t.val .c).any (refused boundsArg) ||
          (t.val .b).any (refused boundsArg) || (t.val .l).any (refused boundsArg)) = true then .reject
      else if t.flag .help = true then .help
      else if ((t.val .M).any (refused usizeArg) || (flagsOf t).clashWhileReading || t.regexText.any (!regexOk ·) ||
          ((flagsOf t).json && (flagsOf t).fmt) || (t.val .t).any (refused trimArg)) = true then .reject
      else if t.flag .V = true then .version
      else if (flagsOf t).leftOver = true then .reject
      else .run (optOf t) t.memKb.isSome t.regexText := by
  obtain ⟨l1, h1⟩ : ∃ l1, boundsListOfString ['1', ':'] = .ok l1 := Res.exists_ok (by decide +kernel)
  unfold parseTable parseWith
  -- run `parse_args` on the table (`↓`: each bind is resolved at its head before `simp` descends into the
  -- continuation)
  simp only [↓ttest_bind, ↓exitIf_bind, ↓unwrap_bind_any, ↓tfallback_bind, ↓ite_unwrap_bind,
    ↓tvalue_bind kFields .f rfl _ boundsArg_ne_panic,
    ↓tvalue_bind kCharacters .c rfl _ boundsArg_ne_panic,
    ↓tvalue_bind kBytes .b rfl _ boundsArg_ne_panic,
    ↓tvalue_bind kLines .l rfl _ boundsArg_ne_panic,
    ↓ite_tvalue_bind _ kDelimiter .d rfl _ strArg_ne_panic, ↓tvalue_bind kReplace .r rfl _ strArg_ne_panic,
    ↓tvalue_bind kFixedMemory .M rfl _ usizeArg_ne_panic, ↓ite_pure_tvalue_bind _ _ kRegex .e rfl _ strArg_ne_panic,
    ↓tvalue_bind kTrim .t rfl _ trimArg_ne_panic,
    ↓tflag_bind kHelp .help rfl, ↓tflag_bind kGreedy .g rfl, ↓tflag_bind kJson .json rfl, ↓tflag_bind kJoin .j rfl,
    ↓tflag_bind kNoJoin .noJoin rfl, ↓tflag_bind kComplement .m rfl, ↓tflag_bind kOnlyDelimited .s rfl,
    ↓tflag_bind kCompress .p rfl, ↓tflag_bind kVersion .V rfl, ↓tflag_bind kZero .z rfl,
    any_refused_strArg, bind_strArg, apply_ite (Option.any (refused strArg)), Option.any_none,
    Table.clearVal_val, Table.clearFlag_val, Table.clearFlag_flag, Table.clearVal_flag, Table.ite_val, Table.ite_flag,
    reduceCtorEq, if_false, ite_self, Bool.false_eq_true, show (boundsListOfString ['1', ':']).toOption.map some = some (some l1) by rw [h1]; rfl]
  -- the tests that come before the options are read, one by one
  by_cases h0 : t.isEmpty = true
  · rw [if_pos h0, if_pos h0]; rfl
  rw [if_neg h0, if_neg h0]
  cases hf : (t.val .f).any (refused boundsArg)
  case true => rfl
  cases hc : (t.val .c).any (refused boundsArg)
  case true => rfl
  cases hb : (t.val .b).any (refused boundsArg)
  case true => rfl
  cases hl : (t.val .l).any (refused boundsArg)
  case true => rfl
  rw [if_neg Bool.false_ne_true, if_neg Bool.false_ne_true, if_neg Bool.false_ne_true, if_neg Bool.false_ne_true,
    if_neg (by decide : ¬ (false || false || false || false) = true)]
  by_cases hh : t.flag .help = true
  · rw [if_pos hh, if_pos hh]; rfl
  rw [if_neg hh, if_neg hh]
  -- every bounds value parses: the mode and the bounds in force are those of the closed form
  obtain ⟨hbo, hgf, hor⟩ := t.parsedBounds l1 h1 hf hc hb hl
  have hne := boundsListOfString_nonempty _ _ hbo
  have hl1 : t.mode = .dflt → l1 = t.bounds := fun hm => by
    rw [hm] at hor
    exact Option.some.inj hor
  simp only [bind_toOption_isSome hf, bind_toOption_isSome hc, bind_toOption_isSome hb, bind_toOption_isSome hl,
    Table.boundsType_eq, Table.default_eq]
  simp only [hor]
  simp only [hgf]
  -- read the result off: the accessors of the consumed table, and the closed forms unfolded next to it
  simp only [Step.result_ite, Step.result_done, Pure.pure, P.pure, Step.result_next, Table.isEmpty, allFlagIds,
    allValIds, List.all_cons, List.all_nil, Table.clearVal_val, Table.clearFlag_val, Table.clearFlag_flag,
    Table.clearVal_flag, Table.clearFlag_extra, Table.clearVal_extra, Table.ite_val, Table.ite_flag,
    apply_ite Table.extra, ite_self, reduceCtorEq, if_true, if_false, Bool.not_false, Bool.and_true, Bool.true_and,
    Option.isNone_none, Flags.clashWhileReading, Flags.leftOver, flagsOf, optOf, Table.memKb, Table.regexText, Flags.isFields, hbo]
  -- the exit tests of `parse_args` are, in order, the disjuncts on the right
  cases hm : t.mode <;> cases he : t.val ValId.e <;>
    simp only [boundsTypeOf, hl1, hm, hne, memOf_zero, widthOf_ne_absent, Option.any_some, Option.any_none,
      or_isSome_ite, ite_reject_or, reduceCtorEq, if_true, if_false, ite_self, decide_true, decide_false, ne_eq,
      not_true_eq_false, not_false_eq_true, Bool.and_false, Bool.false_and, Bool.and_true, Bool.true_and,
      Bool.or_false, Bool.false_or, Bool.true_or, Bool.or_true, Bool.not_false, Bool.not_true, Bool.not_not,
      Bool.not_and, Bool.or_assoc, Bool.and_or_distrib_left, Bool.false_eq_true, Option.isNone_none,
      Option.isSome_map, Option.not_isNone, Option.isSome_none, Option.isSome_some]
  all_goals rfl

theorem Sensible.noBad {regexOk : Arg → Bool} {t : Table} (hs : Sensible regexOk t) (i : ValId)
    (hi : i ∈ [ValId.f, .c, .b, .l]) : (t.val i).any (refused boundsArg) = false := by
  rw [any_refused]
  intro v hv
  -- of `-f -c -b -l` only one is given: its value is the text of the bounds in force
  have : v = t.boundsText := by
    unfold Table.boundsText
    simp only [List.mem_cons, List.not_mem_nil, or_false] at hi
    rcases hs.oneMode with ⟨hc, hb, hl⟩ | ⟨hf, hb, hl⟩ | ⟨hf, hc, hl⟩ | ⟨hf, hc, hb⟩ <;>
      rcases hi with rfl | rfl | rfl | rfl <;> simp_all
  rw [this]
  exact hs.bounds

theorem parseTable_eq (regexOk : Arg → Bool) (t : Table) (hs : Sensible regexOk t) :
    parseTable regexOk t = tableAnswer t := by
  have hre : t.regexText.any (!regexOk ·) = false := by
    unfold Table.regexText
    by_cases hc : t.mode = .c
    · simp only [hc, if_true, Option.any_some, hs.charsRegex, Bool.not_true]
    · cases he : t.val .e with
      | none => simp only [hc, if_false, Option.any_none]
      | some v => simp only [hc, if_false, Option.any_some, hs.regex v he, Bool.not_true]
  simp only [parseTable_closed, hs.nonempty, hs.noBad .f (by decide), hs.noBad .c (by decide), hs.noBad .b (by decide),
    hs.noBad .l (by decide), hs.noHelp, hs.noVersion, any_refused.mpr fun v hv => usizeArg_isOk v (hs.mem v hv),
    any_refused.mpr hs.trim, hre, tableAnswer, upFrontReject_eq, Bool.false_or, Bool.or_false,
    Bool.false_eq_true, if_false, ite_reject_or]

theorem parseTable_reject_iff (regexOk : Arg → Bool) (t : Table) (hs : Sensible regexOk t) :
    parseTable regexOk t = .reject ↔ upFrontReject (flagsOf t) = true := by
  rw [parseTable_eq regexOk t hs, tableAnswer]
  cases upFrontReject (flagsOf t) <;> simp

theorem parseArgv_canonB (regexOk : Arg → Bool) (gs : List Group) (hwf : WFB [.f, .c, .b, .l] gs)
    (hs : Sensible regexOk (tableOf gs)) :
    parseArgv regexOk (render gs) = tableAnswer (tableOf gs) := by
  rw [parseArgv_renderB regexOk gs hwf, parseTable_eq regexOk _ hs]

theorem parseArgv_canon (regexOk : Arg → Bool) (gs : List Group) (hwf : WF gs)
    (hs : Sensible regexOk (tableOf gs)) :
    parseArgv regexOk (render gs) = tableAnswer (tableOf gs) :=
  parseArgv_canonB regexOk gs (hwf.toWFB _) hs

theorem parseArgv_canon_reject_iff (regexOk : Arg → Bool) (gs : List Group) (hwf : WF gs)
    (hs : Sensible regexOk (tableOf gs)) :
    parseArgv regexOk (render gs) = .reject ↔ upFrontReject (flagsOf (tableOf gs)) = true := by
  rw [parseArgv_render regexOk gs hwf]; exact parseTable_reject_iff regexOk _ hs

/-- the regex bag `parse_args` compiles from the regex text.  `bagOf` stands for the regex engine; `compileBag`
    (`Tuc.Model.Main`) is the instance that `tucRun` uses: `charsBag` for `-c`, the bag of the modelled regex for `-e` -/
def fillBag (bagOf : Arg → RegexBag) (o : Opt) (re : Option Arg) : Opt := { o with regexBag := re.map bagOf }

/-- the command line is rejected before any input is read: by `parse_args`, or by
    `StreamOpt::try_from` at the head of `main` (`dispatch = none`) -/
def rejectsUpFront (bagOf : Arg → RegexBag) (segs : List Bytes) : ArgvResult → Prop
  | .reject => True
  | .run o fm re => dispatch (fillBag bagOf o re) fm segs = none
  | _ => False

theorem trim_isSome (o : Option Arg) (h : ∀ v, o = some v → (trimArg v).isOk = true) :
    (o.bind fun v => (trimArg v).toOption).isSome = o.isSome := by
  cases o with
  | none => rfl
  | some v =>
    obtain ⟨a, ha⟩ := Res.exists_ok (h v rfl)
    simp [Res.toOption, ha]

theorem widthOf_some_ne_other (v : Arg) : decide (¬widthOf (some v) = .other) = ((utf8 v).length == 1) := by
  simp only [widthOf]; split <;> simp [*]

/-- the tests of `StreamOpt::try_from` are those of `Flags.streamOk`, in its order -/
theorem streamOk_order (a b m g p j tr re s fw : Bool) :
    (a && !(m || g || p || j) && b && !(tr || re || s) && fw) =
      (a && !m && !g && !p && !j && b && !tr && !re && !s && fw) := by
  simp only [Bool.not_or, Bool.and_assoc]

/-- the hypotheses are of `Sensible`: the bounds in force and the value of `-t` parse -/
theorem streamOptOf_optOf (bagOf : Arg → RegexBag) (t : Table) (hb : (boundsListOfString t.boundsText).isOk = true)
    (ht : ∀ v, t.val .t = some v → (trimArg v).isOk = true) :
    (streamOptOf (fillBag bagOf (optOf t) t.regexText)).isSome = (flagsOf t).streamOk := by
  rw [streamOptOf_isSome]
  simp only [OptLit.streamFlagsOk, fillBag, optOf, flagsOf, Flags.streamOk, Flags.isFields, Flags.regex, Table.bounds_eq hb,
    trim_isSome _ ht, Table.regexText, Option.isSome_map]
  have hb : (BoundsType.bytes != BoundsType.fields) = true := rfl
  have hl : (BoundsType.lines != BoundsType.fields) = true := rfl
  -- outside field mode both sides are `false`
  cases hm : t.mode <;> simp only [boundsTypeOf, hb, hl, reduceCtorEq, if_false, if_true, bne_self_eq_false,
    Bool.or_false, Bool.or_true, Bool.not_true, Bool.and_false, Bool.false_and, decide_false, decide_true,
    Bool.true_and, Bool.and_true, ne_eq, not_false_eq_true, not_true_eq_false, Option.isSome_some, Bool.true_or,
    Bool.or_self]
  -- in field mode the tests are the same, in the same order
  all_goals
    rw [streamOk_order]
    cases hd : t.val ValId.d <;> cases hr : t.val ValId.r <;> cases hj : t.flag FlagId.json <;>
    simp only [OptLit.replOneByte, widthOf_some_ne_other, widthOf_none, reduceCtorEq, not_false_eq_true, decide_true,
      Bool.false_eq_true, if_false, if_true, Option.map_some, Option.map_none, List.length_singleton,
      beq_self_eq_true, Bool.true_and, Bool.and_true, Bool.not_true, Bool.and_false, Bool.false_and, Bool.not_false]

/-- of `Sensible`: the bounds in force and the values of `-t` and `-M` parse -/
theorem rejectsUpFront_tableAnswer (bagOf : Arg → RegexBag) (segs : List Bytes) (t : Table)
    (hb : (boundsListOfString t.boundsText).isOk = true) (ht : ∀ v, t.val .t = some v → (trimArg v).isOk = true)
    (hM : ∀ v, t.val .M = some v → (parseUsize v).isSome = true) :
    rejectsUpFront bagOf segs (tableAnswer t) ↔ decision (flagsOf t) = .reject := by
  rw [decision_reject_iff]
  unfold tableAnswer
  cases hu : upFrontReject (flagsOf t) with
  | true => simp [rejectsUpFront]
  | false =>
    simp only [Bool.false_eq_true, if_false, rejectsUpFront, false_or, dispatch_none_iff]
    have hso := streamOptOf_optOf bagOf t hb ht
    have hmem : (flagsOf t).mem = memOfNat t.memKb := memOf_eq _ hM
    have hz : (flagsOf t).mem ≠ .zero := by
      intro hz
      simp [upFrontReject, hz] at hu
    rw [← hso, hmem]
    rw [hmem] at hz
    cases hk : t.memKb with
    | none => simp [memOfNat]
    | some n =>
      cases n with
      | zero => simp [hk, memOfNat] at hz
      | succ n =>
        cases hst : streamOptOf (fillBag bagOf (optOf t) t.regexText) <;> simp [memOfNat]

/-- **On a command line of option groups the real parsing chain decides like the decision
    table.**  `parse_args` over `pico_args`, followed by the `-M` eligibility test at the head of
    `main`, rejects the command line up front — exit 1, nothing read, nothing written — iff
    `decision` (the model of `Tuc.Model.Args`, equal to the property's `conflict` list by
    `reject_iff_conflict`) rejects the option set. -/
theorem parseArgv_canonB_decision (regexOk : Arg → Bool) (bagOf : Arg → RegexBag) (segs : List Bytes)
    (gs : List Group) (hwf : WFB [.f, .c, .b, .l] gs) (hs : Sensible regexOk (tableOf gs)) :
    rejectsUpFront bagOf segs (parseArgv regexOk (render gs)) ↔ decision (flagsOf (tableOf gs)) = .reject := by
  rw [parseArgv_canonB regexOk gs hwf hs]
  exact rejectsUpFront_tableAnswer bagOf segs _ hs.bounds hs.trim hs.mem

theorem parseArgv_canon_decision (regexOk : Arg → Bool) (bagOf : Arg → RegexBag) (segs : List Bytes)
    (gs : List Group) (hwf : WF gs) (hs : Sensible regexOk (tableOf gs)) :
    rejectsUpFront bagOf segs (parseArgv regexOk (render gs)) ↔ decision (flagsOf (tableOf gs)) = .reject :=
  parseArgv_canonB_decision regexOk bagOf segs gs (hwf.toWFB _) hs

/-- the options given, `Flags`-like but with the values -/
structure Canon where
  mode : Mode := .dflt          -- which of `-f -c -b -l` is given
  bounds : Arg := []            -- its value
  d : Option Arg := none
  e : Option Arg := none
  r : Option Arg := none
  tr : Option Arg := none       -- `-t`
  fallback : Option Arg := none
  mem : Option Arg := none      -- `-M`
  g : Bool := false
  p : Bool := false
  s : Bool := false
  z : Bool := false
  m : Bool := false
  j : Bool := false
  noJoin : Bool := false
  json : Bool := false
  extra : Option Arg := none    -- an argument that is no option

def flagG (i : FlagId) (b : Bool) : List Group := if b = true then [.flag i] else []

def optG (i : ValId) : Option Arg → List Group
  | some v => [.opt i v]
  | none => []

def modeG (m : Mode) (v : Arg) : List Group :=
  match m with
  | .f => [.opt .f v]
  | .c => [.opt .c v]
  | .b => [.opt .b v]
  | .l => [.opt .l v]
  | .dflt => []

def extraG : Option Arg → List Group
  | some a => [.extra a]
  | none => []

/-- each given option once, as separate arguments -/
def Canon.groups (K : Canon) : List Group :=
  modeG K.mode K.bounds ++ optG .d K.d ++ optG .r K.r ++ optG .M K.mem ++ optG .e K.e ++ optG .t K.tr ++
    optG .fallback K.fallback ++ flagG .g K.g ++ flagG .json K.json ++ flagG .j K.j ++ flagG .noJoin K.noJoin ++
    flagG .m K.m ++ flagG .s K.s ++ flagG .p K.p ++ flagG .z K.z ++ extraG K.extra

/-- `canonArgv K`: e.g. `-f 1,2 -d : -g --json` -/
def canonArgv (K : Canon) : List Arg := render K.groups

def optClean : Option Arg → Bool
  | some v => noDash v
  | none => true

/-- no value (and no stray argument) starts with `-`.  For the bounds value this asks more than
    `parseArgv_canonB` needs (`WFB`: only invisible to the four bounds lookups): `tuc -f -1` is not `clean`, so
    what is stated over `Canon.Accepted` — every program-level theorem — does not speak of it -/
def Canon.clean (K : Canon) : Bool :=
  (K.mode = .dflt || noDash K.bounds) && optClean K.d && optClean K.e && optClean K.r && optClean K.tr &&
    optClean K.fallback && optClean K.mem && optClean K.extra

def Canon.table (K : Canon) : Table where
  flag
    | .help => false | .V => false
    | .g => K.g | .json => K.json | .j => K.j | .noJoin => K.noJoin | .m => K.m | .s => K.s | .p => K.p | .z => K.z
  val
    | .f => if K.mode = .f then some K.bounds else none
    | .c => if K.mode = .c then some K.bounds else none
    | .b => if K.mode = .b then some K.bounds else none
    | .l => if K.mode = .l then some K.bounds else none
    | .d => K.d | .r => K.r | .M => K.mem | .e => K.e | .t => K.tr | .fallback => K.fallback
  extra := K.extra.isSome

theorem sublist_ite_singleton {α : Type} (c : Prop) [Decidable c] (x : α) : List.Sublist (if c then [x] else []) [x] := by
  by_cases h : c <;> simp [h]

/-- the tokens of the options a `Canon` can give, in the order of `Canon.groups` -/
def canonTokens : List Arg :=
  [ValId.f, .c, .b, .l, .d, .r, .M, .e, .t, .fallback].map ValId.tok ++
    [FlagId.g, .json, .j, .noJoin, .m, .s, .p, .z].map FlagId.tok

theorem Canon.groups_heads (K : Canon) :
    List.Sublist (K.groups.map Group.head) (canonTokens ++ (extraG K.extra).map Group.head) := by
  unfold canonTokens
  have hopt : ∀ i o, List.Sublist ((optG i o).map Group.head) [i.tok] := by
    intro i o; cases o <;> simp [optG, Group.head]
  have hflag : ∀ i b, List.Sublist ((flagG i b).map Group.head) [i.tok] := by
    intro i b; cases b <;> simp [flagG, Group.head]
  have hmode : List.Sublist ((modeG K.mode K.bounds).map Group.head) ([ValId.f, .c, .b, .l].map ValId.tok) := by
    cases K.mode <;> simp [modeG, Group.head]
  simp only [Canon.groups, List.map_append]
  refine List.Sublist.append ?_ (List.Sublist.refl _)
  have := List.Sublist.append hmode <| List.Sublist.append (hopt .d K.d) <| List.Sublist.append (hopt .r K.r) <|
    List.Sublist.append (hopt .M K.mem) <| List.Sublist.append (hopt .e K.e) <| List.Sublist.append (hopt .t K.tr) <|
    List.Sublist.append (hopt .fallback K.fallback) <| List.Sublist.append (hflag .g K.g) <|
    List.Sublist.append (hflag .json K.json) <| List.Sublist.append (hflag .j K.j) <|
    List.Sublist.append (hflag .noJoin K.noJoin) <| List.Sublist.append (hflag .m K.m) <|
    List.Sublist.append (hflag .s K.s) <| List.Sublist.append (hflag .p K.p) (hflag .z K.z)
  simpa [List.append_assoc] using this

theorem canonTokens_nodup : canonTokens.Nodup := by decide +kernel

theorem canonTokens_dash : ∀ t ∈ canonTokens, t.head? = some '-' := by decide +kernel

theorem Canon.wf (K : Canon) (hc : K.clean = true) : WF K.groups := by
  simp only [Canon.clean, Bool.and_eq_true, and_assoc] at hc
  obtain ⟨hb, hd, he, hr, ht, hfb, hm, hx⟩ := hc
  constructor
  · refine List.Nodup.sublist K.groups_heads ?_
    show (canonTokens ++ (extraG K.extra).map Group.head).Nodup
    rw [List.nodup_append]
    refine ⟨canonTokens_nodup, ?_, ?_⟩
    · cases K.extra <;> simp [extraG]
    · intro a ha b hb' hab
      subst hab
      cases hxe : K.extra with
      | none => rw [hxe] at hb'; simp [extraG] at hb'
      | some x =>
        rw [hxe] at hb' hx
        simp only [extraG, List.map_cons, List.map_nil, Group.head, List.mem_singleton] at hb'
        subst hb'
        have := canonTokens_dash _ ha
        simp [optClean, noDash, this] at hx
  · have hopt : ∀ i o, optClean o = true → ∀ g ∈ optG i o, g.clean = true := by
      intro i o ho g hg
      cases o with
      | none => cases hg
      | some v => rw [List.mem_singleton.mp hg]; exact ho
    have hflag : ∀ i b, ∀ g ∈ flagG i b, g.clean = true := by
      intro i b g hg
      cases b with
      | false => cases hg
      | true => rw [List.mem_singleton.mp hg]; rfl
    have hmode : ∀ g ∈ modeG K.mode K.bounds, g.clean = true := by
      intro g hg
      cases hmode : K.mode <;> rw [hmode] at hg hb <;> simp [modeG] at hg hb <;> subst hg <;> exact hb
    have hextra : ∀ g ∈ extraG K.extra, g.clean = true := by
      intro g hg
      cases hxe : K.extra with
      | none => rw [hxe] at hg; cases hg
      | some x => rw [hxe] at hg hx; rw [List.mem_singleton.mp hg]; exact hx
    simp only [Canon.groups, List.append_assoc, List.forall_mem_append]
    exact ⟨hmode, hopt _ _ hd, hopt _ _ hr, hopt _ _ hm, hopt _ _ he, hopt _ _ ht, hopt _ _ hfb, hflag _ _,
      hflag _ _, hflag _ _, hflag _ _, hflag _ _, hflag _ _, hflag _ _, hflag _ _, hextra⟩

theorem tableOf_flagG (i : FlagId) (b : Bool) :
    tableOf (flagG i b) = ⟨fun j => b && decide (i = j), fun _ => none, false⟩ := by
  cases b
  · rfl
  · simp [tableOf, flagG, Group.optVal, Group.isExtra, BEq.beq]

theorem tableOf_optG (i : ValId) (o : Option Arg) :
    tableOf (optG i o) = ⟨fun _ => false, fun j => if i = j then o else none, false⟩ := by
  cases o
  · simp [tableOf, optG]
  · simp [tableOf, optG, Group.optVal, Group.isExtra, BEq.beq]

theorem tableOf_extraG (o : Option Arg) : tableOf (extraG o) = ⟨fun _ => false, fun _ => none, o.isSome⟩ := by
  cases o <;> simp [tableOf, extraG, Group.optVal, Group.isExtra, BEq.beq]

theorem modeG_eq (m : Mode) (v : Arg) :
    modeG m v = optG .f (if m = .f then some v else none) ++ optG .c (if m = .c then some v else none) ++
      optG .b (if m = .b then some v else none) ++ optG .l (if m = .l then some v else none) := by
  cases m <;> rfl

theorem Canon.tableOf_groups (K : Canon) : tableOf K.groups = K.table := by
  simp only [Canon.groups, modeG_eq, tableOf_append, tableOf_flagG, tableOf_optG, tableOf_extraG, Canon.table,
    Table.mk.injEq, Bool.false_or]
  refine ⟨funext fun i => ?_, funext fun i => ?_, trivial⟩
  · cases i <;> simp only [reduceCtorEq, decide_false, decide_true, Bool.and_false, Bool.and_true,
      Bool.or_false, Bool.false_or]
  · cases i <;> simp only [reduceCtorEq, if_false, if_true, Option.or_none, Option.none_or]

theorem Canon.table_mode (K : Canon) : K.table.mode = K.mode := by
  unfold Table.mode Canon.table
  cases K.mode <;> rfl

theorem canonArgv_isEmpty (K : Canon) : (canonArgv K).isEmpty = K.table.isEmpty := by
  rw [canonArgv, render_isEmpty, ← tableOf_isEmpty, K.tableOf_groups]

theorem Canon.regexText_none (K : Canon) (hc : K.mode ≠ .c) (he : K.e = none) :
    K.table.regexText = none := by
  unfold Table.regexText
  rw [K.table_mode, if_neg hc]
  exact he

theorem boundsTypeOf_eq_characters {m : Mode} : boundsTypeOf m = .characters ↔ m = .c := by
  cases m <;> decide

theorem Canon.fields_ne_c {K : Canon} (h : K.mode = .f ∨ K.mode = .dflt) : K.mode ≠ .c := by
  rcases h with h | h <;> rw [h] <;> decide

theorem Canon.optOf_boundsType (K : Canon) : (optOf K.table).boundsType = boundsTypeOf K.mode := by
  show boundsTypeOf K.table.mode = _
  rw [K.table_mode]

theorem Canon.optOf_replaceDelimiter (K : Canon) :
    (optOf K.table).replaceDelimiter =
      if K.json = true then some [44] else if K.mode = .c then some [] else K.r.map utf8 := by
  show (if K.json = true then some [44]
    else if boundsTypeOf K.table.mode = .characters then some [] else K.r.map utf8) = _
  rw [K.table_mode]
  cases K.mode <;> rfl

theorem Canon.optOf_trim (K : Canon) :
    (optOf K.table).trim = K.tr.bind fun v => (trimArg v).toOption := rfl

theorem Canon.optOf_fallbackOob (K : Canon) : (optOf K.table).fallbackOob = K.fallback.map utf8 := rfl

/-- the text of the bounds in force: the value of `-f`/`-c`/`-b`/`-l`, or `1:` -/
def Canon.boundsText (K : Canon) : Arg := if K.mode = .dflt then ['1', ':'] else K.bounds

theorem Canon.table_boundsText (K : Canon) : K.table.boundsText = K.boundsText := by
  unfold Table.boundsText Canon.boundsText Canon.table
  cases K.mode <;> rfl

def Canon.eol (K : Canon) : EOL := if K.z = true then .zero else .newline

/-- the delimiter as `parse_args` builds it (tuc.rs:102-109, 254-257): `-d`'s value (TAB by default) in field
    mode, the EOL in line mode, empty for `-b` and `-c` -/
def Canon.delimiter (K : Canon) : Bytes :=
  match K.mode with
  | .l => [K.eol.byte]
  | .c => []
  | .b => []
  | _ => match K.d with
    | Option.some x => utf8 x
    | none => [9]

theorem Canon.optOf_delimiter (K : Canon) : (optOf K.table).delimiter = K.delimiter := by
  simp only [optOf, K.table_mode, Canon.delimiter]
  cases K.mode <;> rfl

def optAll (p : Arg → Bool) : Option Arg → Bool
  | none => true
  | Option.some v => p v

theorem optAll_iff {p : Arg → Bool} {o : Option Arg} :
    optAll p o = true ↔ ∀ v, o = Option.some v → p v = true := by
  cases o with
  | none => exact ⟨fun _ _ hv => (nomatch hv), fun _ => rfl⟩
  | some w => exact ⟨fun h v hv => Option.some.inj hv ▸ h, fun h => h w rfl⟩

/-- every value given parses: the bounds (`UserBoundsList::from_str`), `-M` (`usize`), `-t`
    (`l|r|b`, any case) -/
def Canon.valuesOk (K : Canon) : Bool :=
  (boundsListOfString K.boundsText).isOk && optAll (fun v => (parseUsize v).isSome) K.mem &&
    optAll (fun v => (trimArg v).isOk) K.tr

/-- the canonical command line of `K` is well formed (a decidable condition on `K`): no value
    starts with `-`, some argument is given (else: the short help), every value parses -/
def Canon.wellFormed (K : Canon) : Bool :=
  K.clean && !(canonArgv K).isEmpty && K.valuesOk

/-- **`parse_args` accepts the canonical command line of `K`** (a decidable condition on `K`): it is
    well formed and none of the conflicts decided inside `parse_args` (`upFrontReject`, the part of
    the decision table `decision` that sits in `parse_args`; `decision_reject_iff`) is present. -/
def Canon.accepted (K : Canon) : Bool :=
  K.wellFormed && !upFrontReject (flagsOf K.table)

theorem Canon.valuesOk_parts (K : Canon) (h : K.valuesOk = true) :
    (boundsListOfString K.boundsText).isOk = true ∧
      (∀ v, K.mem = Option.some v → (parseUsize v).isSome = true) ∧
      (∀ v, K.tr = Option.some v → (trimArg v).isOk = true) := by
  simp only [Canon.valuesOk, Bool.and_eq_true] at h
  exact ⟨h.1.1, optAll_iff.mp h.1.2, optAll_iff.mp h.2⟩

theorem Canon.table_oneMode (K : Canon) :
    (K.table.val .c = none ∧ K.table.val .b = none ∧ K.table.val .l = none) ∨
    (K.table.val .f = none ∧ K.table.val .b = none ∧ K.table.val .l = none) ∨
    (K.table.val .f = none ∧ K.table.val .c = none ∧ K.table.val .l = none) ∨
    (K.table.val .f = none ∧ K.table.val .c = none ∧ K.table.val .b = none) := by
  unfold Canon.table
  cases K.mode
  · exact .inl ⟨rfl, rfl, rfl⟩
  · exact .inr (.inl ⟨rfl, rfl, rfl⟩)
  · exact .inr (.inr (.inl ⟨rfl, rfl, rfl⟩))
  · exact .inr (.inr (.inr ⟨rfl, rfl, rfl⟩))
  · exact .inl ⟨rfl, rfl, rfl⟩

/-- `regexOk` is the regex engine's verdict: on the value of `-e` if there is one, and on the fixed `\b|\B`
    of `-c` (`Sensible` asks for the latter in every mode). -/
theorem Canon.sensible (regexOk : Arg → Bool) (K : Canon) (hK : K.wellFormed = true)
    (hre : optAll regexOk K.e = true) (hcre : regexOk charsRegexText = true) :
    Sensible regexOk K.table := by
  simp only [Canon.wellFormed, Bool.and_eq_true, Bool.not_eq_true'] at hK
  obtain ⟨hb, hm, ht⟩ := K.valuesOk_parts hK.2
  refine ⟨?_, rfl, rfl, K.table_oneMode, ?_, hm, ht, optAll_iff.mp hre, hcre⟩
  · rw [← canonArgv_isEmpty]; exact hK.1.2
  · rw [K.table_boundsText]; exact hb

theorem Canon.accepted_parts (K : Canon) (hK : K.accepted = true) :
    K.wellFormed = true ∧ K.clean = true ∧ K.valuesOk = true ∧ upFrontReject (flagsOf K.table) = false := by
  simp only [Canon.accepted, Canon.wellFormed, Bool.and_eq_true, Bool.not_eq_true'] at hK ⊢
  exact ⟨hK.1, hK.1.1.1, hK.1.2, hK.2⟩

/-- `parseArgv_canon_decision` for the canonical command line of a `Flags`-like record `K`: each
    given option once, as separate arguments (`-d VALUE`), values not starting with `-` (`K.clean`).
    `parse_args` over `pico_args` followed by the `-M` eligibility test rejects `canonArgv K` up
    front iff the decision table rejects the option set `flagsOf K.table`. -/
theorem parseArgv_canonArgv_decision (regexOk : Arg → Bool) (bagOf : Arg → RegexBag) (segs : List Bytes)
    (K : Canon) (hc : K.clean = true) (hs : Sensible regexOk K.table) :
    rejectsUpFront bagOf segs (parseArgv regexOk (canonArgv K)) ↔ decision (flagsOf K.table) = .reject := by
  have := parseArgv_canon_decision regexOk bagOf segs K.groups (K.wf hc) (by rw [K.tableOf_groups]; exact hs)
  rw [K.tableOf_groups] at this
  exact this

theorem parseArgv_canonArgv (regexOk : Arg → Bool) (K : Canon) (hc : K.clean = true)
    (hs : Sensible regexOk K.table) : parseArgv regexOk (canonArgv K) = tableAnswer K.table := by
  have := parseArgv_canon regexOk K.groups (K.wf hc) (by rw [K.tableOf_groups]; exact hs)
  rw [K.tableOf_groups] at this
  exact this

/-- `parse_args` accepts the canonical command line of `K`: no value starts with `-`
    (`K.clean`), something is given, every value parses, the regex engine (verdict `regexOk`)
    accepts `-e`'s value and `\b|\B` (`Sensible`), and none of the conflicts decided inside
    `parse_args` is present.  Every theorem about an accepted command line rests on this form;
    the decidable `K.accepted` is equivalent to it, given the regex engine's verdicts
    (`Canon.Accepted.of_accepted`, `.accepted`), and is how an instance is discharged. -/
structure Canon.Accepted (regexOk : Arg → Bool) (K : Canon) : Prop where
  clean : K.clean = true
  sensible : Sensible regexOk K.table
  noConflict : upFrontReject (flagsOf K.table) = false

theorem Canon.Accepted.of_accepted {regexOk : Arg → Bool} {K : Canon} (hK : K.accepted = true)
    (hre : optAll regexOk K.e = true) (hcre : regexOk charsRegexText = true) : K.Accepted regexOk := by
  obtain ⟨hW, hc, _, hu⟩ := K.accepted_parts hK
  exact ⟨hc, K.sensible regexOk hW hre hcre, hu⟩

theorem Canon.Accepted.of_noRegex {regexOk : Arg → Bool} {K : Canon} (hK : K.accepted = true)
    (he : K.e = none) (hcre : regexOk charsRegexText = true) : K.Accepted regexOk :=
  .of_accepted hK (by rw [he]; rfl) hcre

theorem Canon.Accepted.accepted {regexOk : Arg → Bool} {K : Canon} (h : K.Accepted regexOk) :
    K.accepted = true := by
  have hs := h.sensible
  simp only [Canon.accepted, Canon.wellFormed, Canon.valuesOk, Bool.and_eq_true, Bool.not_eq_true']
  exact ⟨⟨⟨h.clean, by rw [canonArgv_isEmpty]; exact hs.nonempty⟩,
    ⟨by rw [← K.table_boundsText]; exact hs.bounds, optAll_iff.mpr hs.mem⟩, optAll_iff.mpr hs.trim⟩,
    h.noConflict⟩

theorem Canon.Accepted.regexOk_e {regexOk : Arg → Bool} {K : Canon} (h : K.Accepted regexOk) :
    optAll regexOk K.e = true := optAll_iff.mpr h.sensible.regex

/-- what `parse_args` answers on an accepted canonical command line: the `Opt` of `optOf` -/
theorem Canon.Accepted.parse {regexOk : Arg → Bool} {K : Canon} (h : K.Accepted regexOk) :
    parseArgv regexOk (canonArgv K) = .run (optOf K.table) K.table.memKb.isSome K.table.regexText := by
  rw [parseArgv_canonArgv regexOk K h.clean h.sensible, tableAnswer, h.noConflict]
  rfl

/-- the mode option of a command line that names its bounds: no mode option (= `-f 1:`) becomes `-f` -/
def Mode.orF : Mode → Mode
  | .dflt => .f
  | m => m

theorem Mode.orF_eq_c (m : Mode) : decide (m.orF = .c) = decide (m = .c) := by cases m <;> rfl

/-- **`K` with the bounds text `t`** (same mode option — `-f` if `K` has none —, every other option
    unchanged) -/
def Canon.withBounds (K : Canon) (t : Arg) : Canon := { K with mode := K.mode.orF, bounds := t }

theorem Canon.withBounds_boundsText (K : Canon) (t : Arg) : (K.withBounds t).boundsText = t := by
  unfold Canon.boundsText Canon.withBounds
  cases K.mode <;> rfl

def Canon.withM (K : Canon) (b : Bool) : Canon := { K with m := b }

theorem Canon.withM_self (K : Canon) : K.withM K.m = K := by cases K; rfl

theorem Canon.withBounds_memKb (K : Canon) (t : Arg) : (K.withBounds t).table.memKb = K.table.memKb := rfl

theorem Canon.withBounds_regexText (K : Canon) (t : Arg) :
    (K.withBounds t).table.regexText = K.table.regexText := by
  unfold Table.regexText
  rw [Canon.table_mode, Canon.table_mode]
  show (if K.mode.orF = .c then _ else _) = _
  cases K.mode <;> rfl

theorem Flags.isFields_orF {f f' : Flags} (h : f'.mode = f.mode.orF) : f'.isFields = f.isFields := by
  unfold Flags.isFields
  rw [h]
  cases f.mode <;> rfl

/-- the conflicts decided in `parse_args` do not read `-m`, read the mode only as "field mode" /
    "`-c`", and the bounds only as "is there format text": every test is the same on `f'` as on `f`
    but the one on format text, which `f'` passes -/
theorem upFrontReject_mono (f f' : Flags) (hmode : f'.mode = f.mode.orF) (hfmt : f'.fmt = false)
    (h1 : f'.mem = f.mem) (h2 : f'.j = f.j) (h3 : f'.noJoin = f.noJoin) (h4 : f'.json = f.json)
    (h5 : f'.r = f.r) (h6 : f'.d = f.d) (h7 : f'.e = f.e) (h8 : f'.extra = f.extra)
    (h : upFrontReject f = false) : upFrontReject f' = false := by
  simp only [upFrontReject, Bool.or_eq_false_iff, and_assoc] at h ⊢
  rw [Flags.isFields_orF hmode, hmode, Mode.orF_eq_c, hfmt, h1, h2, h3, h4, h5, h6, h7, h8]
  -- the eleven tests in the order of `upFrontReject`; the eighth is `--json` with format text
  obtain ⟨a1, a2, a3, a4, a5, a6, a7, -, a9, a10, a11⟩ := h
  exact ⟨a1, a2, a3, a4, a5, a6, a7, Bool.and_false _, a9, a10, a11⟩

/-- a command line that names its bounds is not empty: the mode option is the first of its groups -/
theorem Canon.withBounds_nonempty (K : Canon) (t : Arg) : (canonArgv (K.withBounds t)).isEmpty = false := by
  have h : modeG (K.withBounds t).mode (K.withBounds t).bounds ≠ [] := by
    unfold Canon.withBounds
    cases K.mode <;> exact List.cons_ne_nil _ _
  rw [canonArgv, render_isEmpty, List.isEmpty_eq_false_iff, Canon.groups]
  repeat apply List.append_ne_nil_of_left_ne_nil
  exact h

/-- **acceptance carries over** to the command line with or without `-m` and with another bounds
    text, provided that text does not start with `-`, parses, and has no format text -/
theorem Canon.Accepted.withM_withBounds {regexOk : Arg → Bool} {K : Canon} (hK : K.Accepted regexOk)
    (b : Bool) (t : Arg) (hdash : noDash t = true) (l : UserBoundsList)
    (hparse : boundsListOfString t = .ok l) (hfmt : l.list.any isFiller = false) :
    ((K.withM b).withBounds t).Accepted regexOk where
  clean := by
    -- only the first test of `clean`, on the bounds text, is new
    have hc := hK.clean
    simp only [Canon.clean, Bool.and_eq_true, and_assoc] at hc ⊢
    exact ⟨by simp [Canon.withBounds, hdash], hc.2⟩
  sensible :=
    -- the values of `-M`, `-t`, `-e` are those of `K`
    { hK.sensible with
      nonempty := by rw [← canonArgv_isEmpty]; exact (K.withM b).withBounds_nonempty t
      oneMode := ((K.withM b).withBounds t).table_oneMode
      bounds := by rw [Canon.table_boundsText, Canon.withBounds_boundsText, hparse]; rfl }
  noConflict := by
    refine upFrontReject_mono (flagsOf K.table) _ ?_ ?_ rfl rfl rfl rfl rfl rfl rfl rfl hK.noConflict
    · show ((K.withM b).withBounds t).table.mode = K.table.mode.orF
      rw [Canon.table_mode, Canon.table_mode]; rfl
    · show (match boundsListOfString ((K.withM b).withBounds t).table.boundsText with
        | .ok l => l.list.any isFiller
        | _ => false) = false
      rw [Canon.table_boundsText, Canon.withBounds_boundsText, hparse]
      exact hfmt

/-- `K` with `-z` added if it is absent, removed if it is present -/
def Canon.toggleZ (K : Canon) : Canon := { K with z := !K.z }

theorem Canon.toggleZ_toggleZ (K : Canon) : K.toggleZ.toggleZ = K := by
  cases K; simp [Canon.toggleZ]

theorem Canon.toggleZ_mode (K : Canon) : K.toggleZ.table.mode = K.table.mode := rfl
theorem Canon.toggleZ_memKb (K : Canon) : K.toggleZ.table.memKb = K.table.memKb := rfl
theorem Canon.toggleZ_regexText (K : Canon) : K.toggleZ.table.regexText = K.table.regexText := rfl

/-- toggling `-z` does not change whether `parse_args` accepts the command line — unless `-z` was
    the only argument (`tuc -z` cuts, `tuc` prints the short help) -/
theorem Canon.Accepted.toggleZ {regexOk : Arg → Bool} {K : Canon} (h : K.Accepted regexOk)
    (hne : canonArgv K.toggleZ ≠ []) : K.toggleZ.Accepted regexOk where
  clean := h.clean
  -- `-z` is read by none of the other conditions
  sensible :=
    { h.sensible with
      nonempty := by rw [← canonArgv_isEmpty]; exact List.isEmpty_eq_false_iff.mpr hne }
  noConflict := h.noConflict

/-! ### one concrete instance (the hypotheses are satisfiable, the theorems compute) -/

/-- `tuc -f 2 -d : -j --no-join` is rejected -/
example : parseArgv (fun _ => true)
    (canonArgv { mode := .f, bounds := ['2'], d := some [':'], j := true, noJoin := true }) = .reject := by
  rw [parseArgv_canonArgv _ _ (by decide +kernel) (Canon.sensible _ _ (by decide +kernel) rfl rfl)]
  have : upFrontReject (flagsOf ({ mode := .f, bounds := ['2'], d := some [':'], j := true, noJoin := true } : Canon).table)
      = true := by decide +kernel
  simp [tableAnswer, this]

example : canonArgv { mode := .f, bounds := ['2'], d := some [':'], j := true, noJoin := true } =
    [['-', 'f'], ['2'], ['-', 'd'], [':'], ['-', 'j'], ['-', '-', 'n', 'o', '-', 'j', 'o', 'i', 'n']] := by
  decide +kernel

/-! ### the bounds values and `-h`, read off `parseTable_closed` -/

/-- **A bounds value that does not parse is reported (exit 1), whether or not `-h` is given.** -/
theorem parseTable_badBounds (regexOk : Arg → Bool) (t : Table) (i : ValId) (hi : i ∈ [ValId.f, .c, .b, .l])
    (v : Arg) (hv : t.val i = some v) (hbad : (boundsArg v).isOk = false) :
    parseTable regexOk t = .reject := by
  have hne := Table.isEmpty_of_val hv
  have hi' : (t.val i).any (refused boundsArg) = true := by rw [hv, Option.any_some, refused, hbad]; rfl
  simp only [List.mem_cons, List.not_mem_nil, or_false] at hi
  rcases hi with rfl | rfl | rfl | rfl <;>
    simp only [parseTable_closed, hne, hi', Bool.false_eq_true, if_false, Bool.true_or, Bool.or_true, if_true]

/-- **`-h` prints the help when the bounds values given (if any) parse**: the help lookup comes
    after `-f`, `-c`, `-b`, `-l` have been consumed, and before everything else. -/
theorem parseTable_help (regexOk : Arg → Bool) (t : Table) (hh : t.flag .help = true)
    (hb : ∀ i ∈ [ValId.f, .c, .b, .l], ∀ v, t.val i = some v → (boundsArg v).isOk = true) :
    parseTable regexOk t = .help := by
  simp only [parseTable_closed, any_refused.mpr (hb .f (by decide)), any_refused.mpr (hb .c (by decide)),
    any_refused.mpr (hb .b (by decide)), any_refused.mpr (hb .l (by decide)), Bool.or_self,
    Bool.false_eq_true, if_false, hh, if_true, ite_self]

/-- `tuc … -f VALUE … -h …` with a `VALUE` that is no bounds list: exit 1, not the help — on a
    canonical command line, the bounds values possibly starting with `-` -/
theorem parseArgv_canonB_badBounds (regexOk : Arg → Bool) (gs : List Group) (hwf : WFB [.f, .c, .b, .l] gs)
    (i : ValId) (hi : i ∈ [ValId.f, .c, .b, .l]) (v : Arg) (hmem : Group.opt i v ∈ gs)
    (hbad : (boundsArg v).isOk = false) : parseArgv regexOk (render gs) = .reject := by
  rw [parseArgv_renderB regexOk gs hwf]
  exact parseTable_badBounds regexOk _ i hi v (tableOf_val_of_mem hwf.1 i v hmem) hbad

/-- `tuc … -h …` prints the help when the bounds values given parse, whatever their letters -/
theorem parseArgv_canonB_help (regexOk : Arg → Bool) (gs : List Group) (hwf : WFB [.f, .c, .b, .l] gs)
    (hh : Group.flag .help ∈ gs)
    (hb : ∀ i ∈ [ValId.f, .c, .b, .l], ∀ v, Group.opt i v ∈ gs → (boundsArg v).isOk = true) :
    parseArgv regexOk (render gs) = .help := by
  rw [parseArgv_renderB regexOk gs hwf]
  refine parseTable_help regexOk _ ?_ (fun i hi v hv => hb i hi v (mem_of_tableOf_val hv))
  exact List.any_eq_true.mpr ⟨_, hh, by simp⟩

/-- without `-h` (and `-V`), every value parsing: never the help, whatever the letters of the bounds -/
theorem parseArgv_canonB_ne_help (regexOk : Arg → Bool) (gs : List Group) (hwf : WFB [.f, .c, .b, .l] gs)
    (hs : Sensible regexOk (tableOf gs)) : parseArgv regexOk (render gs) ≠ .help := by
  rw [parseArgv_canonB regexOk gs hwf hs, tableAnswer]
  split <;> simp

theorem Table.boundsText_parse (t : Table) :
    boundsListOfString t.boundsText =
      (((t.val .f).map boundsArg).or (((t.val .c).map boundsArg).or
        (((t.val .b).map boundsArg).or ((t.val .l).map boundsArg)))).getD (boundsListOfString ['1', ':']) := by
  unfold Table.boundsText
  cases t.val .f <;> cases t.val .c <;> cases t.val .b <;> cases t.val .l <;> rfl

/-- **`parse_args` looks at the values of `-f -c -b -l` only through `UserBoundsList::from_str`.**  Read off
    `parseTable_closed`: it asks of a bounds value whether it is there, whether it is refused, and for
    the parse of the one in force. -/
theorem parseTable_congr (regexOk : Arg → Bool) (t t' : Table) (hflag : t.flag = t'.flag)
    (hextra : t.extra = t'.extra) (hval : ∀ j, j ∉ [ValId.f, .c, .b, .l] → t.val j = t'.val j)
    (hb : ∀ j ∈ [ValId.f, .c, .b, .l], (t.val j).map boundsArg = (t'.val j).map boundsArg) :
    parseTable regexOk t = parseTable regexOk t' := by
  have hs : ∀ j, (t.val j).isSome = (t'.val j).isSome := fun j => by
    by_cases hj : j ∈ [ValId.f, .c, .b, .l]
    · simpa using congrArg Option.isSome (hb j hj)
    · rw [hval j hj]
  have hr : ∀ j ∈ [ValId.f, .c, .b, .l], (t.val j).any (refused boundsArg) = (t'.val j).any (refused boundsArg) :=
    fun j hj => by
      have := congrArg (Option.any fun r => !r.isOk) (hb j hj)
      rwa [Option.any_map, Option.any_map] at this
  have hbt : boundsListOfString t.boundsText = boundsListOfString t'.boundsText := by
    rw [t.boundsText_parse, t'.boundsText_parse, hb .f (by decide), hb .c (by decide), hb .b (by decide),
      hb .l (by decide)]
  simp only [parseTable_closed, flagsOf, optOf, Table.isEmpty, Table.mode, Table.bounds, Table.memKb,
    Table.regexText, ← Option.not_isSome, hs, hbt, hflag, hextra, hr .f (by decide), hr .c (by decide),
    hr .b (by decide), hr .l (by decide), hval .d (by decide), hval .r (by decide), hval .M (by decide),
    hval .e (by decide), hval .t (by decide), hval .fallback (by decide)]
  rfl

theorem tableOf_swap_flag (pre post : List Group) (i : ValId) (v v' : Arg) :
    (tableOf (pre ++ Group.opt i v :: post)).flag = (tableOf (pre ++ Group.opt i v' :: post)).flag := by
  funext j
  have e : ∀ w, (Group.opt i w == Group.flag j) = false := fun w => beq_eq_false_iff_ne.mpr (by simp)
  simp [tableOf, List.any_append, e]

theorem tableOf_swap_extra (pre post : List Group) (i : ValId) (v v' : Arg) :
    (tableOf (pre ++ Group.opt i v :: post)).extra = (tableOf (pre ++ Group.opt i v' :: post)).extra := by
  simp [tableOf, List.any_append, Group.isExtra]

theorem tableOf_swap_val (pre post : List Group) (i j : ValId) (hj : j ≠ i) (v v' : Arg) :
    (tableOf (pre ++ Group.opt i v :: post)).val j = (tableOf (pre ++ Group.opt i v' :: post)).val j := by
  simp [tableOf, List.findSome?_append, List.findSome?_cons, Group.optVal, Ne.symm hj]

/-- **The letters of a bounds value do not matter**: on a canonical command line — the values of
    `-f -c -b -l` possibly starting with `-` — two bounds values with the same parse get the same
    answer of `parse_args`. -/
theorem parseArgv_bounds_letters (regexOk : Arg → Bool) (pre post : List Group) (i : ValId)
    (hi : i ∈ [ValId.f, .c, .b, .l]) (v v' : Arg)
    (hwf : WFB [.f, .c, .b, .l] (pre ++ Group.opt i v :: post))
    (hwf' : WFB [.f, .c, .b, .l] (pre ++ Group.opt i v' :: post)) (h : boundsArg v = boundsArg v') :
    parseArgv regexOk (render (pre ++ Group.opt i v :: post)) =
      parseArgv regexOk (render (pre ++ Group.opt i v' :: post)) := by
  rw [parseArgv_renderB regexOk _ hwf, parseArgv_renderB regexOk _ hwf']
  apply parseTable_congr
  · exact tableOf_swap_flag pre post i v v'
  · exact tableOf_swap_extra pre post i v v'
  · intro j hj
    exact tableOf_swap_val pre post i j (fun e => hj (e ▸ hi)) v v'
  · intro j _
    by_cases e : j = i
    · subst e
      rw [tableOf_val_of_mem hwf.1 j v (by simp), tableOf_val_of_mem hwf'.1 j v' (by simp)]
      simp [h]
    · rw [tableOf_swap_val pre post i j e v v']

/-! ### single command lines, by computation: a bounds value that starts with `-` and contains an `h`; `-h` -/

/-- the bounds `-1=hello`: the last field, `hello` when there is none -/
def lastOrHello : UserBoundsList :=
  ⟨[.bound { l := .some (-1), r := .some (-1), isLast := true, fallback := some (utf8 ['h', 'e', 'l', 'l', 'o']) }],
    .some (-1)⟩

theorem boundsArg_lastOrHello : boundsArg ['-', '1', '=', 'h', 'e', 'l', 'l', 'o'] = .ok lastOrHello := by
  decide +kernel

/-- `tuc -d , -f -1=hello` cuts: the `h` of `hello` is not taken for `-h` -/
theorem parseArgv_dash_value_f (regexOk : Arg → Bool) :
    parseArgv regexOk [['-', 'd'], [','], ['-', 'f'], ['-', '1', '=', 'h', 'e', 'l', 'l', 'o']] =
      .run { delimiter := [44], bounds := lastOrHello } false none := rfl

/-- the same with the value first; `-b`, `-l`, `-c` below alike -/
theorem parseArgv_dash_value_f_first (regexOk : Arg → Bool) :
    parseArgv regexOk [['-', 'f'], ['-', '1', '=', 'h', 'e', 'l', 'l', 'o'], ['-', 'd'], [',']] =
      .run { delimiter := [44], bounds := lastOrHello } false none := rfl

theorem parseArgv_dash_value_b (regexOk : Arg → Bool) :
    parseArgv regexOk [['-', 'b'], ['-', '1', '=', 'h', 'e', 'l', 'l', 'o']] =
      .run { delimiter := [], bounds := lastOrHello, boundsType := .bytes } false none := rfl

theorem parseArgv_dash_value_l (regexOk : Arg → Bool) :
    parseArgv regexOk [['-', 'l'], ['-', '1', '=', 'h', 'e', 'l', 'l', 'o']] =
      .run { delimiter := [10], bounds := lastOrHello, boundsType := .lines, join := true } false none := rfl

theorem parseArgv_dash_value_c :
    parseArgv (fun _ => true) [['-', 'c'], ['-', '1', '=', 'h', 'e', 'l', 'l', 'o']] =
      .run { delimiter := [], bounds := lastOrHello, boundsType := .characters, replaceDelimiter := some [],
             join := true } false (some charsRegexText) := rfl

/-- `tuc -h`, `tuc --help`, `tuc -d : -h`, `tuc -f 1 -h`, `tuc -gh` print the help -/
theorem parseArgv_h (regexOk : Arg → Bool) : parseArgv regexOk [['-', 'h']] = .help := rfl
theorem parseArgv_help (regexOk : Arg → Bool) : parseArgv regexOk [['-', '-', 'h', 'e', 'l', 'p']] = .help := rfl
theorem parseArgv_d_h (regexOk : Arg → Bool) : parseArgv regexOk [['-', 'd'], [':'], ['-', 'h']] = .help := rfl
theorem parseArgv_f_h (regexOk : Arg → Bool) : parseArgv regexOk [['-', 'f'], ['1'], ['-', 'h']] = .help := rfl
theorem parseArgv_gh (regexOk : Arg → Bool) : parseArgv regexOk [['-', 'g', 'h']] = .help := rfl

/-- `tuc -f 0 -h` (`0` is no bound) and `tuc -h -f` (no value) are errors: exit 1, no help — the
    bounds values are consumed before `-h` is looked up -/
theorem parseArgv_f0_h (regexOk : Arg → Bool) : parseArgv regexOk [['-', 'f'], ['0'], ['-', 'h']] = .reject := rfl
theorem parseArgv_h_f (regexOk : Arg → Bool) : parseArgv regexOk [['-', 'h'], ['-', 'f']] = .reject := rfl

/-- the same through the general theorem: the hypotheses of `parseArgv_canonB` are satisfiable -/
example : parseArgv (fun _ => true) (render [.opt .d [','], .opt .f ['-', '1', '=', 'h', 'e', 'l', 'l', 'o']]) =
    tableAnswer (tableOf [.opt .d [','], .opt .f ['-', '1', '=', 'h', 'e', 'l', 'l', 'o']]) :=
  parseArgv_canonB _ _ (by decide +kernel)
    ⟨by decide +kernel, by decide +kernel, by decide +kernel, by decide +kernel, by decide +kernel,
      by simp [tableOf, Group.optVal], by simp [tableOf, Group.optVal], by simp, rfl⟩
end Tuc
