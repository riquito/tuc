import Tuc.Model.ReadLoops
import Tuc.Model.Lines
import Tuc.Model.LinesLoop
import Tuc.Lemmas.Run
import Tuc.Lemmas.Total
import Tuc.Props.StreamLoop

/-!
# The general engine and byte mode do not depend on how the input is chunked

`Tuc.Model.ReadLoops` transcribes, statement by statement, the code that stands between the
`BufRead` and `cut_str` / `cut_bytes`: `read_and_cut_str` (cut_str.rs:458-503), bstr's
`for_byte_record` / `for_byte_record_with_terminator` / `trim_record_slice`, std's `read_until`,
`read_bytes_to_end` (read_utils.rs:4-14), `cut_bytes` / `read_and_cut_bytes` (cut_bytes.rs), over
the segmented reader of `Tuc.Model.StreamLoop` (`stdin : List Bytes` = the chunks the successive
`fill_buf()` calls hand out).  `readAndCutStr` (`Tuc.Model.CutStr`) and `readAndCutBytes`
(`Tuc.Model.Lines`) take the whole input at once.  They are the same:

* `readAndCutStrLoop_eq`   : `readAndCutStrLoop opt segs = readAndCutStr opt segs.flatten`
* `readAndCutBytesLoop_eq` : `readAndCutBytesLoop opt segs = readAndCutBytes opt segs.flatten`

for EVERY option record, every input and every segmentation `segs` of it into non-empty chunks —
bytes written and status.  So the checked operations of the literal model (`split_at`,
`&record[..len-1]`, `&available[..=i]`, `&data[r.start..r.end]`) never panic and the fuel
(`2 · bytes + 2` for the outer loops, `buf.len() + 1` / `bytes + 1` for the inner ones) is never
used up.

The only hypothesis, `∀ s ∈ segs, s ≠ []`, is the `BufRead` contract: an empty `fill_buf()` means
EOF — the loops stop there (io.rs:305 `break`, mod.rs:2266 `used == 0`, `read` returning 0),
whereas `List.flatten` does not see an empty chunk.  It cannot be dropped (the `#guard`s after the
theorems give the witnesses `["a-b\nc-", "", "d\n"]` / `["ab", "", "cd"]`); the real program
cannot reach such a state: `BufReader::fill_buf` returns an empty slice only when `read` returned
0, i.e. at end of input (and the harness' `SegReader` hands out at least one byte, `l.max(1)`).

The loops are compared with two folds over `Space.rawLines t (cur ++ input)` — the records of the
input WITH their terminator (defined in `Tuc.Lemmas.Records`, not in a model file, with its equations
`rawLines_of_noeol`, `rawLines_of_eol`; the namespace is that of its first user, `Props/Space`), `cur`
being the bytes of the current record seen so far (never a terminator among them: `rawLines_pending`) —: `foldRecords f` (what the closure writes, until
`Ok(false)` or `Err`) and `foldState f` (its captured state).  One turn of the `'outer` loop consumes a
whole chunk, so the closure is called on exactly `Space.rawLines t segs.flatten`; `trim_record_slice`
turns these into the `records` of `Tuc.Model.Text`.
-/

namespace Tuc
namespace ReadLoops

open StreamLoop (fillBuf consume memchr totalBytes fuelFor reader_cons)

theorem memchr_some_lt (t : UInt8) : ∀ (l : Bytes) (i : Nat), memchr t l = some i → i < l.length :=
  StreamLoop.memchr_lt t

theorem memchr_none_not_mem (t : UInt8) (l : Bytes) (h : memchr t l = none) : t ∉ l :=
  fun hm => StreamLoop.memchr_none h t hm rfl

theorem readUntil_append_none (t : UInt8) (chunk rest : Bytes) (h : memchr t chunk = none) :
    LinesLoop.readUntil t (chunk ++ rest) =
      (chunk ++ (LinesLoop.readUntil t rest).1, (LinesLoop.readUntil t rest).2) :=
  LinesLoop.readUntil_append_noEol t chunk (memchr_none_not_mem t chunk h) rest

theorem readUntil_append_some (t : UInt8) (chunk rest : Bytes) (i : Nat) (h : memchr t chunk = some i) :
    LinesLoop.readUntil t (chunk ++ rest) = (chunk.take (i + 1), chunk.drop (i + 1) ++ rest) := by
  obtain ⟨a, r, rfl, ha, rfl⟩ := StreamLoop.memchr_some h
  have e : a ++ t :: r = (a ++ [t]) ++ r := by simp
  rw [List.append_assoc, List.cons_append, LinesLoop.readUntil_eol t _ a ha, e,
    List.take_left' (by simp), List.drop_left' (by simp)]

theorem rawLines_memchr_some (t : UInt8) (rest l : Bytes) (i : Nat) (h : memchr t l = some i) :
    Space.rawLines t (l ++ rest) = l.take (i + 1) :: Space.rawLines t (l.drop (i + 1) ++ rest) := by
  obtain ⟨a, r, rfl, ha, rfl⟩ := StreamLoop.memchr_some h
  have e : a ++ t :: r = (a ++ [t]) ++ r := by simp
  rw [List.append_assoc, List.cons_append, Space.rawLines_of_eol t a _ ha, e,
    List.take_left' (by simp), List.drop_left' (by simp)]

theorem rawLines_pending (t : UInt8) (buf : Bytes) (hb : t ∉ buf) (x : Bytes) :
    Space.rawLines t (buf ++ x) =
      if (buf ++ (LinesLoop.readUntil t x).1).isEmpty then []
      else (buf ++ (LinesLoop.readUntil t x).1) :: Space.rawLines t (LinesLoop.readUntil t x).2 := by
  have hb' : ∀ c ∈ buf, c ≠ t := fun c hc e => hb (e ▸ hc)
  rcases exists_first_eol t x with h | ⟨a, r, rfl, h⟩
  · rw [LinesLoop.readUntil_noeol t x h, Space.rawLines_of_noeol t (buf ++ x)
      (List.forall_mem_append.2 ⟨hb', h⟩)]
    split <;> rfl
  · rw [LinesLoop.readUntil_eol t r a h, ← List.append_assoc, ← List.append_assoc,
      Space.rawLines_of_eol t (buf ++ a) r (List.forall_mem_append.2 ⟨hb', h⟩), if_neg (by simp)]

/-- call the closure on the records in order, threading its captured state; stop after the first
    call that returns `Ok(false)`, `Err(_)` (or panics): the run then ends with what was written
    so far and that status -/
def foldRecords {σ : Type} (f : Closure σ) : List Bytes → σ → Run
  | [], _ => Run.empty
  | rec :: t, st =>
    if (f rec st).1.status = .ok ∧ (f rec st).2.1 = true then (f rec st).1.seq (foldRecords f t (f rec st).2.2)
    else (f rec st).1

/-- the captured state after the closure has been called on the records in order, until a call
    returns `Ok(false)` or `Err(_)` (the companion of `foldRecords`, which gives the run) -/
def foldState {σ : Type} (f : Closure σ) : List Bytes → σ → σ
  | [], st => st
  | r :: t, st =>
    if (f r st).1.status = .ok ∧ (f r st).2.1 = true then foldState f t (f r st).2.2 else (f r st).2.2

theorem foldState_cons {σ : Type} (f : Closure σ) (r : Bytes) (t : List Bytes) (st : σ) :
    foldState f (r :: t) st =
      if (f r st).1.status = .ok ∧ (f r st).2.1 = true then foldState f t (f r st).2.2 else (f r st).2.2 := rfl

theorem splitAt?_of_le (buf : Bytes) (mid : Nat) (h : mid ≤ buf.length) :
    splitAt? buf mid = some (buf.take mid, buf.drop mid) := by
  simp [splitAt?, h]

theorem whileFindByte_succ {σ : Type} (t : UInt8) (f : Closure σ) (fuel : Nat) (buf : Bytes) (consumed : Nat)
    (st : σ) :
    whileFindByte t f (fuel + 1) buf consumed st =
      match memchr t buf with
      | none => ⟨Run.empty, false, buf, consumed, st⟩
      | some index =>
        match splitAt? buf (index + 1) with
        | none => ⟨Run.panic, true, buf, consumed, st⟩
        | some (record, rest) =>
          if (f record st).1.status = .ok then
            if (f record st).2.1 then
              { whileFindByte t f fuel rest (consumed + record.length) (f record st).2.2 with
                run := (f record st).1.seq
                  (whileFindByte t f fuel rest (consumed + record.length) (f record st).2.2).run }
            else ⟨(f record st).1, true, rest, consumed + record.length, (f record st).2.2⟩
          else ⟨(f record st).1, true, rest, consumed + record.length, (f record st).2.2⟩ := rfl

/-- io.rs:308-320 on a buffer `buf` followed (in later chunks) by `rest`: serving the records of
    `buf ++ rest` is what the loop does, then — unless it left by `break 'outer` — serving the
    records of `rest` with the final fragment `buf'` pending: for what is written (`foldRecords`) and
    for the captured state (`foldState`); `consumed + buf.len()` is invariant, the fragment is a suffix
    of `buf` without terminator.  The result of the loop is a variable `w` so that the conclusion can
    speak of its components; `whileFindByte_spec` is the instance `w := whileFindByte …`. -/
theorem whileFindByte_fold {σ : Type} (t : UInt8) (f : Closure σ) (rest : Bytes) :
    ∀ (fuel : Nat) (buf : Bytes) (consumed : Nat) (st : σ) (w : WhileOut σ), buf.length < fuel →
    whileFindByte t f fuel buf consumed st = w →
    foldRecords f (Space.rawLines t (buf ++ rest)) st =
      (if w.breakOuter then w.run else w.run.seq (foldRecords f (Space.rawLines t (w.buf ++ rest)) w.st))
    ∧ foldState f (Space.rawLines t (buf ++ rest)) st =
      (if w.breakOuter then w.st else foldState f (Space.rawLines t (w.buf ++ rest)) w.st)
    ∧ (w.breakOuter = false → w.consumed + w.buf.length = consumed + buf.length ∧
        (∃ served, Space.rawLines t (buf ++ rest) = served ++ Space.rawLines t (w.buf ++ rest)) ∧
        t ∉ w.buf ∧ ∃ pre, buf = pre ++ w.buf) := by
  intro fuel
  induction fuel with
  | zero => intro buf _ _ _ h; exact absurd h (Nat.not_lt_zero _)
  | succ fuel ih =>
    intro buf consumed st w hfuel hw
    rw [whileFindByte_succ] at hw
    cases hm : memchr t buf with
    | none =>
      rw [hm] at hw
      subst hw
      exact ⟨(Run.empty_seq _).symm, rfl, fun _ => ⟨rfl, ⟨[], rfl⟩, memchr_none_not_mem t buf hm, [], rfl⟩⟩
    | some index =>
      have hlt := memchr_some_lt t buf index hm
      rw [hm] at hw
      simp only [splitAt?_of_le buf (index + 1) hlt] at hw
      rw [rawLines_memchr_some t rest buf index hm, foldRecords, foldState_cons]
      obtain ⟨ih1, ih2, ih3⟩ := ih (buf.drop (index + 1)) (consumed + (buf.take (index + 1)).length)
        (f (buf.take (index + 1)) st).2.2 _ (by rw [List.length_drop]; omega) rfl
      by_cases hok : (f (buf.take (index + 1)) st).1.status = .ok
      · by_cases hk : (f (buf.take (index + 1)) st).2.1 = true
        · rw [if_pos hok, if_pos hk] at hw
          subst hw
          rw [if_pos (And.intro hok hk), if_pos (And.intro hok hk), ih1, ih2]
          refine ⟨?_, rfl, fun hb => ?_⟩
          · by_cases hb : (whileFindByte t f fuel (buf.drop (index + 1))
                (consumed + (buf.take (index + 1)).length) (f (buf.take (index + 1)) st).2.2).breakOuter = true
            · simp only [if_pos hb]
            · simp only [if_neg hb, Run.seq_assoc]
          · obtain ⟨i0, ⟨served, i2⟩, i3, pre, i4⟩ := ih3 hb
            refine ⟨by rw [i0, List.length_take, List.length_drop]; omega,
              ⟨buf.take (index + 1) :: served, by rw [i2]; rfl⟩, i3, buf.take (index + 1) ++ pre, ?_⟩
            rw [List.append_assoc, ← i4, List.take_append_drop]
        · rw [if_pos hok, if_neg hk] at hw
          subst hw
          exact ⟨by rw [if_neg (fun h => hk h.2)]; rfl, by rw [if_neg (fun h => hk h.2)]; rfl,
            fun hb => by cases hb⟩
      · rw [if_neg hok] at hw
        subst hw
        exact ⟨by rw [if_neg (fun h => hok h.1)]; rfl, by rw [if_neg (fun h => hok h.1)]; rfl,
          fun hb => by cases hb⟩

theorem whileFindByte_spec {σ : Type} (t : UInt8) (f : Closure σ) (rest : Bytes) :
    ∀ (fuel : Nat) (buf : Bytes) (consumed : Nat) (st : σ), buf.length < fuel →
    foldRecords f (Space.rawLines t (buf ++ rest)) st =
      (if (whileFindByte t f fuel buf consumed st).breakOuter then (whileFindByte t f fuel buf consumed st).run
       else (whileFindByte t f fuel buf consumed st).run.seq
         (foldRecords f (Space.rawLines t ((whileFindByte t f fuel buf consumed st).buf ++ rest))
           (whileFindByte t f fuel buf consumed st).st))
    ∧ ((whileFindByte t f fuel buf consumed st).breakOuter = false →
        (whileFindByte t f fuel buf consumed st).consumed + (whileFindByte t f fuel buf consumed st).buf.length
          = consumed + buf.length ∧ t ∉ (whileFindByte t f fuel buf consumed st).buf) :=
  fun fuel buf consumed st h =>
    ⟨(whileFindByte_fold t f rest fuel buf consumed st _ h rfl).1,
      fun hb => ⟨((whileFindByte_fold t f rest fuel buf consumed st _ h rfl).2.2 hb).1,
        ((whileFindByte_fold t f rest fuel buf consumed st _ h rfl).2.2 hb).2.2.1⟩⟩

theorem flatten_consume (n : Nat) (chunk : Bytes) (more : List Bytes) :
    (consume n (chunk :: more)).flatten = chunk.drop n ++ more.flatten := by
  rw [StreamLoop.consume_cons]
  by_cases h : n < chunk.length
  · rw [if_pos h]; simp
  · rw [if_neg h, List.drop_eq_nil_of_le (by omega)]; simp

theorem totalBytes_consume_le (n : Nat) (stdin : List Bytes) : totalBytes (consume n stdin) ≤ totalBytes stdin := by
  cases stdin with
  | nil => simp [consume]
  | cons chunk more =>
    rw [StreamLoop.consume_cons]
    by_cases h : n < chunk.length
    · rw [if_pos h]; simp [totalBytes]
    · rw [if_neg h]; simp [totalBytes]

/-- one turn of the loop of `read_until` (mod.rs:2248-2261): whether the delimiter was found, the
    number of bytes used, `buf` after `extend_from_slice`; `none`: the slice index panics -/
def readTurn (d : UInt8) (r : List Bytes) (buf : Bytes) : Option (Bool × Nat × Bytes) :=
  match memchr d (fillBuf r) with
  | some i => if i < (fillBuf r).length then some (true, i + 1, buf ++ (fillBuf r).take (i + 1)) else none
  | none => some (false, (fillBuf r).length, buf ++ fillBuf r)

theorem readUntilLoop_succ (t : UInt8) (fuel : Nat) (r : List Bytes) (buf : Bytes) (read : Nat) :
    readUntilLoop t (fuel + 1) r buf read =
      match readTurn t r buf with
      | none => .panic
      | some (done, used, buf) =>
        if done || used == 0 then .ok (read + used, buf, consume used r)
        else readUntilLoop t fuel (consume used r) buf (read + used) := rfl

/-- **std's `read_until` loop over `fill_buf` / `consume` is `read_until` on the concatenation**, through
    any number of chunks without terminator; the reader it leaves holds the rest -/
theorem readUntilLoop_readUntil (t : UInt8) : ∀ (fuel : Nat) (stdin : List Bytes) (buf : Bytes) (read : Nat),
    (∀ s ∈ stdin, s ≠ []) → totalBytes stdin < fuel →
    ∃ stdin', readUntilLoop t fuel stdin buf read =
        .ok (read + (LinesLoop.readUntil t stdin.flatten).1.length,
             buf ++ (LinesLoop.readUntil t stdin.flatten).1, stdin') ∧
      (∀ s ∈ stdin', s ≠ []) ∧ totalBytes stdin' ≤ totalBytes stdin ∧
      stdin'.flatten = (LinesLoop.readUntil t stdin.flatten).2 := by
  intro fuel
  induction fuel with
  | zero => intro stdin buf read _ h; exact absurd h (Nat.not_lt_zero _)
  | succ fuel ih =>
    intro stdin buf read hne hfuel
    rw [readUntilLoop_succ, readTurn]
    cases stdin with
    | nil => exact ⟨[], by simp [fillBuf, memchr, consume, LinesLoop.readUntil], hne, Nat.le_refl _, rfl⟩
    | cons chunk more =>
      obtain ⟨hc, hmore, htb, hfb⟩ := reader_cons hne
      rw [hfb, List.flatten_cons]
      cases hm : memchr t chunk with
      | some i =>
        have hlt := memchr_some_lt t chunk i hm
        rw [readUntil_append_some t chunk more.flatten i hm]
        refine ⟨consume (i + 1) (chunk :: more), ?_, StreamLoop.consume_nonempty _ _ hne,
          totalBytes_consume_le _ _, flatten_consume _ _ _⟩
        simp only [if_pos hlt, Bool.true_or, if_true, List.length_take,
          Nat.min_eq_left (Nat.succ_le_of_lt hlt)]
      | none =>
        rw [readUntil_append_none t chunk more.flatten hm]
        obtain ⟨stdin', h1, h2, h3, h4⟩ := ih more (buf ++ chunk) (read + chunk.length) hmore (by omega)
        refine ⟨stdin', ?_, h2, by omega, h4⟩
        simp only [beq_false_of_ne (Nat.ne_of_gt hc), Bool.false_or, Bool.false_eq_true, if_false, StreamLoop.consume_all, h1,
          List.length_append, List.append_assoc, Nat.add_assoc]

theorem readUntilLoop_spec (t : UInt8) : ∀ (fuel : Nat) (stdin : List Bytes) (buf : Bytes) (read : Nat),
    (∀ s ∈ stdin, s ≠ []) → totalBytes stdin < fuel → t ∉ buf →
    ∃ read' buf' stdin', readUntilLoop t fuel stdin buf read = .ok (read', buf', stdin') ∧
      (∀ s ∈ stdin', s ≠ []) ∧ totalBytes stdin' ≤ totalBytes stdin ∧
      Space.rawLines t (buf ++ stdin.flatten) =
        (if buf'.isEmpty then [] else buf' :: Space.rawLines t stdin'.flatten) := by
  intro fuel stdin buf read hne hfuel hb
  obtain ⟨stdin', h1, h2, h3, h4⟩ := readUntilLoop_readUntil t fuel stdin buf read hne hfuel
  exact ⟨_, _, stdin', h1, h2, h3, by rw [h4]; exact rawLines_pending t buf hb _⟩

/-- io.rs:325-343 for a chunk on which the `while` loop ended normally -/
def afterWhile {σ : Type} (t : UInt8) (f : Closure σ) (fuel : Nat) (stdin : List Bytes) (bytes : Bytes)
    (w : WhileOut σ) : Run × List Bytes :=
  match readUntilLoop t (totalBytes (consume (w.consumed + w.buf.length) stdin) + 1)
      (consume (w.consumed + w.buf.length) stdin) (bytes ++ w.buf) 0 with
  | .hang => (w.run.seq Run.hang, consume (w.consumed + w.buf.length) stdin)
  | .panic => (w.run.seq Run.panic, consume (w.consumed + w.buf.length) stdin)
  | .ok (_, bytes, stdin) =>
    if bytes.isEmpty then (w.run, consume 0 stdin)
    else
      if (f bytes w.st).1.status = .ok then
        if !(f bytes w.st).2.1 then (w.run.seq (f bytes w.st).1, consume 0 stdin)
        else
          ((w.run.seq (f bytes w.st).1).seq (outerLoop t f fuel stdin (TextLoops.clear bytes) 0 (f bytes w.st).2.2).1,
           (outerLoop t f fuel stdin (TextLoops.clear bytes) 0 (f bytes w.st).2.2).2)
      else (w.run.seq (f bytes w.st).1, stdin)

theorem outerLoop_succ {σ : Type} (t : UInt8) (f : Closure σ) (fuel : Nat) (stdin : List Bytes) (bytes : Bytes)
    (consumed : Nat) (st : σ) :
    outerLoop t f (fuel + 1) stdin bytes consumed st =
      if (fillBuf stdin).isEmpty then (Run.empty, consume consumed stdin)
      else
        if (whileFindByte t f ((fillBuf stdin).length + 1) (fillBuf stdin) consumed st).breakOuter then
          ((whileFindByte t f ((fillBuf stdin).length + 1) (fillBuf stdin) consumed st).run,
           consume (whileFindByte t f ((fillBuf stdin).length + 1) (fillBuf stdin) consumed st).consumed stdin)
        else afterWhile t f fuel stdin bytes
          (whileFindByte t f ((fillBuf stdin).length + 1) (fillBuf stdin) consumed st) := rfl

/-- **the `'outer` loop** (io.rs:301-343) from the top of an iteration (`bytes` empty, `consumed = 0`),
    for any fuel above the number of bytes left -/
theorem outerLoop_spec {σ : Type} (t : UInt8) (f : Closure σ) : ∀ (fuel : Nat) (stdin : List Bytes) (st : σ),
    (∀ s ∈ stdin, s ≠ []) → totalBytes stdin < fuel →
    (outerLoop t f fuel stdin [] 0 st).1 = foldRecords f (Space.rawLines t stdin.flatten) st := by
  intro fuel
  induction fuel with
  | zero => intro stdin st _ h; omega
  | succ fuel ih =>
    intro stdin st hne hfuel
    rw [outerLoop_succ]
    cases stdin with
    | nil => simp [fillBuf, Space.rawLines, Space.rawLinesAux, foldRecords]
    | cons chunk more =>
      obtain ⟨hclen, hmore, htb, hfb⟩ := reader_cons hne
      have hce : chunk.isEmpty = false := by
        cases chunk with
        | nil => cases hclen
        | cons _ _ => rfl
      rw [hfb, hce]
      simp only [Bool.false_eq_true, if_false]
      obtain ⟨hw1, hw2⟩ := whileFindByte_spec t f more.flatten (chunk.length + 1) chunk 0 st (by omega)
      rw [List.flatten_cons, hw1]
      generalize whileFindByte t f (chunk.length + 1) chunk 0 st = w at hw2 ⊢
      cases hb : w.breakOuter with
      | true => simp
      | false =>
        simp only [Bool.false_eq_true, if_false]
        obtain ⟨hcons, hnt⟩ := hw2 hb
        unfold afterWhile
        rw [hcons, Nat.zero_add, StreamLoop.consume_all, List.nil_append]
        obtain ⟨read', bytes', stdin', h1, h2, h3, h4⟩ :=
          readUntilLoop_spec t (totalBytes more + 1) more w.buf 0 hmore (by omega) hnt
        rw [h1, h4]
        simp only
        by_cases hbe : bytes'.isEmpty = true
        · rw [if_pos hbe, if_pos hbe]
          simp [foldRecords]
        · rw [if_neg hbe, if_neg hbe, foldRecords]
          by_cases hok : (f bytes' w.st).1.status = .ok
          · rw [if_pos hok]
            cases hk : (f bytes' w.st).2.1 with
            | true =>
              simp only [hok, and_self, if_true, Bool.not_true, Bool.false_eq_true, if_false]
              rw [show TextLoops.clear bytes' = ([] : Bytes) from rfl, ih stdin' _ h2 (by omega), Run.seq_assoc]
            | false =>
              simp [hok]
          · rw [if_neg hok, if_neg (fun h => hok h.1)]

theorem trimRecordSlice_snoc (cur : Bytes) (t : UInt8) : trimRecordSlice (cur ++ [t]) t = some cur := by
  simp [trimRecordSlice]

theorem trimRecordSlice_not_mem (cur : Bytes) (t : UInt8) (h : t ∉ cur) : trimRecordSlice cur t = some cur := by
  unfold trimRecordSlice
  rw [if_neg]
  intro hl
  exact h (List.mem_of_getLast? hl)

theorem stripSuffix_not_mem (cur : Bytes) (t : UInt8) (h : t ∉ cur) : stripSuffix cur [t] = none := by
  unfold stripSuffix
  rw [if_neg]
  intro hs
  rw [List.isSuffixOf_iff_suffix] at hs
  exact h (hs.subset (List.mem_singleton.mpr rfl))

/-- the closure `for_byte_record` hands to `for_byte_record_with_terminator` (io.rs:195-197) -/
def trimmed {σ : Type} (t : UInt8) (f : Closure σ) : Closure σ := fun chunk st =>
  match trimRecordSlice chunk t with
  | none => (Run.panic, false, st)
  | some record => f record st

theorem forByteRecordLoop_eq {σ : Type} (t : UInt8) (f : Closure σ) (stdin : List Bytes) (st : σ) :
    forByteRecordLoop t f stdin st = outerLoop t (trimmed t f) (fuelFor stdin) stdin [] 0 st := rfl

theorem records_not_mem (t : UInt8) (input : Bytes) : ∀ r ∈ records t input, t ∉ r :=
  fun r hr hm => records_noeol t input r hr t hm rfl

theorem trimmed_of_line {σ : Type} (t : UInt8) (f : Closure σ) (input : Bytes) :
    ∀ l ∈ Space.rawLines t input, trimmed t f l = f (stripEol t l) := by
  intro l hl
  funext st
  rcases rawLines_cases t input l hl with ⟨a, _, rfl⟩ | ⟨h, _⟩
  · rw [LinesLoop.stripEol_append_eol, trimmed, trimRecordSlice_snoc]
  · rw [LinesLoop.stripEol_noeol t l h, trimmed,
      trimRecordSlice_not_mem l t fun hm => h t hm rfl]

theorem fold_congr_map {σ : Type} (f g : Closure σ) (s : Bytes → Bytes) :
    ∀ (ls : List Bytes) (st : σ), (∀ l ∈ ls, f l = g (s l)) →
      foldRecords f ls st = foldRecords g (ls.map s) st ∧ foldState f ls st = foldState g (ls.map s) st
  | [], _, _ => ⟨rfl, rfl⟩
  | l :: t, st, h => by
    have ih := fold_congr_map f g s t (g (s l) st).2.2 fun x hx => h x (List.mem_cons_of_mem _ hx)
    simp only [foldRecords, foldState, List.map_cons, h l List.mem_cons_self, ih.1, ih.2, and_self]

/-- trimming the terminated records (`trim_record_slice`, io.rs:196) gives the `records` of `Tuc.Model.Text` -/
theorem fold_trimmed {σ : Type} (t : UInt8) (f : Closure σ) (input : Bytes) (st : σ) :
    foldRecords (trimmed t f) (Space.rawLines t input) st = foldRecords f (records t input) st ∧
    foldState (trimmed t f) (Space.rawLines t input) st = foldState f (records t input) st := by
  rw [records_eq_map_stripEol]
  exact fold_congr_map _ _ _ _ _ (trimmed_of_line t f input)

theorem cutStrClosure_not_mem (opt : Opt) (r : Bytes) (st : List Range × Bytes) (h : opt.eol.byte ∉ r) :
    cutStrClosure opt r st =
      ((cutStr r opt st.1 st.2 [opt.eol.byte]).1, true,
       ((cutStr r opt st.1 st.2 [opt.eol.byte]).2.1, (cutStr r opt st.1 st.2 [opt.eol.byte]).2.2)) := by
  simp only [cutStrClosure, stripSuffix_not_mem r _ h, Option.getD_none]

theorem cutRecords_cons (opt : Opt) (r : Bytes) (t : List Bytes) (fields : List Range) (buf : Bytes) :
    cutRecords opt (r :: t) fields buf =
      (cutStr r opt fields buf [opt.eol.byte]).1.seq
        (cutRecords opt t (cutStr r opt fields buf [opt.eol.byte]).2.1
          (cutStr r opt fields buf [opt.eol.byte]).2.2) := rfl

/-- folding the closure of `read_and_cut_str` (l.472-485) over records without terminator is
    `cutRecords`: the second `strip_suffix` (l.473) finds nothing to strip, the scratch buffers are
    threaded the same way, an `Err` of `cut_str` stops the loop with what was written so far -/
theorem foldRecords_cutStrClosure (opt : Opt) : ∀ (recs : List Bytes) (st : List Range × Bytes),
    (∀ r ∈ recs, opt.eol.byte ∉ r) →
    foldRecords (cutStrClosure opt) recs st = cutRecords opt recs st.1 st.2 := by
  intro recs
  induction recs with
  | nil => intro st _; rfl
  | cons r t ih =>
    intro st h
    have hr := h r (List.mem_cons_self ..)
    have ht : ∀ r' ∈ t, opt.eol.byte ∉ r' := fun r' hr' => h r' (List.mem_cons_of_mem _ hr')
    simp only [foldRecords, cutStrClosure_not_mem opt r st hr, cutRecords_cons, and_true]
    rw [ih _ ht]
    split
    · rfl
    · rename_i hs
      rw [Run.seq_of_not_ok _ _ hs]

theorem totalBytes_lt_fuelFor (stdin : List Bytes) : totalBytes stdin < fuelFor stdin := by
  unfold fuelFor; omega

/-- `for_byte_record_with_terminator` (bstr): the closure is called on exactly the terminated records of
    the concatenated input -/
theorem forByteRecordWithTerminatorLoop_eq {σ : Type} (t : UInt8) (f : Closure σ) (segs : List Bytes) (st : σ)
    (h : ∀ s ∈ segs, s ≠ []) :
    (forByteRecordWithTerminatorLoop t f segs st).1 = foldRecords f (Space.rawLines t segs.flatten) st :=
  outerLoop_spec t f _ segs st h (totalBytes_lt_fuelFor segs)

theorem forByteRecordLoop_eq_records {σ : Type} (t : UInt8) (f : Closure σ) (segs : List Bytes) (st : σ)
    (h : ∀ s ∈ segs, s ≠ []) :
    (forByteRecordLoop t f segs st).1 = foldRecords f (records t segs.flatten) st := by
  rw [forByteRecordLoop_eq, outerLoop_spec _ _ _ _ _ h (totalBytes_lt_fuelFor segs),
    (fold_trimmed t f segs.flatten st).1]

/-- the fuel of the `'outer` loop is not observable: any amount above the number of bytes gives
    the run of `forByteRecordWithTerminatorLoop` (which is entered with `2 · bytes + 2`), so
    `hang` never comes from the fuel; the inner loops are entered with `buf.len() + 1` and
    `bytes + 1` units, and `whileFindByte_spec` / `readUntilLoop_spec` hold from there on -/
theorem outerLoop_fuel_irrelevant {σ : Type} (t : UInt8) (f : Closure σ) (segs : List Bytes) (st : σ)
    (h : ∀ s ∈ segs, s ≠ []) (fuel : Nat) (hfuel : totalBytes segs < fuel) :
    (outerLoop t f fuel segs [] 0 st).1 = (forByteRecordWithTerminatorLoop t f segs st).1 := by
  rw [forByteRecordWithTerminatorLoop_eq t f segs st h]
  exact outerLoop_spec t f fuel segs st h hfuel

/-- **Refinement, general engine.**  For every option record and every list of non-empty reads
    the literal `read_and_cut_str` — `for_byte_record`, `for_byte_record_with_terminator`,
    `read_until`, the closure — writes the same bytes and ends with the same status as
    `readAndCutStr` on the concatenation of the reads.  In particular the checked operations
    (`split_at`, the three slices) never panic and no loop runs out of fuel.

    `h` is the `BufRead` contract the loops rely on: an empty `fill_buf()` IS end of input for
    them (io.rs:305, mod.rs:2266), whereas `List.flatten` silently drops an empty chunk; a
    `BufReader` (and the harness' `SegReader`) hands out an empty buffer only at EOF.  The
    `#guard` after the theorem shows that `h` cannot be dropped. -/
theorem readAndCutStrLoop_eq (opt : Opt) (segs : List Bytes) (h : ∀ s ∈ segs, s ≠ []) :
    readAndCutStrLoop opt segs = readAndCutStr opt segs.flatten := by
  unfold readAndCutStrLoop readAndCutStr
  simp only [Run.seq_empty]
  rw [forByteRecordLoop_eq_records _ _ _ _ h,
    foldRecords_cutStrClosure opt _ _ (records_not_mem opt.eol.byte segs.flatten)]

/-- the general engine does not depend on how the input is chunked -/
theorem readAndCutStrLoop_chunking (opt : Opt) (segs segs' : List Bytes) (h : ∀ s ∈ segs, s ≠ [])
    (h' : ∀ s ∈ segs', s ≠ []) (he : segs.flatten = segs'.flatten) :
    readAndCutStrLoop opt segs = readAndCutStrLoop opt segs' := by
  rw [readAndCutStrLoop_eq opt segs h, readAndCutStrLoop_eq opt segs' h', he]

/-- no panic and no endless loop in the literal general engine (for bounds without the index 0 —
    the parser produces no other — and regexes that honour the contract of `find_iter`) -/
theorem readAndCutStrLoop_safe (opt : Opt) (hbag : ∀ bag, opt.regexBag = some bag → bag.OK)
    (hl : LNZ opt.bounds.list) (segs : List Bytes) (h : ∀ s ∈ segs, s ≠ []) :
    (readAndCutStrLoop opt segs).Safe := by
  rw [readAndCutStrLoop_eq opt segs h]
  exact readAndCutStr_safe opt hbag hl _

theorem readToEndLoop_succ (fuel : Nat) (r : List Bytes) (buf : Bytes) (read : Nat) :
    readToEndLoop (fuel + 1) r buf read =
      if ((fillBuf r).length == 0) = true then .ok (read, buf ++ fillBuf r, consume (fillBuf r).length r)
      else readToEndLoop fuel (consume (fillBuf r).length r) (buf ++ fillBuf r) (read + (fillBuf r).length) := rfl

theorem readToEndLoop_spec : ∀ (fuel : Nat) (stdin : List Bytes) (buf : Bytes) (read : Nat),
    (∀ s ∈ stdin, s ≠ []) → totalBytes stdin < fuel →
    readToEndLoop fuel stdin buf read = .ok (read + totalBytes stdin, buf ++ stdin.flatten, []) := by
  intro fuel
  induction fuel with
  | zero => intro stdin buf read _ h; omega
  | succ fuel ih =>
    intro stdin buf read hne hfuel
    rw [readToEndLoop_succ]
    cases stdin with
    | nil => simp [fillBuf, consume, totalBytes]
    | cons chunk more =>
      obtain ⟨hclen, hmore, htb, hfb⟩ := reader_cons hne
      rw [hfb, beq_false_of_ne (Nat.ne_of_gt hclen), StreamLoop.consume_all, ih more _ _ hmore (by omega), htb]
      simp [Nat.add_assoc]

theorem totalBytes_eq_length_flatten (stdin : List Bytes) : totalBytes stdin = stdin.flatten.length := by
  induction stdin with
  | nil => rfl
  | cons c t ih => simp [totalBytes, ih]

theorem readBytesToEndLit_eq (segs : List Bytes) (buffer : Bytes) (h : ∀ s ∈ segs, s ≠ []) :
    readBytesToEndLit segs buffer =
      .ok ((if segs.flatten.isEmpty then none else some ()), segs.flatten, []) := by
  unfold readBytesToEndLit
  simp only [TextLoops.clear]
  rw [readToEndLoop_spec _ _ _ _ h (totalBytes_lt_fuelFor segs)]
  simp only [Nat.zero_add, List.nil_append, totalBytes_eq_length_flatten]
  cases segs.flatten <;> simp

/-- the closure of `try_for_each` (cut_bytes.rs:13-33) against the loop of the model -/
theorem tryForEach_cutBytesBody (data : Bytes) (opt : Opt) : ∀ l : List BoF,
    tryForEach (cutBytesBody data opt) l = cutBytesLoop data opt l := by
  intro l
  induction l with
  | nil => rfl
  | cons bof t ih =>
    rw [tryForEach, ih]
    cases bof with
    | filler f => simp [cutBytesBody, cutBytesLoop, Run.seq_ok]
    | bound b =>
      cases hr : b.tryIntoRange data.length with
      | some r =>
        obtain ⟨s, e⟩ := r
        by_cases hse : s ≤ e ∧ e ≤ data.length
        · simp [cutBytesBody, cutBytesLoop, hr, hse, Run.seq_ok]
        · simp [cutBytesBody, cutBytesLoop, hr, hse, Run.seq, Run.panic]
      | none =>
        cases hf : b.fallback with
        | some fb => simp [cutBytesBody, cutBytesLoop, hr, hf, Run.seq_ok]
        | none =>
          cases hg : opt.fallbackOob with
          | some g => simp [cutBytesBody, cutBytesLoop, hr, hf, hg, Run.seq_ok]
          | none => simp [cutBytesBody, cutBytesLoop, hr, hf, hg, Run.seq, Run.fail]

theorem cutBytesLit_eq (data : Bytes) (opt : Opt) : cutBytesLit data opt = readAndCutBytes opt data := by
  unfold cutBytesLit readAndCutBytes
  rw [tryForEach_cutBytesBody, Run.seq_empty]

/-- **Refinement, byte mode.**  For every option record and every list of non-empty reads the
    literal `read_and_cut_bytes` (`read_bytes_to_end`, `read_to_end`, `cut_bytes`) is
    `readAndCutBytes` on the concatenation.  `h`: as for `readAndCutStrLoop_eq` (an empty read is
    EOF for `read_to_end`); the `#guard` below shows it cannot be dropped. -/
theorem readAndCutBytesLoop_eq (opt : Opt) (segs : List Bytes) (h : ∀ s ∈ segs, s ≠ []) :
    readAndCutBytesLoop opt segs = readAndCutBytes opt segs.flatten := by
  unfold readAndCutBytesLoop
  simp only [readBytesToEndLit_eq segs [] h, Run.seq_empty, cutBytesLit_eq]

/-- byte mode does not depend on how the input is chunked -/
theorem readAndCutBytesLoop_chunking (opt : Opt) (segs segs' : List Bytes) (h : ∀ s ∈ segs, s ≠ [])
    (h' : ∀ s ∈ segs', s ≠ []) (he : segs.flatten = segs'.flatten) :
    readAndCutBytesLoop opt segs = readAndCutBytesLoop opt segs' := by
  rw [readAndCutBytesLoop_eq opt segs h, readAndCutBytesLoop_eq opt segs' h', he]

/-- no panic and no endless loop in the literal byte mode -/
theorem readAndCutBytesLoop_safe (opt : Opt) (hl : LNZ opt.bounds.list) (segs : List Bytes)
    (h : ∀ s ∈ segs, s ≠ []) : (readAndCutBytesLoop opt segs).Safe := by
  rw [readAndCutBytesLoop_eq opt segs h]
  exact readAndCutBytes_safe opt hl _

/-! ## concrete runs

Options built the way `main` builds them (`boundsListOfString`), delimiter `-`. -/

/-- `tuc -d - -f <bounds>` plus whatever `f` changes -/
def mkOpt (bounds : String) (f : Opt → Opt := id) : Opt :=
  match boundsListOfString bounds.toList with
  | .ok l => f { delimiter := [0x2d], bounds := l }
  | _ => f { delimiter := [0x2d], bounds := ⟨[], .cont⟩ }

def bytesOf (s : String) : Bytes := s.toUTF8.toList

def okS (s : String) : Run := Run.ok (bytesOf s)

/-- the literal general engine on the given reads, the model on their concatenation, and the
    expected run -/
def bothStr (o : Opt) (reads : List String) (expected : Run) : Bool :=
  let segs := reads.map bytesOf
  readAndCutStrLoop o segs == expected && readAndCutStr o segs.flatten == expected

def bothBytes (o : Opt) (reads : List String) (expected : Run) : Bool :=
  let segs := reads.map bytesOf
  readAndCutBytesLoop o segs == expected && readAndCutBytes o segs.flatten == expected

/-- non-vacuity of `readAndCutStrLoop_eq`: a record that straddles three reads, a terminator that
    is the last byte of a read, a final record without terminator -/
example :
    readAndCutStrLoop (mkOpt "2") [[0x61, 0x2d, 0x62, 0x0a, 0x63], [0x63], [0x2d, 0x64, 0x0a], [0x65, 0x2d, 0x66]] =
      readAndCutStr (mkOpt "2") [0x61, 0x2d, 0x62, 0x0a, 0x63, 0x63, 0x2d, 0x64, 0x0a, 0x65, 0x2d, 0x66] :=
  readAndCutStrLoop_eq (mkOpt "2") [[0x61, 0x2d, 0x62, 0x0a, 0x63], [0x63], [0x2d, 0x64, 0x0a], [0x65, 0x2d, 0x66]]
    (by decide)

#guard bothStr (mkOpt "2") ["a-b\nc", "c", "-d\n", "e-f"] (okS "b\nd\nf\n")

/-- non-vacuity of `readAndCutBytesLoop_eq` -/
example :
    readAndCutBytesLoop (mkOpt "2:3,-1" (fun o => { o with boundsType := .bytes }))
        [[0x61, 0x62], [0x63], [0x64, 0x65]] =
      readAndCutBytes (mkOpt "2:3,-1" (fun o => { o with boundsType := .bytes })) [0x61, 0x62, 0x63, 0x64, 0x65] :=
  readAndCutBytesLoop_eq (mkOpt "2:3,-1" (fun o => { o with boundsType := .bytes }))
    [[0x61, 0x62], [0x63], [0x64, 0x65]] (by decide)

#guard bothBytes (mkOpt "2:3,-1" (fun o => { o with boundsType := .bytes })) ["ab", "c", "de"] (okS "bce")

-- the hypothesis of `readAndCutStrLoop_eq` cannot be dropped: an empty read is EOF for
-- `read_until` (mod.rs:2266) — the record "c-" ends there, "d" is the next one and has no field 2 —,
-- invisible to `flatten`
#guard readAndCutStrLoop (mkOpt "2") [bytesOf "a-b\nc-", [], bytesOf "d\n"] == ⟨bytesOf "b\n\n", .fail⟩
#guard readAndCutStr (mkOpt "2") [bytesOf "a-b\nc-", [], bytesOf "d\n"].flatten == okS "b\nd\n"
-- … and EOF for the `'outer` loop (io.rs:305)
#guard readAndCutStrLoop (mkOpt "1") [bytesOf "a\n", [], bytesOf "b\n"] == okS "a\n"
#guard readAndCutStr (mkOpt "1") [bytesOf "a\n", [], bytesOf "b\n"].flatten == okS "a\nb\n"
-- the hypothesis of `readAndCutBytesLoop_eq` cannot be dropped: an empty read ends `read_to_end`
#guard readAndCutBytesLoop (mkOpt "1:" (fun o => { o with boundsType := .bytes }))
  [bytesOf "ab", [], bytesOf "cd"] == okS "ab"
#guard readAndCutBytes (mkOpt "1:" (fun o => { o with boundsType := .bytes }))
  [bytesOf "ab", [], bytesOf "cd"].flatten == okS "abcd"

-- the record that straddles several reads, byte by byte
#guard bothStr (mkOpt "2,1") ["a", "b", "-", "c", "d", "\n"] (okS "cdab\n")
-- a terminator that is the last byte of a read; the next read starts a record
#guard bothStr (mkOpt "1") ["a-b\n", "c-d\n"] (okS "a\nc\n")
-- a terminator that is the first byte of a read (it ends the fragment kept in `bytes`)
#guard bothStr (mkOpt "2") ["a-b", "\nc-d"] (okS "b\nd\n")
-- the final record without terminator, in the same read as complete records / alone in `bytes`
#guard bothStr (mkOpt "1") ["a\nb"] (okS "a\nb\n")
#guard bothStr (mkOpt "1") ["a\n", "b"] (okS "a\nb\n")
-- the empty input; the input that is one terminator; empty records
#guard bothStr (mkOpt "1") [] Run.empty
#guard bothStr (mkOpt "1") ["\n"] (okS "\n")
#guard bothStr (mkOpt "1") ["\n", "\n\n", "a"] (okS "\n\n\na\n")
-- the input ends exactly at the end of a read, with / without terminator
#guard bothStr (mkOpt "2") ["a-b\n", "c-d\n"] (okS "b\nd\n")
#guard bothStr (mkOpt "2") ["a-b\n", "c-d"] (okS "b\nd\n")
-- `cut_str` fails on the 2nd record: status `fail` after the output of the 1st, the 3rd is not
-- read; the failing call is made from the `while let` (l.312) …
#guard bothStr (mkOpt "2") ["a-b\nc\ne-f\n"] ⟨bytesOf "b\n", .fail⟩
-- … and from l.337 (the record straddles two reads)
#guard bothStr (mkOpt "2") ["a-b\n", "c", "\ne-f\n"] ⟨bytesOf "b\n", .fail⟩
-- -z: NUL ends the records, LF is an ordinary byte
#guard bothStr (mkOpt "2" (fun o => { o with eol := .zero })) ["a-b\n\x00c", "-d\x00"] (okS "b\n\x00d\x00")
-- the scratch buffers survive from one call of the closure to the next (`-p`, compressed record)
#guard bothStr (mkOpt "2" (fun o => { o with compressDelimiter := true })) ["a--b\nc", "---d\n"] (okS "b\nd\n")
-- byte mode: one read, byte by byte, the empty input (`None`), out of bounds with / without fallback
#guard bothBytes (mkOpt "2:3" (fun o => { o with boundsType := .bytes })) ["abcd"] (okS "bc")
#guard bothBytes (mkOpt "2:3" (fun o => { o with boundsType := .bytes })) ["a", "b", "c", "d"] (okS "bc")
#guard bothBytes (mkOpt "2:3" (fun o => { o with boundsType := .bytes })) [] Run.empty
#guard bothBytes (mkOpt "1,7" (fun o => { o with boundsType := .bytes })) ["ab", "c"] ⟨bytesOf "a", .fail⟩
#guard bothBytes (mkOpt "1,7=x" (fun o => { o with boundsType := .bytes })) ["ab", "c"] (okS "ax")

/-! ## the loop's record sequence, observed

`for_byte_record` with a closure that writes `<record>` : the records, for every segmentation. -/

def showRecord : Closure Unit := fun record st => (Run.ok ([0x3c] ++ record ++ [0x3e]), true, st)

#guard (StreamLoop.segmentations (bytesOf "ab\n\ncd\ne")).all fun segs =>
  (forByteRecordLoop 0x0a showRecord segs ()).1 == okS "<ab><><cd><e>"
#guard (StreamLoop.segmentations (bytesOf "ab\n\ncd\n")).all fun segs =>
  (forByteRecordWithTerminatorLoop 0x0a showRecord segs ()).1 == okS "<ab\n><\n><cd\n>"
-- a closure that says `Ok(false)` on the second record: the loop stops after it, status `ok`
def stopAtSecond : Closure Nat := fun record n => (Run.ok ([0x3c] ++ record ++ [0x3e]), n == 0, n + 1)

#guard (StreamLoop.segmentations (bytesOf "ab\n\ncd\ne")).all fun segs =>
  (forByteRecordLoop 0x0a stopAtSecond segs 0).1 == okS "<ab><>"

/-! ## exhaustive comparison on a small space

Independent of the proofs (it runs the two definitions): every input of at most 5 bytes over
`{a, -, LF}` × every segmentation into non-empty reads × 10 option records (6 bytes for the first
three), the same over `{a, -, NUL, LF}` up to 5 bytes for `-z`, and byte mode over `{a, b}` up to
6 bytes × 6 bounds. -/

def optsStr : List Opt :=
  [ mkOpt "1", mkOpt "2", mkOpt "1,3" (fun o => { o with join := true }), mkOpt "2:", mkOpt "-1",
    mkOpt "{1}x{3=fb}y", mkOpt "2" (fun o => { o with fallbackOob := some [0x46] }),
    mkOpt "2" (fun o => { o with onlyDelimited := true }),
    mkOpt "1,2" (fun o => { o with compressDelimiter := true, join := true, replaceDelimiter := some [0x2f] }),
    mkOpt "2:3" (fun o => { o with boundsType := .characters, delimiter := [] }) ]

def optsStrZ : List Opt :=
  [ mkOpt "1" (fun o => { o with eol := .zero }), mkOpt "2" (fun o => { o with eol := .zero }) ]

def optsBytes : List Opt :=
  (["1", "2:3", "-1", "3:,1", "x{2}y", "7=F,1"].map fun b => mkOpt b (fun o => { o with boundsType := .bytes }))

/-- number of (option, segmented input) pairs on which literal and model differ -/
def disagreements (lit : Opt → List Bytes → Run) (model : Opt → Bytes → Run) (opts : List Opt)
    (alpha : List UInt8) (n : Nat) : Nat :=
  (opts.map fun o =>
    ((StreamLoop.wordsUpTo alpha n).map fun w =>
      ((StreamLoop.segmentations w).filter fun s => lit o s != model o w).length).sum).sum

def countCases (opts : List Opt) (alpha : List UInt8) (n : Nat) : Nat :=
  opts.length * ((StreamLoop.wordsUpTo alpha n).map fun w => (StreamLoop.segmentations w).length).sum

-- every option text above parses
#guard (optsStr ++ optsStrZ ++ optsBytes).all fun o => !o.bounds.list.isEmpty
#guard countCases optsStr [0x61, 0x2d, 0x0a] 5 == 46660
#guard disagreements readAndCutStrLoop readAndCutStr optsStr [0x61, 0x2d, 0x0a] 5 == 0
#guard countCases (optsStr.take 3) [0x61, 0x2d, 0x0a] 6 == 83982
#guard disagreements readAndCutStrLoop readAndCutStr (optsStr.take 3) [0x61, 0x2d, 0x0a] 6 == 0
#guard countCases optsStrZ [0x61, 0x2d, 0x00, 0x0a] 5 == 37450
#guard disagreements readAndCutStrLoop readAndCutStr optsStrZ [0x61, 0x2d, 0x00, 0x0a] 5 == 0
#guard countCases optsBytes [0x61, 0x62] 6 == 16386
#guard disagreements readAndCutBytesLoop readAndCutBytes optsBytes [0x61, 0x62] 6 == 0

end ReadLoops
end Tuc
