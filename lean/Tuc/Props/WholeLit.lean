import Tuc.Model.WholeLit
import Tuc.Props.OptLit
import Tuc.Props.ReadLoops
import Tuc.Props.CutStrLit
import Tuc.Props.FastLoop
import Tuc.Props.StreamLoop
import Tuc.Props.LinesLoop
import Tuc.Props.MainLevel
import Tuc.Props.EndToEnd

/-!
# Tuc.Props.WholeLit — the program assembled from the statement-level transcriptions IS `tucMain`

`Tuc.Model.WholeLit.tucProgramLit regexOk argv segs` is the whole program — `parse_args`, the regex
bag, the option records of the engines, the dispatch of `main`, and every engine — in which every
call goes to the statement-by-statement transcription of the callee, over a reader that hands the
input out in the pieces `segs`.  `tucMain` (`Tuc.Model.Main`) is the normal-form model that the
end-to-end property theorems (`Tuc.Props.EndToEnd`, `MainLevel`, `MainLevel2`) speak about.

* **`tucProgramLit_eq : InDomain regexOk argv segs → tucProgramLit regexOk argv segs = tucMain regexOk argv segs`**
  — every argument vector (any spelling, accepted or not, `-e RE` included), every input, every
  segmentation.  `InDomain` (`programFitsB … = true`, decidable) says, and only when `parse_args`
  returned an `Opt`, the regex is one the model compiles and the run is not `-c` on input that is not
  UTF-8 (otherwise both sides are `help` / `version` / `reject` / `unmodelled`):
  1. no read is empty — the `BufRead` contract: an empty `fill_buf()` is EOF for every Rust loop,
     `List.flatten` does not see it (witnesses: the last section of the file; unreachable in the real program);
  2. `inputFitsB opt input`: what the engine that `main` selects needs from the input (its docstring).
  No hypothesis on the bounds: `CutStrLitProps.boundsOk_of_parseArgv`.
-/

namespace Tuc
namespace WholeLit

open StreamLoop (fillBuf consume memchr totalBytes fuelFor)
open ReadLoops (Closure forByteRecordLoop readUntilLoop readToEndLoop stripSuffix foldRecords)
open CutStrLitProps (BoundsOk FieldsFit fieldsFitB)
open OptLit
open FastLoop (CounterFits)

theorem foldRecords_congr {σ : Type} (f g : Closure σ) (recs : List Bytes) (st : σ)
    (h : ∀ r ∈ recs, ∀ st, f r st = g r st) : foldRecords f recs st = foldRecords g recs st := by
  have := (ReadLoops.fold_congr_map f g id recs st fun r hr => funext (h r hr)).1
  rwa [List.map_id] at this

/-- l.472-485 with the statement-level `cut_str` = the closure of `Tuc.Model.ReadLoops` (callee: the
    normal-form `cutStr`), on a record that `for_byte_record` hands out (no terminator inside) -/
theorem cutStrLitClosure_eq (opt : Opt) (hb : BoundsOk opt.bounds.list) (r : Bytes)
    (st : List Range × Bytes) (hr : opt.eol.byte ∉ r) (hn : FieldsFit r opt) :
    cutStrLitClosure opt r st = ReadLoops.cutStrClosure opt r st := by
  simp only [cutStrLitClosure, ReadLoops.cutStrClosure, ReadLoops.stripSuffix_not_mem r _ hr,
    Option.getD_none, CutStrLitProps.cutStrLit_eq r opt st.1 st.2 _ hb hn]

/-- **the general engine**: `read_and_cut_str` made of bstr's `for_byte_record`, std's
    `read_until` and the statement-level `cut_str` -/
theorem readAndCutStrWhole_eq (opt : Opt) (segs : List Bytes) (hb : BoundsOk opt.bounds.list)
    (hsegs : ∀ s ∈ segs, s ≠ [])
    (hn : ∀ r ∈ records opt.eol.byte segs.flatten, FieldsFit r opt) :
    readAndCutStrWhole opt segs = readAndCutStr opt segs.flatten := by
  rw [← ReadLoops.readAndCutStrLoop_eq opt segs hsegs]
  unfold readAndCutStrWhole ReadLoops.readAndCutStrLoop
  simp only [ReadLoops.forByteRecordLoop_eq_records _ _ _ _ hsegs]
  rw [foldRecords_congr _ _ _ _ (fun r hr st =>
    cutStrLitClosure_eq opt hb r st (ReadLoops.records_not_mem _ _ r hr) (hn r hr))]

theorem foldRecords_fastLaneClosure (opt : FastOpt) (lif : Side) : ∀ (recs : List Bytes) (fields : List Nat),
    foldRecords (fastLaneClosure opt lif) recs fields = FastLoop.forByteRecord opt lif recs fields
  | [], _ => rfl
  | r :: t, fields => by
    simp only [foldRecords, FastLoop.forByteRecord, fastLaneClosure, and_true]
    rw [foldRecords_fastLaneClosure opt lif t]
    split
    · rfl
    · rename_i hs
      rw [Run.seq_of_not_ok _ _ hs]

theorem readAndCutTextAsBytesWhole_loop (opt : FastOpt) (segs : List Bytes) (hsegs : ∀ s ∈ segs, s ≠ []) :
    readAndCutTextAsBytesWhole opt segs = readAndCutTextAsBytesLoop opt segs.flatten := by
  unfold readAndCutTextAsBytesWhole readAndCutTextAsBytesLoop
  simp only [ReadLoops.forByteRecordLoop_eq_records _ _ _ _ hsegs, foldRecords_fastLaneClosure]
  cases opt.eol <;> rfl

/-- **the fast lane**: `read_and_cut_text_as_bytes` made of `for_byte_record`, `read_until` and the
    statement-level `cut_str_fast_lane` -/
theorem readAndCutTextAsBytesWhole_eq (opt : FastOpt) (segs : List Bytes) (hsegs : ∀ s ∈ segs, s ≠ [])
    (hfit : ∀ r ∈ records opt.eol.byte segs.flatten, CounterFits opt.bounds.lastInteresting r.length) :
    readAndCutTextAsBytesWhole opt segs = readAndCutFast opt segs.flatten := by
  rw [readAndCutTextAsBytesWhole_loop opt segs hsegs, readAndCutTextAsBytesLoop_eq opt _ hfit]

/-- **`-M`**: `read_and_cut_bytes_stream` with the statement-level `cut_bytes_stream` -/
theorem readAndCutBytesStreamWhole_eq (o : Opt) (s : StreamOptLit) (h : StreamOptLit.tryFrom o = .ok s)
    (segs : List Bytes) (hsegs : ∀ x ∈ segs, x ≠ []) :
    readAndCutBytesStreamWhole s segs = readAndCutBytesStreamLit s segs := by
  obtain ⟨_, _, _, b, hb, hso⟩ := StreamOptLit.tryFrom_ok o s h
  unfold readAndCutBytesStreamWhole readAndCutBytesStreamLit
  simp only [hb, Run.seq_empty]
  exact StreamLoop.cutBytesStreamLoop_of_opt o _ hso segs hsegs

theorem readLineWithEolSeg_eq (segs : List Bytes) (eol : EOL) (hsegs : ∀ s ∈ segs, s ≠ []) :
    ∃ segs', readLineWithEolSeg segs eol = .ok ((LinesLoop.readLineWithEol segs.flatten eol).1, segs') ∧
      (∀ s ∈ segs', s ≠ []) ∧ segs'.flatten = (LinesLoop.readLineWithEol segs.flatten eol).2 := by
  obtain ⟨segs', h1, h2, _, h3⟩ := ReadLoops.readUntilLoop_readUntil eol.byte (totalBytes segs + 1) segs [] 0
    hsegs (Nat.lt_succ_self _)
  rw [LinesLoop.readLineWithEol_def]
  refine ⟨segs', ?_, h2, h3⟩
  -- as in `readLineWithEol_def`: both arms run `read_until` from an empty buffer
  cases eol with
  | newline =>
    have h1 : readUntilLoop 10 _ segs [] 0 = _ := h1
    cases hv : validUtf8 (LinesLoop.readUntil 10 segs.flatten).1 <;>
      cases hz : (LinesLoop.readUntil 10 segs.flatten).1.length == 0 <;>
      simp only [readLineWithEolSeg, h1, EOL.byte, Nat.zero_add, List.nil_append, hv, hz, Bool.false_eq_true,
        if_false, if_true]
  | zero =>
    have h1 : readUntilLoop 0 _ segs [] 0 = _ := h1
    cases hv : validUtf8 (LinesLoop.readUntil 0 segs.flatten).1 <;>
      cases hz : (LinesLoop.readUntil 0 segs.flatten).1.length == 0 <;>
      simp only [readLineWithEolSeg, h1, EOL.byte, Nat.zero_add, List.nil_append, hv, hz, Bool.false_eq_true,
        if_false, if_true]

theorem readWhileSeg_eq (opt : Opt) : ∀ (fuel : Nat) (segs : List Bytes) (v : LinesLoop.Vars),
    (∀ s ∈ segs, s ≠ []) →
    readWhileSeg opt fuel segs v = LinesLoop.readWhile opt fuel segs.flatten v := by
  intro fuel
  induction fuel with
  | zero => intros; rfl
  | succ fuel ih =>
    intro segs v hsegs
    obtain ⟨segs', h1, h2, h3⟩ := readLineWithEolSeg_eq segs opt.eol hsegs
    unfold readWhileSeg LinesLoop.readWhile
    rw [h1]
    generalize LinesLoop.readLineWithEol segs.flatten opt.eol = x at *
    obtain ⟨line, rest⟩ := x
    simp only at h3
    subst h3
    cases line <;> simp only [ih _ _ h2]

theorem cutLinesForwardOnlyWhole_loop (opt : Opt) (segs : List Bytes) (hsegs : ∀ s ∈ segs, s ≠ []) :
    cutLinesForwardOnlyWhole opt segs = cutLinesForwardOnlyLoop opt segs.flatten := by
  unfold cutLinesForwardOnlyWhole cutLinesForwardOnlyLoop
  simp only [readWhileSeg_eq opt _ segs _ hsegs, ReadLoops.totalBytes_eq_length_flatten]

/-- **`cut_lines`** with std's `read_to_end` loop and the statement-level `cut_str`: the input is one
    record whose fields are the lines, hence "fewer than 2³¹ lines" -/
theorem cutLinesWhole_eq (opt : Opt) (segs : List Bytes) (hb : BoundsOk opt.bounds.list)
    (hsegs : ∀ s ∈ segs, s ≠ [])
    (hn : validUtf8 segs.flatten = true → FieldsFit (stripEol opt.eol.byte segs.flatten) opt) :
    cutLinesWhole opt segs = cutLines opt segs.flatten := by
  unfold cutLinesWhole cutLines
  simp only [ReadLoops.readToEndLoop_spec _ _ _ _ hsegs (ReadLoops.totalBytes_lt_fuelFor segs),
    List.nil_append]
  by_cases hv : validUtf8 segs.flatten = true
  · simp only [hv, Bool.not_true, Bool.false_eq_true, if_false,
      CutStrLitProps.cutStrLit_eq _ opt [] [] _ hb (hn hv)]
  · simp only [hv, Bool.not_false, if_true]

theorem readAndCutLinesWhole_eq (opt : Opt) (segs : List Bytes) (hb : BoundsOk opt.bounds.list)
    (hsegs : ∀ s ∈ segs, s ≠ [])
    (hn : (!opt.complement && !opt.compressDelimiter && isForwardOnly opt.bounds.list) = false →
      validUtf8 segs.flatten = true → FieldsFit (stripEol opt.eol.byte segs.flatten) opt) :
    readAndCutLinesWhole opt segs = readAndCutLines opt segs.flatten := by
  rw [← readAndCutLinesLoop_eq opt segs.flatten (fun b hbm => ⟨(hb b hbm).1, (hb b hbm).2.1⟩)]
  unfold readAndCutLinesWhole readAndCutLinesLoop
  by_cases hs : (!opt.complement && !opt.compressDelimiter && isForwardOnly opt.bounds.list) = true
  · simp only [hs, if_true, cutLinesForwardOnlyWhole_loop opt segs hsegs]
  · simp only [hs, Bool.false_eq_true, if_false]
    rw [cutLinesWhole_eq opt segs hb hsegs (hn (by simpa using hs)), cutLinesLit_eq]

/-- `FastLoop.CounterFits` as a `Bool` -/
def counterFitsB (lif : Side) (len : Nat) : Bool :=
  decide ((len : Int) ≤ i32Max) ||
    match lif with
    | .some k => decide (0 < k) && decide (k ≤ i32Max)
    | .cont => false

theorem counterFitsB_iff (lif : Side) (len : Nat) : counterFitsB lif len = true ↔ CounterFits lif len := by
  unfold counterFitsB FastLoop.CounterFits
  cases lif with
  | cont => simp
  | some k => simp

/-- **what the engine that `main` selects needs from the input** (`input` = the concatenation of
    the reads), engine by engine, in the order of the dispatch of `main` (tuc.rs:264-285 at commit 9782769, the numbering of
    `Tuc.Model.WholeLit`; 280-301 at HEAD):

    * `-M`, `-b`: nothing;
    * `-l`, line-at-a-time algorithm (`cut_lines_forward_only`): nothing (the `i32` line counter
      saturates: `LinesLoop`, cut_lines.rs as of commit 9782769);
    * `-l`, buffered algorithm (`cut_lines` → `cut_str` on the whole input as one record whose
      fields are the lines): the input — when it is UTF-8, otherwise `cut_str` is not reached — has
      fewer than 2³¹ lines (`FieldsFit`; sufficient, not necessary: `try_into_range` computes in `i64`);
    * fast lane: on every record the `i32` counter `curr_field` (fast_lane.rs:44, 52) does not
      overflow (`CounterFits`: the record is shorter than 2³¹ bytes, or the scan stops early);
    * general engine: every record has fewer than 2³¹ fields (`FieldsFit`). -/
def inputFitsB (opt : Opt) (input : Bytes) : Bool :=
  if opt.fixedMemory.isSome then true
  else if opt.boundsType = .bytes then true
  else if opt.boundsType = .lines then
    (!opt.complement && !opt.compressDelimiter && isForwardOnly opt.bounds.list)
      || !validUtf8 input || fieldsFitB (stripEol opt.eol.byte input) opt
  else
    match FastOptLit.tryFrom opt with
    | .ok fastOpt =>
      (records fastOpt.eol.byte input).all fun r => counterFitsB fastOpt.bounds.lastInteresting r.length
    | .fail => (records opt.eol.byte input).all fun r => fieldsFitB r opt
    | .panic => true

/-- the reads are non-empty (the `BufRead` contract: an empty `fill_buf()` is EOF) and the input
    fits the engine -/
def engineFitsB (opt : Opt) (segs : List Bytes) : Bool :=
  segs.all (fun s => !s.isEmpty) && inputFitsB opt segs.flatten

/-- **the domain of `tucProgramLit_eq`**, a decidable predicate on the argument vector and the
    reads: when `parse_args` returns an `Opt`, the regex (if any) is one the model compiles and the
    run is not `-c` on input that is not UTF-8 (where `tucMain` says `unmodelled`), the reads are
    non-empty and the input fits the engine `main` selects (`inputFitsB`).  There is NO condition on
    the bounds (`CutStrLitProps.boundsOk_of_parseArgv`) and none when `tuc` prints the help / version
    or rejects the command line. -/
def programFitsB (regexOk : Arg → Bool) (argv : List Arg) (segs : List Bytes) : Bool :=
  match parseArgv regexOk argv with
  | .run o _ regexText =>
    match compileBag o regexText with
    | Option.some bag =>
      (o.boundsType = .characters && !validUtf8 segs.flatten)    -- `-c` on input that is not UTF-8: `unmodelled`
        || engineFitsB { o with regexBag := bag } segs
    | Option.none => true                                         -- a regex outside the model: `unmodelled`
  | _ => true

/-- `programFitsB … = true`, the hypothesis of `tucProgramLit_eq` -/
def InDomain (regexOk : Arg → Bool) (argv : List Arg) (segs : List Bytes) : Prop :=
  programFitsB regexOk argv segs = true

instance (regexOk : Arg → Bool) (argv : List Arg) (segs : List Bytes) : Decidable (InDomain regexOk argv segs) :=
  inferInstanceAs (Decidable (_ = true))

theorem engineFitsB_iff {opt : Opt} {segs : List Bytes} :
    engineFitsB opt segs = true ↔ (∀ s ∈ segs, s ≠ []) ∧ inputFitsB opt segs.flatten = true := by
  unfold engineFitsB
  simp only [Bool.and_eq_true, List.all_eq_true, Bool.not_eq_true', List.isEmpty_eq_false_iff]

theorem engineFitsB_reads {opt : Opt} {segs : List Bytes} (h : engineFitsB opt segs = true) :
    ∀ s ∈ segs, s ≠ [] := (engineFitsB_iff.mp h).1

theorem engineFitsB_input {opt : Opt} {segs : List Bytes} (h : engineFitsB opt segs = true) :
    inputFitsB opt segs.flatten = true := (engineFitsB_iff.mp h).2

theorem dispatchWhole_eq (opt : Opt) (segs : List Bytes) (hb : BoundsOk opt.bounds.list)
    (hfit : engineFitsB opt segs = true) :
    dispatchWhole opt segs = dispatchLit opt segs := by
  have hsegs := engineFitsB_reads hfit
  have hin := engineFitsB_input hfit
  unfold dispatchWhole dispatchLit
  unfold inputFitsB at hin
  by_cases hfm : opt.fixedMemory.isSome = true
  · simp only [hfm, if_true]
    cases ht : StreamOptLit.tryFrom opt with
    | ok s => simp only [readAndCutBytesStreamWhole_eq opt s ht segs hsegs]
    | fail => rfl
    | panic => rfl
  · simp only [hfm, Bool.false_eq_true, if_false] at hin ⊢
    by_cases h1 : opt.boundsType = .bytes
    · simp only [h1, if_true, ReadLoops.readAndCutBytesLoop_eq opt segs hsegs]
    · simp only [h1, if_false] at hin ⊢
      by_cases h2 : opt.boundsType = .lines
      · simp only [h2, if_true] at hin ⊢
        rw [readAndCutLinesWhole_eq opt segs hb hsegs]
        intro hs hv
        simp only [hs, hv, Bool.not_true, Bool.false_or] at hin
        exact (CutStrLitProps.fieldsFit_iff _ _).mp hin
      · simp only [h2, if_false] at hin ⊢
        cases ht : FastOptLit.tryFrom opt with
        | ok fo =>
          simp only [ht, List.all_eq_true, counterFitsB_iff] at hin
          simp only [readAndCutTextAsBytesWhole_eq fo segs hsegs hin]
        | fail =>
          simp only [ht, List.all_eq_true, CutStrLitProps.fieldsFit_iff] at hin
          simp only [readAndCutStrWhole_eq opt segs hb hsegs hin]
        | panic => rfl

/-! `tucMainLit`, `tucProgramLit` and (once `parse_args` is the same) `WholeLit2.tucProgramLit2` are
`programWith` (`Tuc.Lemmas.Program`) for `dispatchLit`, `dispatchWhole`, `dispatchWhole2`, by unfolding. -/

theorem inDomain_iff_of_run {regexOk : Arg → Bool} {argv : List Arg} {o : Opt} {fm : Bool} {rt : Option Arg}
    {bag : Option RegexBag} (hp : parseArgv regexOk argv = .run o fm rt)
    (hc : compileBag o rt = Option.some bag) (segs : List Bytes)
    (hu : (o.boundsType = .characters && !validUtf8 segs.flatten) = false) :
    InDomain regexOk argv segs ↔
      (∀ s ∈ segs, s ≠ []) ∧ inputFitsB { o with regexBag := bag } segs.flatten = true := by
  unfold InDomain programFitsB
  simp only [hp, hc, hu, Bool.false_or]
  exact engineFitsB_iff

/-- `tucProgramLit` is `OptLit.tucMainLit` (literal option records and dispatch, normal-form engines):
    the two texts differ in the dispatch only, and whatever `parse_args` returns is `BoundsOk` -/
theorem tucProgramLit_eq_tucMainLit (regexOk : Arg → Bool) (argv : List Arg) (segs : List Bytes)
    (h : InDomain regexOk argv segs) :
    tucProgramLit regexOk argv segs = tucMainLit regexOk argv segs :=
  programWith_congr (d₁ := fun o _ => dispatchWhole o) (d₂ := fun o _ => dispatchLit o) rfl fun o fm rt _ hp hc hu =>
    dispatchWhole_eq _ segs (CutStrLitProps.boundsOk_of_parseArgv regexOk argv o fm rt hp)
      (engineFitsB_iff.mpr ((inDomain_iff_of_run hp hc segs hu).mp h))

/-- **The whole program assembled from the statement-level transcriptions only —
    `parse_args`, the option records of the engines, the dispatch of `main`, bstr's
    `for_byte_record`, std's `read_until` / `read_to_end`, `cut_str` with machine integers,
    `cut_str_fast_lane` with its `i32` counter, `cut_bytes_stream`, `cut_lines_forward_only`,
    `cut_lines`, `cut_bytes`, over a reader that hands the input out in arbitrary non-empty pieces —
    IS `tucMain`**, the definition that every end-to-end property theorem speaks about: for every
    argument vector, every input and every segmentation, on the decidable domain `InDomain`
    (non-empty reads; fewer than 2³¹ fields per record where `cut_str` runs; the `i32` counter of the
    fast lane).  No hypothesis on the bounds: whatever `parse_args` returns is `BoundsOk`. -/
theorem tucProgramLit_eq (regexOk : Arg → Bool) (argv : List Arg) (segs : List Bytes)
    (h : InDomain regexOk argv segs) :
    tucProgramLit regexOk argv segs = tucMain regexOk argv segs := by
  rw [tucProgramLit_eq_tucMainLit regexOk argv segs h, tucMainLit_eq]

/-- help, version, a rejected command line: no condition at all -/
theorem inDomain_of_not_run {regexOk : Arg → Bool} {argv : List Arg}
    (h : ∀ o fm rt, parseArgv regexOk argv ≠ .run o fm rt) (segs : List Bytes) :
    InDomain regexOk argv segs := by
  unfold InDomain programFitsB
  cases hp : parseArgv regexOk argv with
  | run o fm rt => exact absurd hp (h o fm rt)
  | _ => rfl

theorem inputFitsB_of_fixedMemory (opt : Opt) (input : Bytes) (h : opt.fixedMemory.isSome = true) :
    inputFitsB opt input = true := by
  unfold inputFitsB; simp only [h, if_true]

/-- `-b`: no condition on the input -/
theorem inputFitsB_of_bytes (opt : Opt) (input : Bytes) (h : opt.boundsType = .bytes) :
    inputFitsB opt input = true := by
  unfold inputFitsB; simp only [h, if_true, ite_self]

/-- `-l`, line-at-a-time algorithm: no condition on the input -/
theorem inputFitsB_of_lines_streamed (opt : Opt) (input : Bytes) (h : opt.boundsType = .lines)
    (hs : (!opt.complement && !opt.compressDelimiter && isForwardOnly opt.bounds.list) = true) :
    inputFitsB opt input = true := by
  unfold inputFitsB; simp only [h, hs, if_true, Bool.true_or, ite_self]

/-- the fast lane: an input shorter than 2³¹ bytes is enough -/
theorem inputFitsB_of_fast (opt : Opt) (fo : FastOpt) (input : Bytes) (hfm : opt.fixedMemory.isSome = false)
    (h1 : opt.boundsType ≠ .bytes) (h2 : opt.boundsType ≠ .lines) (ht : FastOptLit.tryFrom opt = .ok fo)
    (hlen : (input.length : Int) ≤ i32Max) :
    inputFitsB opt input = true := by
  unfold inputFitsB
  simp only [hfm, Bool.false_eq_true, if_false, h1, h2, ht, List.all_eq_true, counterFitsB_iff]
  intro r hr
  exact FastLoop.CounterFits.mono (Or.inl hlen) (records_length_le _ _ r hr)

/-- the domain depends on the input only, not on how the reads split it (as long as no read is empty) -/
theorem inDomain_of_flatten {regexOk : Arg → Bool} {argv : List Arg} {segs segs' : List Bytes}
    (h : InDomain regexOk argv segs) (hsegs' : ∀ s ∈ segs', s ≠ []) (he : segs.flatten = segs'.flatten) :
    InDomain regexOk argv segs' := by
  unfold InDomain programFitsB at h ⊢
  cases hp : parseArgv regexOk argv with
  | run o fm rt =>
    simp only [hp] at h ⊢
    cases hc : compileBag o rt with
    | none => rfl
    | some bag =>
      simp only [hc, Bool.or_eq_true] at h ⊢
      rcases h with h | h
      · left; rw [← he]; exact h
      · right; exact engineFitsB_iff.mpr ⟨hsegs', he ▸ engineFitsB_input h⟩
  | _ => rfl

/-- **(1) no panic, no endless loop.**  On its domain the program assembled from the
    statement-level transcriptions never reaches a panic site — no `unwrap` / `expect` of
    `parse_args`, `StreamOpt::try_from`, `FastOpt::try_from`, `get_last_bound`; no `split_at`, no
    slice, no index, no `usize` subtraction, no `i32` addition or cast inside `for_byte_record`,
    `read_until`, `cut_str`, `try_into_range`, `cut_str_fast_lane`, `cut_bytes_stream`,
    `cut_lines_forward_only`, `cut_bytes` — none of its loops runs out of fuel, and when an engine
    runs it ends with exit status 0 or 1 (C12 at program level: `tucMain_never_panics`). -/
theorem tucProgramLit_never_panics (regexOk : Arg → Bool) (argv : List Arg) (segs : List Bytes)
    (h : InDomain regexOk argv segs) :
    tucProgramLit regexOk argv segs ≠ .panic ∧
      ∀ r, tucProgramLit regexOk argv segs = .run r → r.status = .ok ∨ r.status = .fail := by
  rw [tucProgramLit_eq regexOk argv segs h]
  exact tucMain_never_panics regexOk argv segs

/-- on its domain a run of the program has neither status `panic` nor status `hang` -/
theorem tucProgramLit_run_status (regexOk : Arg → Bool) (argv : List Arg) (segs : List Bytes)
    (h : InDomain regexOk argv segs) (r : Run) (hr : tucProgramLit regexOk argv segs = .run r) :
    r.status ≠ .panic ∧ r.status ≠ .hang := by
  rw [tucProgramLit_eq regexOk argv segs h] at hr
  exact tucMain_run_status regexOk argv segs r hr

/-- **(2) chunk independence of the whole literal program** (C04 at program level): what the
    program does — help, rejection, or the bytes on stdout and the exit status — depends on the
    bytes of the input only, never on how the successive `fill_buf()` calls split them; for ALL
    engines, `-M` included (whatever the bounds parser produces has no two adjacent fillers, so
    `dispatch_fixedMemory_chunk_independent` applies to every record, admissible or not).  Unlike
    `tucMain_chunk_independent` the reads must be non-empty (both segmentations are in the domain):
    an empty read IS end of input for the Rust loops. -/
theorem tucProgramLit_chunk_independent (regexOk : Arg → Bool) (argv : List Arg) (segs₁ segs₂ : List Bytes)
    (h₁ : InDomain regexOk argv segs₁) (h₂ : InDomain regexOk argv segs₂)
    (he : segs₁.flatten = segs₂.flatten) :
    tucProgramLit regexOk argv segs₁ = tucProgramLit regexOk argv segs₂ := by
  rw [tucProgramLit_eq regexOk argv segs₁ h₁, tucProgramLit_eq regexOk argv segs₂ h₂]
  exact tucMain_chunk_independent regexOk argv segs₁ segs₂ he

/-- chunk independence with the domain condition of the second segmentation reduced to "no empty
    read" (`inDomain_of_flatten`) -/
theorem tucProgramLit_chunk_independent' (regexOk : Arg → Bool) (argv : List Arg) (segs₁ segs₂ : List Bytes)
    (h₁ : InDomain regexOk argv segs₁) (h₂ : ∀ s ∈ segs₂, s ≠ [])
    (he : segs₁.flatten = segs₂.flatten) :
    tucProgramLit regexOk argv segs₁ = tucProgramLit regexOk argv segs₂ :=
  tucProgramLit_chunk_independent regexOk argv segs₁ segs₂ h₁ (inDomain_of_flatten h₁ h₂ he) he

/-- on its domain the program gives what ONE read of the whole (non-empty) input gives -/
theorem tucProgramLit_one_read (regexOk : Arg → Bool) (argv : List Arg) (segs : List Bytes)
    (h : InDomain regexOk argv segs) (hne : segs.flatten ≠ []) :
    tucProgramLit regexOk argv segs = tucProgramLit regexOk argv [segs.flatten] :=
  tucProgramLit_chunk_independent' regexOk argv segs [segs.flatten] h
    (List.forall_mem_singleton.mpr hne) (by simp)

/-- **(3) an end-to-end specification, transported**: field mode (`-f`, or no mode option), literal
    non-empty delimiter, any subset of `-g -p -s -t -z -m -j --no-join -r R --fallback-oob`, without
    `-e`, `-M`, `--json`: what the program made of the Rust statements writes to stdout, and its exit
    status, are the specification's `specRun` of the request on the input
    (`tuc_fields_eq_spec`) -/
theorem tucProgramLit_fields_eq_spec (regexOk : Arg → Bool) (hcre : regexOk charsRegexText = true) (K : Canon)
    (hK : K.accepted = true) (hmode : K.mode = .f ∨ K.mode = .dflt) (hd : K.d ≠ Option.some [])
    (he : K.e = none) (hM : K.mem = none) (hjson : K.json = false) (segs : List Bytes)
    (hdom : InDomain regexOk (canonArgv K) segs) :
    tucProgramLit regexOk (canonArgv K) segs = .run (Spec.specRun K.cfg segs.flatten) := by
  rw [tucProgramLit_eq regexOk _ segs hdom]
  exact tuc_fields_eq_spec regexOk hcre K hK hmode hd he hM hjson segs

theorem inDomain_canon_plain (regexOk : Arg → Bool) (hcre : regexOk charsRegexText = true) (K : Canon)
    (hK : K.accepted = true) (hc : K.mode ≠ .c) (he : K.e = none) (segs : List Bytes) :
    InDomain regexOk (canonArgv K) segs ↔
      (∀ s ∈ segs, s ≠ []) ∧ inputFitsB (optOf K.table) segs.flatten = true := by
  have hp := (Canon.Accepted.of_noRegex hK he hcre).parse
  have hcb := K.compileBag_noRegex he
  rw [K.regexText_none hc he] at hp hcb
  exact inDomain_iff_of_run hp hcb segs (by simp [K.optOf_boundsType, boundsTypeOf_eq_characters, hc])

/-- **`-b`, end to end, for the program made of the Rust statements**: every accepted canonical
    command line with `-b`, without `-e` and `-M`, EVERY input in every segmentation into non-empty
    reads — no hypothesis on the input (`tuc_bytes_eq_spec`) -/
theorem tucProgramLit_bytes_eq_spec (regexOk : Arg → Bool) (hcre : regexOk charsRegexText = true) (K : Canon)
    (hK : K.accepted = true) (hmode : K.mode = .b) (he : K.e = none) (hM : K.mem = none)
    (segs : List Bytes) (hsegs : ∀ s ∈ segs, s ≠ []) :
    tucProgramLit regexOk (canonArgv K) segs = .run (Spec.specBytes K.cfg segs.flatten) := by
  have hdom : InDomain regexOk (canonArgv K) segs :=
    (inDomain_canon_plain regexOk hcre K hK (by rw [hmode]; decide) he segs).mpr
      ⟨hsegs, inputFitsB_of_bytes _ _ (by rw [K.optOf_boundsType, hmode]; rfl)⟩
  rw [tucProgramLit_eq regexOk _ segs hdom]
  exact tuc_bytes_eq_spec regexOk hcre K hK hmode he hM segs

/-- **`-M`, end to end, for the program made of the Rust statements**: as `tuc_fixedMemory_eq_spec`
    (accepted canonical command line that `StreamOpt::try_from` accepts, admissible records), every
    segmentation into non-empty reads — no other hypothesis -/
theorem tucProgramLit_fixedMemory_eq_spec (regexOk : Arg → Bool) (hcre : regexOk charsRegexText = true)
    (K : Canon) (hK : K.accepted = true) (hM : K.mem.isSome = true)
    (hst : (flagsOf K.table).streamOk = true) (segs : List Bytes) (hsegs : ∀ s ∈ segs, s ≠ [])
    (hadm : ∀ r ∈ records K.eol.byte segs.flatten,
      Admissible K.ubl.list (r.count K.delimiterByte + 1)) :
    tucProgramLit regexOk (canonArgv K) segs = .run (Spec.specRun K.cfg segs.flatten) := by
  obtain ⟨hmode, he⟩ := K.streamOk_facts hst
  have hc : K.mode ≠ .c := by rcases hmode with h | h <;> rw [h] <;> decide
  have hp := (Canon.Accepted.of_noRegex hK he hcre).parse
  have hfm : (optOf K.table).fixedMemory.isSome = true := by
    rw [(parseArgv_run regexOk _ _ _ _ hp).2]; exact K.memKb_isSome hK hM
  have hdom : InDomain regexOk (canonArgv K) segs :=
    (inDomain_canon_plain regexOk hcre K hK hc he segs).mpr ⟨hsegs, inputFitsB_of_fixedMemory _ _ hfm⟩
  rw [tucProgramLit_eq regexOk _ segs hdom]
  exact tuc_fixedMemory_eq_spec regexOk hcre K hK hM hst segs hadm

/-! ## non-vacuity: the program made of the Rust statements, by evaluation

`agree argv reads expected`: the reads are in the domain, `tucProgramLit` and `tucMain` both give
`expected`.  One line per engine and per way `main` can end. -/

def argvOf (l : List String) : List Arg := l.map String.toList
open ReadLoops (bytesOf)
def readsOf (l : List String) : List Bytes := l.map bytesOf
def okS (s : String) : MainResult := .run (Run.ok (bytesOf s))
def yes : Arg → Bool := fun _ => true

def agreeB (argv : List Arg) (reads : List Bytes) (expected : MainResult) : Bool :=
  programFitsB yes argv reads
    && tucProgramLit yes argv reads == expected && tucMain yes argv reads == expected

def agree (argv : List String) (reads : List String) (expected : MainResult) : Bool :=
  agreeB (argvOf argv) (readsOf reads) expected

-- the general engine (`-r` keeps `FastOpt::try_from` from accepting): `for_byte_record` + `cut_str`
#guard agree ["-d", ":", "-f", "2,1", "-r", "-"] ["a:b", ":c\nx", ":y:z\n"] (okS "b-a\ny-x\n")
-- … `-z -g`, a record that straddles two reads, a final record without terminator
#guard agree ["-z", "-d", ":", "-f", "2", "-g"] ["a::b\x00c:", ":d"] (okS "b\x00d\x00")
-- … `cut_str` returns `Err` on the first record: nothing more is read
#guard agree ["-d", ":", "-f", "3", "-r", "-"] ["a:b\nc:d:e\n"] (.run Run.fail)
-- the fast lane: `for_byte_record` + `cut_str_fast_lane`
#guard agree ["-d", ":", "-f", "1,3"] ["a:b", ":c\nx", ":y:z\n"] (okS "ac\nxz\n")
#guard agree ["-d", ":", "-f", "2", "-s"] ["a:b\nc", "\nd:e"] (okS "b\ne\n")
-- `-M`: `StreamOpt::try_from`, `get_last_bound`, `cut_bytes_stream`
#guard agree ["-M", "1", "-d", ":", "-f", "1,3"] ["a:b", ":c\nx", ":y:z\n"] (okS "ac\nxz\n")
-- … refused by `StreamOpt::try_from` (exit 1, nothing read)
#guard agree ["-M", "1", "-f", "2", "-g"] ["a\n"] .reject
-- `-l`, line at a time: `read_line_with_eol` over `read_until` over `fill_buf`
#guard agree ["-l", "2:3"] ["a\nb", "b\nc\n", "d\n"] (okS "bb\nc\n")
#guard agree ["-l", "2:3", "-z"] ["a\x00b", "b\x00c\x00", "d\x00"] (okS "bb\x00c\x00")
-- … a line that is not UTF-8 (`line?`)
#guard agreeB (argvOf ["-l", "2:"]) [[97, 10, 255], [98, 10]] (.run Run.fail)
-- `-l`, buffered (`3,1` is not forward-only): `read_to_end` + `cut_str` on the whole input
#guard agree ["-l", "3,1"] ["a\nb", "b\nc\n", "d\n"] (okS "c\na\n")
#guard agreeB (argvOf ["-l", "2,1"]) [[97, 10, 255], [98, 10]] (.run Run.fail)
-- `-b`: `read_bytes_to_end` + `cut_bytes`
#guard agree ["-b", "2:3"] ["ab", "cd", "e"] (okS "bc")
-- `-c` (the `\b|\B` regex bag; a two-byte character split between two reads)
#guard agreeB (argvOf ["-c", "2:3"]) [[104, 195], [169, 108, 108, 111, 10, 119, 111, 114], [108, 100, 10]]
  (okS "él\nor\n")
-- `--json`
#guard agree ["-d", ":", "-f", "2:3", "--json"] ["a:b", ":c\nx", ":y:z\n"] (okS "[\"b\",\"c\"]\n[\"y\",\"z\"]\n")
-- `-e` (a regex of the modelled family)
#guard agree ["-e", "[:;]+", "-f", "2"] ["a:;b;", "c\nx", ";y\n"] (okS "b\ny\n")
-- a regex outside the modelled family: both say `unmodelled`
#guard agree ["-e", "[0-9]*", "-f", "2"] ["a1b\n"] .unmodelled
-- a rejected command line, help, version: nothing is read (and no condition on the reads)
#guard agree ["-f", "0"] ["a\n", ""] .reject
#guard agree ["--help"] ["", "a\n"] .help
#guard agree [] [] .help
#guard agree ["-V"] ["a\n"] .version
-- `-c` on input that is not UTF-8: `unmodelled` on both sides, whatever the reads
#guard agreeB (argvOf ["-c", "1"]) [[255], [], [10]] .unmodelled

/-- an instance of the capstone theorem (general engine, three reads) -/
example :
    tucProgramLit yes (argvOf ["-d", ":", "-f", "2,1", "-r", "-"]) (readsOf ["a:b", ":c\nx", ":y:z\n"]) =
      tucMain yes (argvOf ["-d", ":", "-f", "2,1", "-r", "-"]) (readsOf ["a:b", ":c\nx", ":y:z\n"]) :=
  tucProgramLit_eq _ _ _ (by decide +kernel)

/-- an instance of the transported specification: `tuc -f 1,3 -d :` (`exFields`) on `a:b` + `:c⏎` -/
example : tucProgramLit (fun _ => true) (canonArgv exFields) [[97, 58, 98], [58, 99, 10]] =
    .run (Run.ok [97, 99, 10]) := by
  rw [tucProgramLit_fields_eq_spec (fun _ => true) rfl exFields (by decide +kernel) (Or.inl rfl) (by decide)
    rfl rfl rfl _ (by decide +kernel)]
  decide +kernel

/-- another one: `tuc -b 1:2` (`exBytes`) on the bytes `FF 00` + `0A 61` -/
example : tucProgramLit (fun _ => true) (canonArgv exBytes) [[255, 0], [10, 97]] = .run (Run.ok [255, 0]) := by
  rw [tucProgramLit_bytes_eq_spec (fun _ => true) rfl exBytes (by decide +kernel) rfl rfl rfl _ (by decide)]
  decide +kernel

/-! ## the hypotheses: two that cannot be dropped, one that is only sufficient

### non-empty reads: necessary

An empty `fill_buf()` IS end of input for every loop of the Rust text (bstr io.rs:305, std
mod.rs:2266, `read` returning 0, stream.rs `'new_chunk`), whereas `tucMain` (`List.flatten`) does
not see an empty chunk: with an empty read in the middle every engine stops early.  The real
program cannot get there: `BufReader::fill_buf` returns an empty slice only at end of input. -/

def differ (argv : List String) (reads : List String) (lit model : MainResult) : Bool :=
  !programFitsB yes (argvOf argv) (readsOf reads)
    && tucProgramLit yes (argvOf argv) (readsOf reads) == lit
    && tucMain yes (argvOf argv) (readsOf reads) == model

#guard differ ["-d", ":", "-f", "2,1", "-r", "-"] ["a:b\nc:", "", "d\n"]
  (.run ⟨bytesOf "b-a\n-c\n", .fail⟩) (okS "b-a\nd-c\n")
#guard differ ["-d", ":", "-f", "2"] ["a:b\nc:", "", "d\n"] (.run ⟨bytesOf "b\n\n", .fail⟩) (okS "b\nd\n")
#guard differ ["-M", "1", "-d", ":", "-f", "2"] ["a:b\nc:", "", "d\n"] (okS "b\n\n") (okS "b\nd\n")
#guard differ ["-l", "2:3"] ["a\nb", "", "b\nc\n", "d\n"] (okS "b\nb\n") (okS "bb\nc\n")
#guard differ ["-l", "3,1"] ["a\nb", "", "b\nc\n", "d\n"] (.run Run.fail) (okS "c\na\n")
#guard differ ["-b", "2:3"] ["ab", "", "cd", "e"] (.run Run.fail) (okS "bc")

/-! ### `FieldsFit` (general engine): only sufficient; `CounterFits` (fast lane): necessary

Records of 2 GiB cannot be evaluated; the component files prove, for one call, the agreement of `cut_str`
with the model on such a record for the `Opt` of `-f 1:` (`CutStrLitProps.cutStrLit_eq_cutStr_oneOpen`)
and the divergence of `cut_str_fast_lane` (`cutStrFastLaneLoop_overflow`: its `i32` field counter).  Here
they are lifted through `for_byte_record` to the engines and — for the fast lane — to the whole program. -/

theorem records_single (t : UInt8) (line : Bytes) (h : t ∉ line) (hne : line ≠ []) :
    records t line = [line] := by
  rw [records_of_noeol t line (fun c hc e => h (e ▸ hc))]
  cases line with
  | nil => exact absurd rfl hne
  | cons _ _ => rfl

/-- **the general engine does not need `FieldsFit` on the `Opt` of `-f 1:`**: `read_and_cut_str` called
    with it (delimiter TAB) on an input that is ONE record, delivered in one read — 2³¹ fields and more
    included — computes what the model says (`try_into_range` resolves `1:` in `i64`).  The engine is
    called directly: `main` sends this `Opt` to the fast lane (`tucProgramLit_fast_overflow`). -/
theorem readAndCutStrWhole_eq_on_long_record (line : Bytes) (h10 : (10 : UInt8) ∉ line)
    (hne : line ≠ [])
    (h : (fillWithFieldsLocations [] line [9]).length < 9223372036854775808) :
    readAndCutStrWhole CutStrLitProps.optOneOpen [line] =
      readAndCutStr CutStrLitProps.optOneOpen line := by
  have hc := CutStrLitProps.cutStrLit_eq_cutStr_oneOpen line [] [] [10] h
  have hb : CutStrLitProps.optOneOpen.eol.byte = 10 := rfl
  unfold readAndCutStrWhole readAndCutStr
  have hsegs : ∀ s ∈ [line], s ≠ [] := List.forall_mem_singleton.mpr hne
  simp only [ReadLoops.forByteRecordLoop_eq_records _ _ _ _ hsegs]
  have hf : [line].flatten = line := by simp
  rw [hf, hb, records_single 10 line h10 hne]
  simp only [foldRecords, cutStrLitClosure, hb, ReadLoops.stripSuffix_not_mem line 10 h10,
    Option.getD_none, hc, cutRecords, Run.seq_empty]
  split <;> rfl

/-- an instance outside `FieldsFit`: on the record made of 2³¹ − 1 TABs (2 GiB, 2³¹ empty fields)
    the statement-level general engine and the model agree -/
theorem readAndCutStrWhole_eq_readAndCutStr_on_2GiB_record :
    ∃ line : Bytes, line.length = 2147483647 ∧
      (fillWithFieldsLocations [] line [9]).length = 2147483648 ∧
      readAndCutStrWhole CutStrLitProps.optOneOpen [line] =
        readAndCutStr CutStrLitProps.optOneOpen line :=
  ⟨List.replicate 2147483647 9, List.length_replicate, CutStrLitProps.fields_tabs _ (by omega),
    readAndCutStrWhole_eq_on_long_record _
      (by intro hm; have := List.eq_of_mem_replicate hm; cases this)
      (by intro e; have := congrArg List.length e; rw [List.length_replicate, List.length_nil] at this; omega)
      (by rw [CutStrLitProps.fields_tabs _ (by omega)]; omega)⟩

/-- **`CounterFits` cannot be dropped (fast lane)**: on an input that is one record with more
    delimiters than an `i32` can count, not trimmed and not stopped early, the statement-level
    `read_and_cut_text_as_bytes` panics (`curr_field += 1`, fast_lane.rs:52, debug build; the release
    build wraps around) -/
theorem readAndCutTextAsBytesWhole_overflow (fo : FastOpt) (line : Bytes) (hne : line ≠ [])
    (heol : fo.eol.byte ∉ line) (htrim : fo.trim = Option.none) (hlif : fo.bounds.lastInteresting = .cont)
    (hmany : i32Max < ((FastLoop.memchrIter fo.delimiter line).length : Int)) :
    readAndCutTextAsBytesWhole fo [line] = Run.panic := by
  have hsegs : ∀ s ∈ [line], s ≠ [] := List.forall_mem_singleton.mpr hne
  rw [readAndCutTextAsBytesWhole_loop fo [line] hsegs]
  have hf : [line].flatten = line := by simp
  have hp := cutStrFastLaneLoop_overflow line fo [] htrim hmany
  unfold readAndCutTextAsBytesLoop
  rw [hf, records_single _ line heol hne, hlif]
  simp only [FastLoop.forByteRecord, hp]
  split <;> decide

/-- the `Opt` that `parse_args` builds for `tuc -f 1:` -/
def optF1 : Opt :=
  { delimiter := [9],
    bounds := { list := [.bound { l := .some 1, r := .cont, isLast := true }], lastInteresting := .cont } }

/-- the `FastOpt` that `FastOpt::try_from` builds from it -/
def fastF1 : FastOpt :=
  { delimiter := 9, join := false, eol := .newline, bounds := optF1.bounds, onlyDelimited := false,
    trim := Option.none, fallbackOob := Option.none }

/-- **the domain of `tucProgramLit_eq` cannot be enlarged to all inputs**: `tuc -f 1:` on an input
    that is one record with 2³¹ TABs or more — the program made of the Rust statements panics (debug
    build: `attempt to add with overflow`, fast_lane.rs:52); `tucMain` never does
    (`tucProgramLit_ne_tucMain_on_2GiB_record`) -/
theorem tucProgramLit_fast_overflow (line : Bytes) (hne : line ≠ []) (h10 : (10 : UInt8) ∉ line)
    (hmany : i32Max < ((FastLoop.memchrIter 9 line).length : Int)) :
    tucProgramLit yes [['-', 'f'], ['1', ':']] [line] = .run Run.panic := by
  have hp : parseArgv yes [['-', 'f'], ['1', ':']] = .run optF1 false Option.none := by rfl
  have hc : compileBag optF1 Option.none = Option.some Option.none := by rfl
  have ht : FastOptLit.tryFrom optF1 = .ok fastF1 := by rfl
  have hd : dispatchWhole optF1 [line] = Option.some (readAndCutTextAsBytesWhole fastF1 [line]) := by
    unfold dispatchWhole
    rw [ht]
    rfl
  rw [show tucProgramLit yes _ [line] = _ from programWith_of_run (fun o _ => dispatchWhole o) hp hc rfl]
  show MainResult.ofDispatch (dispatchWhole optF1 [line]) = _
  rw [hd, readAndCutTextAsBytesWhole_overflow fastF1 line hne h10 rfl rfl hmany]
  rfl

/-- on the record of 2³¹ TABs `tucProgramLit` panics and so differs from `tucMain`, which never
    panics (`tucMain_never_panics`) -/
theorem tucProgramLit_ne_tucMain_on_2GiB_record :
    ∃ line : Bytes, line.length = 2147483648 ∧
      tucProgramLit yes [['-', 'f'], ['1', ':']] [line] = .run Run.panic ∧
      tucProgramLit yes [['-', 'f'], ['1', ':']] [line] ≠ tucMain yes [['-', 'f'], ['1', ':']] [line] := by
  have hlit := tucProgramLit_fast_overflow (List.replicate 2147483648 9)
    (by intro e; have := congrArg List.length e; rw [List.length_replicate] at this; cases this)
    (by intro hm; have := List.eq_of_mem_replicate hm; cases this)
    (by rw [FastLoop.memchrIter_length, List.count_replicate_self]; decide)
  refine ⟨_, List.length_replicate, hlit, ?_⟩
  intro he
  rw [hlit] at he
  rcases (tucMain_never_panics yes _ _).2 Run.panic he.symm with h | h <;> cases h

end WholeLit
end Tuc
