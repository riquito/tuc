import Tuc.Model.CutStr
import Tuc.Model.FastLane
import Tuc.Model.Lines
import Tuc.Model.Stream
import Tuc.Lemmas.Bounds
import Tuc.Lemmas.Records
/-!
# C13 — an out-of-range bound is never silent: own fallback, else generic, else failure

What one bound contributes in each engine, for *every* record and option set (and every field
layout; fast lane: every non-empty `fields` vector, which is what the scan produces): a
bound that does not resolve (`tryIntoRange = none`; `-M`, `-l`: never reached when the record /
the input ends) writes its own fallback; otherwise the generic fallback; otherwise the run fails.
Fallback text does not go through `maybe_replace_delimiter`: it is written verbatim, in the general
engine under `--json` as a JSON string like any other part (`writeMaybeAsJson`).
The statements about whole runs are in `Tuc.Props.C13Runs`, `C13RunsFast`, `C13RunsStream`.
-/
namespace Tuc
open Tuc.Spec

/-- what follows a bound's text in the general engine -/
def joinerOf (opt : Opt) (b : UserBounds) : Run :=
  if opt.join && !b.isLast then Run.ok (opt.replaceDelimiter.getD opt.delimiter) else Run.empty

/-- general engine: a bound that does not resolve and has its own fallback prints it, not passed
    through `maybe_replace_delimiter` (under `--json` as a JSON string) -/
theorem general_own_fallback (line : Bytes) (fields : List Range) (n : Nat) (opt : Opt) (c : Bool)
    (b : UserBounds) (f : Bytes) (hr : b.tryIntoRange n = none) (hf : b.fallback = some f) :
    outputBof line fields n opt c (.bound b) = (writeMaybeAsJson f opt.json).seq (joinerOf opt b) := by
  simp only [outputBof, hr, hf, joinerOf]

/-- general engine: no own fallback ⇒ the generic one, in the same way -/
theorem general_generic_fallback (line : Bytes) (fields : List Range) (n : Nat) (opt : Opt) (c : Bool)
    (b : UserBounds) (g : Bytes) (hr : b.tryIntoRange n = none) (hf : b.fallback = none)
    (hg : opt.fallbackOob = some g) :
    outputBof line fields n opt c (.bound b) = (writeMaybeAsJson g opt.json).seq (joinerOf opt b) := by
  simp only [outputBof, hr, hf, hg, joinerOf]

/-- general engine: no fallback at all ⇒ the record (hence the run) fails and prints nothing for it -/
theorem general_no_fallback_fails (line : Bytes) (fields : List Range) (n : Nat) (opt : Opt) (c : Bool)
    (b : UserBounds) (hr : b.tryIntoRange n = none) (hf : b.fallback = none)
    (hg : opt.fallbackOob = none) :
    outputBof line fields n opt c (.bound b) = Run.fail := by
  simp only [outputBof, hr, hf, hg]

/-- general engine: a bound that resolves never prints a fallback: it prints the record's bytes
    from the start of its first field to the end of its last field -/
theorem general_resolvable (line : Bytes) (fields : List Range) (n : Nat) (opt : Opt) (c : Bool)
    (b : UserBounds) (s e : Nat) (fs fe : Range) (hr : b.tryIntoRange n = some (s, e))
    (h1 : fields[s]? = some fs) (h2 : fields[e - 1]? = some fe)
    (h3 : fs.start ≤ fe.stop ∧ fe.stop ≤ line.length) :
    outputBof line fields n opt c (.bound b) =
      (writeMaybeAsJson (maybeReplaceDelimiter (slice line fs.start fe.stop) opt c) opt.json).seq
        (joinerOf opt b) := by
  simp only [outputBof, hr, h1, h2, h3, joinerOf, and_self, if_true]

/-- a failing bound fails the whole output loop, whatever comes after it, and what was written
    before it stays -/
theorem general_loop_fails (line : Bytes) (fields : List Range) (n : Nat) (opt : Opt) (c : Bool)
    (pre post : List BoF) (b : UserBounds) (hr : b.tryIntoRange n = none) (hf : b.fallback = none)
    (hg : opt.fallbackOob = none)
    (hpre : (outputLoop line fields n opt c pre).status = .ok) :
    (outputLoop line fields n opt c (pre ++ .bound b :: post)).status = .fail := by
  rw [outputLoop_eq_seqMap] at hpre ⊢
  rw [Run.seqMap_append, Run.seq_status_of_ok hpre, Run.seqMap,
    general_no_fallback_fails line fields n opt c b hr hf hg]
  rfl

/-- fast lane: same rule, re-implemented in `output_parts` -/
theorem fast_rule (line : Bytes) (b : UserBounds) (fields : List Nat) (opt : FastOpt)
    (hne : fields ≠ []) (hr : b.tryIntoRange (fields.length - 1) = none) :
    outputParts line b fields opt =
      match b.fallback, opt.fallbackOob with
      | some f, _ => (Run.ok f).seq (if opt.join && !b.isLast then Run.ok [opt.delimiter] else Run.empty)
      | none, some g => (Run.ok g).seq (if opt.join && !b.isLast then Run.ok [opt.delimiter] else Run.empty)
      | none, none => Run.fail := by
  have : fields.isEmpty = false := by
    cases fields with
    | nil => exact absurd rfl hne
    | cons _ _ => rfl
  simp only [outputParts, this, hr]
  cases b.fallback <;> cases opt.fallbackOob <;> rfl

/-- byte mode (`cut_bytes`, cut_bytes.rs:18–24): same rule -/
theorem bytes_rule (data : Bytes) (opt : Opt) (b : UserBounds) (t : List BoF)
    (hr : b.tryIntoRange data.length = none) :
    cutBytesLoop data opt (.bound b :: t) =
      match b.fallback, opt.fallbackOob with
      | some f, _ => Run.pre f (cutBytesLoop data opt t)
      | none, some g => Run.pre g (cutBytesLoop data opt t)
      | none, none => Run.fail := by
  simp only [cutBytesLoop, hr]
  cases b.fallback <;> cases opt.fallbackOob <;> rfl

/-- `-M`: a bound never reached when the record ends (closed, or open and beyond the last field)
    prints its fallback, else the generic one, else the run fails -/
theorem stream_rule (o : StreamOpt) (numFields : Int) (b : UserBounds) (t : List BoF)
    (hm : b.matches numFields = some false) :
    printFillerOrFallbacks o numFields (.bound b :: t) =
      match b.fallback, o.fallbackOob with
      | some f, _ => (Run.ok (f ++ (if o.join && !b.isLast then [o.joiner] else []))).seq
                        (printFillerOrFallbacks o numFields t)
      | none, some g => (Run.ok (g ++ (if o.join && !b.isLast then [o.joiner] else []))).seq
                        (printFillerOrFallbacks o numFields t)
      | none, none => Run.fail := by
  simp only [printFillerOrFallbacks, hm]
  cases b.fallback <;> cases o.fallbackOob <;> simp

/-- `-l`, one line at a time: every bound that was never reached when the input ends follows the
    rule (`a = false`: none of its lines has been printed) -/
theorem lines_rule (o : Opt) (b : UserBounds) (t : List BoF) :
    fwdEnd o (.bound b :: t) false =
      match b.fallback, o.fallbackOob with
      | some f, _ => Run.pre (f ++ lineJoiner o t) (fwdEnd o t false)
      | none, some g => Run.pre (g ++ lineJoiner o t) (fwdEnd o t false)
      | none, none => Run.fail := by
  simp only [fwdEnd]
  cases b.fallback <;> cases o.fallbackOob <;> simp

/-- `-l`, one line at a time: a closed range cut short by the end of the input fails (its lines
    already printed cannot be taken back) — never a silent success -/
theorem lines_straddling_fails (o : Opt) (b : UserBounds) (t : List BoF) (h : b.r ≠ .cont) :
    fwdEnd o (.bound b :: t) true = Run.fail := by
  simp only [fwdEnd, h, ne_eq, not_false_eq_true, if_true]

/-- for a bound without index 0 the code's `tryIntoRange` and the specification's `resolve` fail
    for the same numbers of parts (in arithmetic terms — an index beyond the number of parts in
    either direction, or sides that cross once resolved —: `resolve_none_iff` in C13Runs) -/
theorem unresolvable_iff (b : UserBounds) (n : Nat) (hz : b.Nonzero) :
    b.tryIntoRange n = none ↔ resolve b n = none := by
  rw [tryIntoRange_eq_resolve b n hz]
  cases resolve b n <;> simp

/-- range expansion (`--json`, `-c`) keeps an unresolvable bound, with its fallback -/
theorem unpack_keeps_unresolvable (b : UserBounds) (n : Nat) (h : b.tryIntoRange n = none) :
    b.unpack n = [{ b with isLast := false }] := by
  simp only [UserBounds.unpack, h]

/-- and so does `--complement` -/
theorem complement_keeps_unresolvable (b : UserBounds) (n : Nat) (h : b.tryIntoRange n = none) :
    complementBof n (.bound b) = [.bound { b with isLast := false }] := by
  simp only [complementBof, UserBounds.complement, h, Option.map_none]

/-- non-vacuity: `5=x` on three parts is unresolvable and has its own fallback -/
example : ({ l := .some 5, r := .some 5, fallback := some [0x78] } : UserBounds).tryIntoRange 3 = none := by
  decide

end Tuc
