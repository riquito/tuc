import Tuc.Model.BoundsListLit
import Tuc.Props.BoundsLit
import Tuc.Lemmas.Total
/-!
# Tuc.Props.BoundsListLit — `userboundslist.rs` as written computes what the model says

`Tuc.Model.BoundsListLit` follows `src/bounds/userboundslist.rs` statement by statement: `i32` sides,
the per-bound callees of `Tuc.Model.BoundsLit`, strings as `List Char` with BYTE offsets, every
`&s[a..b]` / `&s[a..]` checked (out of range, `a > b`, or off a char boundary = `Res.panic`), every
`unwrap` / `expect` / `usize` subtraction checked.  This file proves each function equal to its
counterpart of `Tuc.Model.Bounds` (`toModel` reads a Rust value in the model, `bofOfModel` /
`listOfModel` store a model value in the Rust types).

Without hypothesis: the scanner `parse_bounds_list` and `UserBoundsList::from_str` on EVERY string (no
slice of the scanner is out of range or off a char boundary, no subtraction underflows: `part_start`
is only ever `idx + 1` behind a one-byte bracket; a parsed bound fits an `i32`),
`From<Vec<BoundOrFiller>>` (the `unwrap` of l.37 cannot panic, the `expect` of l.50 panics exactly on
a list without a bound), and the four tests `is_sortable`, `is_sorted`, `has_negative_indices`,
`is_forward_only`.  Each equation is stated on the Rust values and again (`*_model`) on the model's own
values when all sides fit an `i32` (`AllInI32`).

`unpack` and `complement` need `num_fields < 2³¹` and `leftNonzero` (no bound has the literal `0` on
the left), both inherited from `UserBounds::unpack` / `complement`; on what `UserBoundsList::from_str`
accepted only `num_fields < 2³¹` is left.  Both are necessary (the `example`s at the end of the file,
by evaluation): with 2³¹ fields `-f -1` panics in `unpack` (`i as i32 + 1`) and the complement of
`-f 1` panics in `expect("range was bigger than expected")`; on the bound `0:`, which only
`UserBounds::new` builds, `unpack` and `complement` panic where the model answers.

The `#guard`s at the head of the file compare by evaluation: `s.len()` / `is_char_boundary` against the bytes of the encoding;
`parse_bounds_list` and `from_str` on all 111 111 strings of at most 5 symbols over
`{ } : , = \ 1 - é n`; the list functions on 8258 lists built from 64 bounds, with and without fillers.
-/

namespace Tuc
namespace BoundsListLit
open BoundsLit

/-- `{ } : , = \ 1 - é n`: the brackets, the separators, the escape character and `n` (`\n`), a digit,
    a sign, and a 2-byte character -/
def scanAlphabet : List Char := ['{', '}', ':', ',', '=', '\\', '1', '-', 'é', 'n']

/-- all strings of at most `n` symbols over `scanAlphabet` -/
def scanStrings (n : Nat) : List (List Char) :=
  (List.range (n + 1)).flatMap (stringsOfLength scanAlphabet)

#guard (scanStrings 5).length == 111111

/-! `parse_bounds_list` and `UserBoundsList::from_str` on all of them -/
#guard (scanStrings 5).all fun s =>
  resMap (List.map BoFL.toModel) (parseBoundsListLit s) == resOfOption (parseBoundsList s) &&
  resMap UserBoundsListL.toModel (fromStrLit s) == boundsListOfString s

/-! multi-byte characters of 2, 3 and 4 bytes in every position relative to the brackets -/
#guard ["é{1}", "{1}é", "é{1}é", "€{1}😎{2}€", "{1}😎{2}", "{{é}}{1}", "é{{{1}}}é", "{é}", "{1,é}", "{1=é}é",
    "😎", "{😎", "😎}", "\\né\\t{1}", "é\\", "{1}{{😎"].all fun t =>
  let s := t.toList
  resMap (List.map BoFL.toModel) (parseBoundsListLit s) == resOfOption (parseBoundsList s) &&
  resMap UserBoundsListL.toModel (fromStrLit s) == boundsListOfString s

/-! the slices really are checked: an offset inside `é` (bytes 1-2 of `aéb`) panics -/
example : strSlice "aéb".toList 1 2 = .panic ∧ strSlice "aéb".toList 1 3 = .ok ['é'] ∧
    strSlice "aéb".toList 2 3 = .panic ∧ strSlice "aéb".toList 3 1 = .panic ∧
    strSlice "aéb".toList 4 5 = .panic ∧ strSliceFrom "aéb".toList 2 = .panic ∧
    strSliceFrom "aéb".toList 4 = .ok [] ∧ strSliceFrom "aéb".toList 5 = .panic := by decide +kernel

/-- `str::is_char_boundary` as `core` writes it, on the bytes of the encoding: `index == 0`, or
    `index == len` beyond the last byte, or a byte that is not a continuation byte
    (`(b as i8) >= -0x40`) -/
def isCharBoundaryBytes (s : List Char) (n : Nat) : Bool :=
  n == 0 ||
    (if n ≥ (utf8 s).length then n == (utf8 s).length else !isCont ((utf8 s)[n]!))

/-! the model of `s.len()` / `is_char_boundary` (whole characters) against the bytes: all strings of at
    most 4 symbols over 1-, 2-, 3- and 4-byte characters, every offset up to `len + 2` -/
#guard ((List.range 5).flatMap (stringsOfLength ['a', 'é', '€', '😎'])).all fun s =>
  strLen s == (utf8 s).length &&
  (List.range (strLen s + 3)).all fun n => isCharBoundary s n == isCharBoundaryBytes s n

def sideVals : List SideL :=
  [SideL.cont, S (-2), S (-1), S 1, S 2, S 3, S (-2147483648), S 2147483647]

def someBounds : List UserBoundsL :=
  sideVals.flatMap fun l => sideVals.map fun r => UserBoundsL.new l r

/-- no list, one filler, every bound alone, every pair of bounds bare and between fillers -/
def someLists : List (List BoFL) :=
  [[], [BoFL.filler [65]]] ++
  someBounds.map (fun a => [BoFL.bound a]) ++
  (someBounds.flatMap fun a => someBounds.flatMap fun b =>
    [[BoFL.bound a, BoFL.bound b],
     [BoFL.filler [65], BoFL.bound a, BoFL.filler [66], BoFL.bound b, BoFL.filler [67]]])

#guard someLists.length == 8258

#guard someLists.all fun l =>
  let u : UserBoundsListL := ⟨l, SideL.cont⟩
  let m := l.map BoFL.toModel
  u.isSortable == Tuc.isSortable m &&
  u.isSorted == .ok (Tuc.isSorted m) &&
  u.hasNegativeIndices == Tuc.hasNegativeIndices m &&
  u.isForwardOnly == .ok (Tuc.isForwardOnly m) &&
  resMap UserBoundsListL.toModel (fromVecLit l) == fromVec m &&
  [0, 1, 3, 4].all fun n =>
    resMap UserBoundsListL.toModel (u.unpack n) == unpackList m n &&
    resMap UserBoundsListL.toModel (u.complement n) == complementList m n

/-- `a{1:2}é{5}b` as a vector -/
def vecA : List BoFL :=
  [BoFL.filler [97], BoFL.bound (UserBoundsL.new (S 1) (S 2)), BoFL.filler [195, 169],
   BoFL.bound (UserBoundsL.new (S 5) (S 5)), BoFL.filler [98]]

/-- `-1,1` -/
def vecMixed : List BoFL :=
  [BoFL.bound (UserBoundsL.new (S (-1)) (S (-1))), BoFL.bound (UserBoundsL.new (S 1) (S 1))]

/-- `2,1` -/
def vecBackwards : List BoFL :=
  [BoFL.bound (UserBoundsL.new (S 2) (S 2)), BoFL.bound (UserBoundsL.new (S 1) (S 1))]

theorem sideOfModel_of_toModel (x : SideL) : sideOfModel x.toModel = x := by
  cases x with
  | cont => rfl
  | some v => simp only [SideL.toModel, sideOfModel, I32.wrap_self]

theorem boundsOfModel_of_toModel (b : UserBoundsL) : boundsOfModel b.toModel = b := by
  cases b
  simp only [UserBoundsL.toModel, boundsOfModel, sideOfModel_of_toModel]

theorem bofOfModel_of_toModel (x : BoFL) : bofOfModel x.toModel = x := by
  cases x with
  | bound b => simp only [BoFL.toModel, bofOfModel, boundsOfModel_of_toModel]
  | filler f => rfl

theorem map_bofOfModel_of_toModel (l : List BoFL) : (l.map BoFL.toModel).map bofOfModel = l := by
  induction l with
  | nil => rfl
  | cons x t ih => simp only [List.map_cons, bofOfModel_of_toModel, ih]

theorem listOfModel_of_toModel (u : UserBoundsListL) : listOfModel u.toModel = u := by
  cases u
  simp only [UserBoundsListL.toModel, listOfModel, map_bofOfModel_of_toModel, sideOfModel_of_toModel]

theorem eq_resMap_of_toModel {α β : Type} {f : α → β} {g : β → α} (hg : ∀ a, g (f a) = a)
    {r : Res α} {o : Res β} (h : resMap f r = o) : r = resMap g o := by
  subst h
  cases r with
  | ok a => simp only [resMap, hg]
  | fail => rfl
  | panic => rfl

theorem getUserboundsOnly_eq (u : UserBoundsListL) :
    u.getUserboundsOnly.map UserBoundsL.toModel = boundsOnly (u.list.map BoFL.toModel) := by
  obtain ⟨l, s⟩ := u
  induction l with
  | nil => rfl
  | cons x t ih =>
    cases x <;>
      simpa only [UserBoundsListL.getUserboundsOnly, List.flatMap_cons, List.map_append, List.map_cons,
        BoFL.toModel, boundsOnly, Option.toList, List.map_nil, List.nil_append, List.singleton_append,
        List.cons.injEq, true_and] using ih

theorem isPositive_eq (x : I32) : isPositive x = decide (x.val > 0) := rfl
theorem isNegative_eq (x : I32) : isNegative x = decide (x.val < 0) := rfl

theorem flagStep (p hp hn : Bool) :
    (if p then (true, hn) else (hp, true)) = (hp || p, hn || !p) := by
  cases p <;> simp

theorem decide_nonpos (v : Int) : decide (v ≤ 0) = !decide (v > 0) := by
  simp only [← decide_not, Int.not_lt]

theorem isSortableLoop_eq (bs : List UserBoundsL) (hp hn : Bool) :
    isSortableLoop bs hp hn =
      (hp || (bs.map UserBoundsL.toModel).any (fun b => b.l.isPos || b.r.isPos),
       hn || (bs.map UserBoundsL.toModel).any (fun b => b.l.isNonPos || b.r.isNonPos)) := by
  induction bs generalizing hp hn with
  | nil => simp [isSortableLoop]
  | cons b t ih =>
    obtain ⟨l, r, il, fb⟩ := b
    have hpos (x : I32) : (Side.some x.val).isPos = isPositive x := rfl
    have hnon (x : I32) : (Side.some x.val).isNonPos = !isPositive x := decide_nonpos x.val
    cases l <;> cases r <;>
      simp only [isSortableLoop, flagStep, ih, List.map_cons, List.any_cons, UserBoundsL.toModel,
        SideL.toModel, hpos, hnon, show Side.cont.isPos = false from rfl,
        show Side.cont.isNonPos = false from rfl, Bool.or_false, Bool.false_or, Bool.or_assoc]

theorem isSortable_eq (self : UserBoundsListL) :
    self.isSortable = Tuc.isSortable (self.list.map BoFL.toModel) := by
  obtain ⟨l, s⟩ := self
  simp only [UserBoundsListL.isSortable, Tuc.isSortable, isSortableLoop_eq, getUserboundsOnly_eq,
    Bool.false_or]

/-- non-vacuity: `-1,1` cannot be sorted, `a{1:2}é{5}b` and `2,1` can -/
example : (UserBoundsListL.mk vecMixed SideL.cont).isSortable = false ∧
    (UserBoundsListL.mk vecA SideL.cont).isSortable = true ∧
    (UserBoundsListL.mk vecBackwards SideL.cont).isSortable = true := by decide +kernel

theorem optionLe_some (p b : UserBoundsL) :
    optionLe (Option.some p) (Option.some b) = .ok (p.toModel.le b.toModel) := by
  simp only [optionLe, optionPartialCmp, partialCmp_eq, bind_ok, UserBounds.le]
  cases p.toModel.partialCmp b.toModel with
  | none => rfl
  | some o => cases o <;> rfl

theorem isSortedLoop_eq (bs : List UserBoundsL) (prev : Option UserBoundsL) :
    isSortedLoop bs prev =
      .ok (isSortedAux (prev.map UserBoundsL.toModel) (bs.map UserBoundsL.toModel)) := by
  induction bs generalizing prev with
  | nil => cases prev <;> rfl
  | cons b t ih =>
    cases prev with
    | none =>
      simp only [isSortedLoop, Option.isNone_none, if_true, bind_ok, ih, Option.map_none, Option.map_some,
        List.map_cons, isSortedAux]
    | some p =>
      simp only [isSortedLoop, Option.isNone_some, Bool.false_eq_true, if_false, optionLe_some, bind_ok,
        Option.map_some, List.map_cons, isSortedAux]
      by_cases h : p.toModel.le b.toModel = true
      · simp only [h, if_true, ih, Option.map_some]
      · simp only [h, if_false, Bool.false_eq_true]

/-- **`is_sorted`**: no comparison can overflow -/
theorem isSorted_eq (self : UserBoundsListL) :
    self.isSorted = .ok (Tuc.isSorted (self.list.map BoFL.toModel)) := by
  obtain ⟨l, s⟩ := self
  simp only [UserBoundsListL.isSorted, isSortedLoop_eq, Tuc.isSorted, getUserboundsOnly_eq, Option.map_none]

/-- non-vacuity: `a{1:2}é{5}b` is sorted, `2,1` is not, `-1,1` is not (different signs do not compare) -/
example : (UserBoundsListL.mk vecA SideL.cont).isSorted = .ok true ∧
    (UserBoundsListL.mk vecBackwards SideL.cont).isSorted = .ok false ∧
    (UserBoundsListL.mk vecMixed SideL.cont).isSorted = .ok false := by decide +kernel

theorem hasNegativeClosure_eq (b : UserBoundsL) :
    hasNegativeClosure b = (b.toModel.l.isNeg || b.toModel.r.isNeg) := by
  obtain ⟨l, r, il, fb⟩ := b
  cases l <;> cases r <;>
    simp [hasNegativeClosure, UserBoundsL.toModel, SideL.toModel, Side.isNeg, isNegative_eq]

theorem hasNegativeIndices_eq (self : UserBoundsListL) :
    self.hasNegativeIndices = Tuc.hasNegativeIndices (self.list.map BoFL.toModel) := by
  obtain ⟨l, s⟩ := self
  simp only [UserBoundsListL.hasNegativeIndices, Tuc.hasNegativeIndices, ← getUserboundsOnly_eq ⟨l, s⟩,
    List.any_map]
  congr 1
  funext b
  exact hasNegativeClosure_eq b

example : (UserBoundsListL.mk vecMixed SideL.cont).hasNegativeIndices = true ∧
    (UserBoundsListL.mk vecA SideL.cont).hasNegativeIndices = false := by decide +kernel

/-- **`is_forward_only`** is the model's and cannot panic.  No hypothesis. -/
theorem isForwardOnly_eq (self : UserBoundsListL) :
    self.isForwardOnly = .ok (Tuc.isForwardOnly (self.list.map BoFL.toModel)) := by
  simp only [UserBoundsListL.isForwardOnly, Tuc.isForwardOnly, isSortable_eq, isSorted_eq,
    hasNegativeIndices_eq, bind_ok]
  cases Tuc.isSortable (self.list.map BoFL.toModel) <;>
    cases Tuc.isSorted (self.list.map BoFL.toModel) <;> simp

example : (UserBoundsListL.mk vecA SideL.cont).isForwardOnly = .ok true ∧
    (UserBoundsListL.mk vecBackwards SideL.cont).isForwardOnly = .ok false ∧
    (UserBoundsListL.mk vecMixed SideL.cont).isForwardOnly = .ok false := by decide +kernel

theorem setIsLast_zero (b : UserBoundsL) (t : List BoFL) :
    setIsLast (BoFL.bound b :: t) 0 = .ok (BoFL.bound { b with isLast := true } :: t) := rfl

theorem setIsLast_succ (x : BoFL) (t : List BoFL) (k : Nat) :
    setIsLast (x :: t) (k + 1) = resMap (x :: ·) (setIsLast t k) := by
  simp only [setIsLast, List.getElem?_cons_succ, List.set_cons_succ]
  cases h : t[k]? with
  | none => rfl
  | some y => cases y <;> rfl

theorem setIsLast_cons (x : BoFL) (t : List BoFL) (i : Nat) (lb : Option Nat) (l' : List BoF)
    (h : ∃ k, lb = Option.some (i + 1 + k) ∧
      resMap (List.map BoFL.toModel) (setIsLast t k) = .ok l') :
    ∃ k, lb = Option.some (i + k) ∧
      resMap (List.map BoFL.toModel) (setIsLast (x :: t) k) = .ok (x.toModel :: l') := by
  obtain ⟨k, hk, hs⟩ := h
  obtain ⟨u, hu, rfl⟩ := resMap_eq_ok hs
  refine ⟨k + 1, by rw [hk, Nat.add_assoc, Nat.add_comm 1], ?_⟩
  rw [setIsLast_succ, hu]
  rfl

/-- the guard of l.37 and the assignment of l.38: `unwrap` cannot panic, the comparison cannot overflow,
    and the right-most bound is updated as the model does -/
theorem fromLoop_guard (rm : Option SideL) (r : SideL) :
    ∃ c, (if rm.isNone then Res.ok true else someOrPanic rm fun m => SideL.gt r m) = .ok c ∧
      (if c then Option.some r else rm).map SideL.toModel =
        (match rm.map SideL.toModel with
         | Option.none => Option.some r.toModel
         | Option.some m => if r.toModel.gt m then Option.some r.toModel else Option.some m) := by
  cases rm with
  | none => exact ⟨true, rfl, rfl⟩
  | some m =>
    refine ⟨r.toModel.gt m.toModel, by simp [someOrPanic_some, SideL.gt_eq], ?_⟩
    simp only [Option.map_some]
    by_cases hg : r.toModel.gt m.toModel = true
    · rw [if_pos hg, if_pos hg]; rfl
    · rw [if_neg hg, if_neg hg]; rfl

/-- the loop of `from`: the right-most bound as the model computes it; `last_bound` ends up on the
    bound that `markLast` marks (and stays what it was when the list has no bound) -/
theorem fromLoop_eq (l : List BoFL) (i : Nat) (rm : Option SideL) (lb : Option Nat) :
    ∃ rm' lb', fromLoop l i rm lb = .ok (rm', lb') ∧
      rm'.map SideL.toModel =
        rightmostBound (rm.map SideL.toModel) (boundsOnly (l.map BoFL.toModel)) ∧
      (match markLast (l.map BoFL.toModel) with
       | Option.none => lb' = lb
       | Option.some l' => ∃ k, lb' = Option.some (i + k) ∧
           resMap (List.map BoFL.toModel) (setIsLast l k) = .ok l') := by
  induction l generalizing i rm lb with
  | nil => exact ⟨rm, lb, rfl, by cases rm <;> rfl, rfl⟩
  | cons x t ih =>
    cases x with
    | filler f =>
      obtain ⟨rm', lb', h1, h2, h3⟩ := ih (i + 1) rm lb
      refine ⟨rm', lb', by rw [fromLoop, h1], h2, ?_⟩
      simp only [List.map_cons, BoFL.toModel, markLast]
      revert h3
      cases markLast (t.map BoFL.toModel) with
      | none => exact id
      | some l' => exact setIsLast_cons _ t i lb' l'
    | bound b =>
      obtain ⟨c, hc1, hc2⟩ := fromLoop_guard rm b.r
      obtain ⟨rm', lb', h1, h2, h3⟩ := ih (i + 1) (if c then Option.some b.r else rm) (Option.some i)
      refine ⟨rm', lb', by simp only [fromLoop, hc1, bind_ok, h1], ?_, ?_⟩
      · rw [h2, hc2]
        cases rm <;> rfl
      · simp only [List.map_cons, BoFL.toModel, markLast]
        revert h3
        cases markLast (t.map BoFL.toModel) with
        | none => exact fun h3 => ⟨0, h3, rfl⟩
        | some l' => exact setIsLast_cons _ t i lb' l'

/-- **`impl From<Vec<BoundOrFiller>> for UserBoundsList`** = `fromVec`, for every list: the `unwrap` of
    l.37 cannot panic, the comparison of l.37 cannot overflow, the `expect` of l.50 panics exactly
    when the model says so (a list without a bound). -/
theorem fromVec_eq (list : List BoFL) :
    resMap UserBoundsListL.toModel (fromVecLit list) = fromVec (list.map BoFL.toModel) := by
  obtain ⟨rm', lb', h1, h2, h3⟩ := fromLoop_eq list 0 Option.none Option.none
  simp only [fromVecLit, h1, bind_ok, fromVec, isSortable_eq]
  cases hm : markLast (list.map BoFL.toModel) with
  | none =>
    rw [hm] at h3
    subst h3
    rfl
  | some l' =>
    rw [hm] at h3
    obtain ⟨k, rfl, hs⟩ := h3
    obtain ⟨u, hu, rfl⟩ := resMap_eq_ok hs
    simp only [someOrPanic_some, Nat.zero_add, hu, bind_ok, resMap, UserBoundsListL.toModel,
      Res.ok.injEq, UserBoundsList.mk.injEq, true_and]
    rw [Option.map_none] at h2
    rw [← h2]
    cases Tuc.isSortable (list.map BoFL.toModel) with
    | false => rfl
    | true => cases rm' <;> rfl

/-- non-vacuity: `is_last` lands on `{5}`, the right-most bound is 5; on `-1,1` (not sortable) it is
    `Side::Continue`; a vector without a bound panics in `expect` -/
example :
    fromVecLit vecA = .ok
      { list := [BoFL.filler [97], BoFL.bound (UserBoundsL.new (S 1) (S 2)), BoFL.filler [195, 169],
          BoFL.bound { UserBoundsL.new (S 5) (S 5) with isLast := true }, BoFL.filler [98]],
        lastInterestingField := S 5 } ∧
    resMap UserBoundsListL.lastInterestingField (fromVecLit vecMixed) = .ok SideL.cont ∧
    resMap UserBoundsListL.lastInterestingField (fromVecLit vecBackwards) = .ok (S 2) ∧
    fromVecLit [BoFL.filler [97]] = .panic ∧ fromVecLit [] = .panic := by decide +kernel

/-- no bound of the list has the literal `0` as its left side (what `UserBounds::from_str`
    guarantees; `UserBounds::new` does not) -/
def leftNonzero (l : List BoFL) : Bool :=
  l.all fun x =>
    match x with
    | .bound b => b.l != SideL.some (i32 0)
    | .filler _ => true

theorem leftNonzero_cons_bound (b : UserBoundsL) (t : List BoFL) :
    leftNonzero (BoFL.bound b :: t) = true ↔ b.l ≠ SideL.some (i32 0) ∧ leftNonzero t = true := by
  simp [leftNonzero]

theorem leftNonzero_cons_filler (f : Bytes) (t : List BoFL) :
    leftNonzero (BoFL.filler f :: t) = leftNonzero t := by
  simp [leftNonzero]

theorem resFlatMapM_eq (f : BoFL → Res (List BoFL)) (g : BoF → List BoF) (l : List BoFL)
    (h : ∀ x ∈ l, resMap (List.map BoFL.toModel) (f x) = .ok (g x.toModel)) :
    resMap (List.map BoFL.toModel) (resFlatMapM f l) = .ok ((l.map BoFL.toModel).flatMap g) := by
  induction l with
  | nil => rfl
  | cons x t ih =>
    obtain ⟨bs, hbs, hx⟩ := resMap_eq_ok (h x List.mem_cons_self)
    obtain ⟨r, hr, ht⟩ := resMap_eq_ok (ih fun y hy => h y (List.mem_cons_of_mem _ hy))
    rw [resFlatMapM, hbs, bind_ok, hr, bind_ok, resMap, List.map_append, hx, ht]
    rfl

theorem unpackClosure_eq (n : Nat) (hn : n < 2147483648) (x : BoFL)
    (hx : leftNonzero [x] = true) :
    resMap (List.map BoFL.toModel) (unpackClosure n x) = .ok (unpackBof n x.toModel) := by
  cases x with
  | filler f => rfl
  | bound b =>
    obtain ⟨v, hv, h⟩ :=
      resMap_eq_ok (BoundsLit.unpack_eq b n hn ((leftNonzero_cons_bound b []).mp hx).1)
    simp only [unpackClosure, hv, bind_ok, resMap, BoFL.toModel, unpackBof, ← h, List.map_map]
    rfl

theorem leftNonzero_mem (l : List BoFL) (h : leftNonzero l = true) (x : BoFL) (hx : x ∈ l) :
    leftNonzero [x] = true := by
  simp only [leftNonzero, List.all_eq_true] at h ⊢
  intro y hy
  simp only [List.mem_singleton] at hy
  subst hy
  exact h _ hx

/-- **`UserBoundsList::unpack`** = `unpackList` with fewer than 2³¹ fields, on a list none of whose
    bounds has the literal `0` as its left side -/
theorem unpack_eq (self : UserBoundsListL) (n : Nat) (hn : n < 2147483648)
    (hl : leftNonzero self.list = true) :
    resMap UserBoundsListL.toModel (self.unpack n) = unpackList (self.list.map BoFL.toModel) n := by
  obtain ⟨list, hr, h⟩ := resMap_eq_ok (resFlatMapM_eq (unpackClosure n) (unpackBof n) self.list
    fun x hx => unpackClosure_eq n hn x (leftNonzero_mem _ hl x hx))
  rw [UserBoundsListL.unpack, unpackList, hr, bind_ok, fromVec_eq, h]

/-- non-vacuity: `a{1:2}é{5}b` on 4 fields — `5` does not resolve and is kept -/
example :
    resMap UserBoundsListL.toModel ((UserBoundsListL.mk vecA SideL.cont).unpack 4) =
      unpackList (vecA.map BoFL.toModel) 4 ∧
    resMap (fun u => u.list.length) ((UserBoundsListL.mk vecA SideL.cont).unpack 4) = .ok 6 :=
  ⟨unpack_eq _ 4 (by decide) (by decide), by decide +kernel⟩

theorem complementClosure_eq (n : Nat) (hn : n < 2147483648) (x : BoFL)
    (hx : leftNonzero [x] = true) :
    resMap (List.map BoFL.toModel) (complementClosure n x) = .ok (complementBof n x.toModel) := by
  cases x with
  | filler f => rfl
  | bound b =>
    simp only [complementClosure, BoFL.toModel, complementBof]
    rcases resMap_eq_ofOption
      (BoundsLit.complement_eq b n hn ((leftNonzero_cons_bound b []).mp hx).1) with
      ⟨v, hv, hm⟩ | ⟨hv, hm⟩
    · simp only [hv, hm, resMap, List.map_map]
      rfl
    · rw [hv, hm]
      rfl

theorem any_isBound_eq (l : List BoFL) :
    l.any BoFL.isBound = !(boundsOnly (l.map BoFL.toModel)).isEmpty := by
  induction l with
  | nil => rfl
  | cons x t ih =>
    cases x with
    | bound b => simp [BoFL.isBound, BoFL.toModel, boundsOnly]
    | filler f => simpa [BoFL.isBound, BoFL.toModel, boundsOnly] using ih

/-- `if !list.iter().any(is_bound) { bail } else { list.into() }`, as `complement` and `from_str` end -/
theorem fromVecLit_guarded (list : List BoFL) :
    resMap UserBoundsListL.toModel (if !list.any BoFL.isBound then .fail else fromVecLit list) =
      if (boundsOnly (list.map BoFL.toModel)).isEmpty then .fail
      else fromVec (list.map BoFL.toModel) := by
  rw [any_isBound_eq, Bool.not_not]
  cases (boundsOnly (list.map BoFL.toModel)).isEmpty with
  | true => rfl
  | false => exact fromVec_eq list

/-- **`UserBoundsList::complement`** = `complementList` with fewer than 2³¹ fields, on a list none of
    whose bounds has the literal `0` as its left side -/
theorem complement_eq (self : UserBoundsListL) (n : Nat) (hn : n < 2147483648)
    (hl : leftNonzero self.list = true) :
    resMap UserBoundsListL.toModel (self.complement n) =
      complementList (self.list.map BoFL.toModel) n := by
  obtain ⟨list, hr, h⟩ := resMap_eq_ok (resFlatMapM_eq (complementClosure n) (complementBof n) self.list
    fun x hx => complementClosure_eq n hn x (leftNonzero_mem _ hl x hx))
  rw [UserBoundsListL.complement, complementList, hr, bind_ok, fromVecLit_guarded, h]

/-- non-vacuity: `a{1:2}é{5}b` on 6 fields is `a{3:6}é{1:4}{6}b`; the complement of `1:` is empty -/
example :
    resMap UserBoundsListL.toModel ((UserBoundsListL.mk vecA SideL.cont).complement 6) =
      complementList (vecA.map BoFL.toModel) 6 ∧
    resMap (fun u => u.list) ((UserBoundsListL.mk vecA SideL.cont).complement 6) = .ok
      [BoFL.filler [97], BoFL.bound (UserBoundsL.new (S 3) (S 6)), BoFL.filler [195, 169],
       BoFL.bound (UserBoundsL.new (S 1) (S 4)),
       BoFL.bound { UserBoundsL.new (S 6) (S 6) with isLast := true }, BoFL.filler [98]] ∧
    (UserBoundsListL.mk [BoFL.bound (UserBoundsL.new (S 1) SideL.cont)] SideL.cont).complement 6 = .fail :=
  ⟨complement_eq _ 6 (by decide) (by decide), by decide +kernel, by decide +kernel⟩

theorem strLen_append (a b : List Char) : strLen (a ++ b) = strLen a + strLen b := by
  induction a with
  | nil => simp [strLen]
  | cons c t ih => simp only [List.cons_append, strLen, ih]; omega

/-- `idx - part_start` / `s.len() - part_start`: the length of the text in between, no underflow -/
theorem usizeSub_strLen (a b : List Char) : usizeSub (strLen (a ++ b)) (strLen a) = .ok (strLen b) := by
  rw [usizeSub, strLen_append, if_pos (Nat.le_add_right _ _), Nat.add_sub_cancel_left]

theorem strLen_pos (c : Char) (t : List Char) : 0 < strLen (c :: t) := by
  have := Char.utf8Size_pos c
  simp only [strLen]; omega

theorem strLen_eq_zero (a : List Char) : strLen a = 0 ↔ a = [] := by
  cases a with
  | nil => simp [strLen]
  | cons c t => have := strLen_pos c t; simp; omega

theorem isCharBoundary_zero (s : List Char) : isCharBoundary s 0 = true := by
  cases s <;> simp [isCharBoundary]

theorem isCharBoundary_prefix (a b : List Char) : isCharBoundary (a ++ b) (strLen a) = true := by
  induction a with
  | nil => exact isCharBoundary_zero b
  | cons c t ih =>
    simp only [List.cons_append, isCharBoundary, strLen, Nat.add_sub_cancel_left, ih, Bool.and_true]
    simp

theorem takeBytes_prefix (a b : List Char) : takeBytes (a ++ b) (strLen a) = a := by
  induction a with
  | nil => cases b <;> simp [takeBytes, strLen]
  | cons c t ih =>
    have := Char.utf8Size_pos c
    simp only [List.cons_append, takeBytes, strLen, Nat.add_sub_cancel_left, ih]
    rw [if_neg (by omega)]

theorem dropBytes_prefix (a b : List Char) : dropBytes (a ++ b) (strLen a) = b := by
  induction a with
  | nil => cases b <;> simp [dropBytes, strLen]
  | cons c t ih =>
    have := Char.utf8Size_pos c
    simp only [List.cons_append, dropBytes, strLen, Nat.add_sub_cancel_left, ih]
    rw [if_neg (by omega)]

theorem strSlice_mid (a b c : List Char) :
    strSlice (a ++ b ++ c) (strLen a) (strLen (a ++ b)) = .ok b := by
  have h1 : isCharBoundary (a ++ b ++ c) (strLen a) = true := by
    rw [List.append_assoc]; exact isCharBoundary_prefix a (b ++ c)
  have h2 : isCharBoundary (a ++ b ++ c) (strLen (a ++ b)) = true := isCharBoundary_prefix (a ++ b) c
  have h3 : strLen a ≤ strLen (a ++ b) := by rw [strLen_append]; omega
  simp only [strSlice, h1, h2, decide_eq_true h3, Bool.and_self, if_true, takeBytes_prefix,
    dropBytes_prefix]

theorem strSliceFrom_suffix (a b : List Char) : strSliceFrom (a ++ b) (strLen a) = .ok b := by
  simp only [strSliceFrom, isCharBoundary_prefix, if_true, dropBytes_prefix]

theorem head_charIndicesFrom (off : Nat) (t : List Char) :
    ((charIndicesFrom off t).head?.getD (0, 'x')).2 = t.head?.getD 'x' := by
  cases t <;> rfl

theorem fillerOf_eq (t : List Char) : fillerOf t = unescapeFiller t := rfl

theorem parseAll_cons (p : List Char) (ps : List (List Char)) :
    parseAll (p :: ps) = (parseUserBounds p).bind fun b => (parseAll ps).map (b :: ·) := by
  simp only [parseAll]
  cases parseUserBounds p <;> cases parseAll ps <;> rfl

theorem pushBoundsLoop_eq (ps : List (List Char)) (bof : List BoFL) :
    resMap (List.map BoFL.toModel) (pushBoundsLoop ps bof) =
      resOfOption ((parseAll ps).map fun bs => bof.map BoFL.toModel ++ bs.map BoF.bound) := by
  induction ps generalizing bof with
  | nil => simp [pushBoundsLoop, parseAll, resMap, resOfOption]
  | cons p ps ih =>
    rw [parseAll_cons, pushBoundsLoop, Option.map_bind]
    refine resMap_bind (UserBoundsL.fromStr_eq p) fun a => (ih _).trans ?_
    cases parseAll ps <;> simp [BoFL.toModel]

/-- l.243-252 / l.270-279: the text since `part_start`, if there is any, becomes a filler -/
theorem pushFillerLit_eq (part : List Char) (sb : List BoF) (ins : Bool) (bof : List BoFL)
    (hbof : bof.map BoFL.toModel = sb.reverse) (slice : Res (List Char)) (hs : slice = .ok part) :
    ∃ bof', (if strLen part > 0 then
          slice.bind fun t => Res.ok (bof ++ [BoFL.filler (fillerOf t)]) else .ok bof) = .ok bof' ∧
      bof'.map BoFL.toModel =
        (ScanSt.pushFiller { inside := ins, part := part.reverse, bof := sb }).reverse := by
  subst hs
  by_cases hp : part = []
  · subst hp
    exact ⟨bof, rfl, by simp [ScanSt.pushFiller, hbof]⟩
  · have hpos : strLen part > 0 := Nat.pos_of_ne_zero (mt (strLen_eq_zero part).mp hp)
    exact ⟨_, by rw [if_pos hpos]; rfl,
      by simp [ScanSt.pushFiller, hbof, hp, fillerOf_eq, BoFL.toModel]⟩

theorem lbrace_size : '{'.utf8Size = 1 := by decide
theorem rbrace_size : '}'.utf8Size = 1 := by decide

/-- one round of the loop for a character that is not half of an escaped bracket: the Rust body
    and `scanStep` fail together, or produce corresponding states — no slice is out of range or off a
    char boundary, `idx - part_start` does not underflow -/
theorem scanBody_eq (pre0 part t : List Char) (w0 : Char) (st : ScanSt) (bof : List BoFL)
    (hpart : st.part = part.reverse) (hbof : bof.map BoFL.toModel = st.bof.reverse) :
    (scanStep w0 st = Option.none ∧
      scanBody (pre0 ++ part ++ w0 :: t) (strLen (pre0 ++ part)) w0 bof st.inside (strLen pre0) = .fail) ∨
    (∃ st' bof' pre0' part', scanStep w0 st = Option.some st' ∧
      scanBody (pre0 ++ part ++ w0 :: t) (strLen (pre0 ++ part)) w0 bof st.inside (strLen pre0) =
        .ok (bof', st'.inside, strLen pre0') ∧
      pre0' ++ part' = pre0 ++ part ++ [w0] ∧ st'.part = part'.reverse ∧
      bof'.map BoFL.toModel = st'.bof.reverse) := by
  obtain ⟨ins, p, sb⟩ := st
  simp only at hpart hbof
  subst hpart
  have hsub := usizeSub_strLen pre0 part
  have hslice : strSlice (pre0 ++ part ++ w0 :: t) (strLen pre0) (strLen (pre0 ++ part)) = .ok part :=
    strSlice_mid pre0 part (w0 :: t)
  rcases scanStep_cases w0 ⟨ins, part.reverse, sb⟩ with ⟨rfl, hs⟩ | ⟨rfl, hs⟩ | ⟨h1, h2, hs⟩ <;> rw [hs]
  · have hne : ('{' == '}') = false := by decide
    cases ins with
    | true => left; simp [scanBody, hne]
    | false =>
      right
      obtain ⟨bof', hb, hm⟩ := pushFillerLit_eq part sb false bof hbof _ hslice
      refine ⟨_, bof', pre0 ++ part ++ ['{'], [], rfl, ?_, by simp, rfl, hm⟩
      simp only [scanBody, hne, Bool.false_and, Bool.false_eq_true, if_false, beq_self_eq_true, if_true,
        hsub, bind_ok]
      rw [hb]
      simp only [bind_ok, strLen_append, strLen, lbrace_size]
  · have hne : ('}' == '{') = false := by decide
    cases ins with
    | false => left; simp [scanBody]
    | true =>
      simp only [scanBody, hne, Bool.not_true, Bool.and_false, Bool.false_eq_true, if_false,
        beq_self_eq_true, if_true, hslice, bind_ok, List.reverse_reverse]
      rcases resMap_eq_ofOption (pushBoundsLoop_eq (splitOnChar ',' part) bof) with
        ⟨u, hu, hm⟩ | ⟨hu, hm⟩
      · obtain ⟨bs, hbs, e⟩ := Option.map_eq_some_iff.mp hm
        right
        rw [hbs, hu]
        refine ⟨_, u, pre0 ++ part ++ ['}'], [], rfl, ?_, by simp, rfl, ?_⟩
        · simp only [bind_ok, strLen_append, strLen, rbrace_size]
        · simp only [← e, hbof, List.reverse_append, List.reverse_reverse]
      · left
        rw [Option.map_eq_none_iff.mp hm, hu]
        exact ⟨rfl, rfl⟩
  · right
    have e1 : (w0 == '}') = false := by simpa using h2
    have e2 : (w0 == '{') = false := by simpa using h1
    exact ⟨_, bof, pre0, part ++ [w0], rfl,
      by simp only [scanBody, e1, e2, Bool.false_and, Bool.false_eq_true, if_false], by simp, by simp, hbof⟩

/-- `iter.next(); iter.next()` on an escaped bracket (l.230-232) -/
theorem scanLoop_esc (S : List Char) (off : Nat) (w0 : Char) (rest : List Char) (bof : List BoFL)
    (ins : Bool) (ps : Nat) (h : w0 = '{' ∨ w0 = '}') :
    scanLoop S (charIndicesFrom off (w0 :: w0 :: rest)) bof ins ps =
      scanLoop S (charIndicesFrom (off + w0.utf8Size + w0.utf8Size) rest) bof ins ps := by
  rw [charIndicesFrom, scanLoop, if_pos (by rcases h with h | h <;> simp [h, charIndicesFrom])]
  rfl

/-- any other round (l.233-265); at the end of the string the peeked `'x'` is no bracket -/
theorem scanLoop_noesc (S : List Char) (off : Nat) (w0 : Char) (t : List Char) (bof : List BoFL)
    (ins : Bool) (ps : Nat) (h : ¬ (w0 = t.head?.getD 'x' ∧ (w0 = '{' ∨ w0 = '}'))) :
    scanLoop S (charIndicesFrom off (w0 :: t)) bof ins ps =
      (scanBody S off w0 bof ins ps).bind fun st =>
        scanLoop S (charIndicesFrom (off + w0.utf8Size) t) st.1 st.2.1 st.2.2 := by
  rw [charIndicesFrom, scanLoop, head_charIndicesFrom, if_neg (by simpa using h)]

/-- l.268-281: what follows the loop -/
def scanFinish (s : List Char) (st : List BoFL × Bool × Nat) : Res (List BoFL) :=
  if st.2.1 then .fail
  else
    (usizeSub (strLen s) st.2.2).bind fun d =>
    (if d > 0 then
      (strSliceFrom s st.2.2).bind fun t => .ok (st.1 ++ [BoFL.filler (fillerOf t)])
     else .ok st.1).bind fun bof =>
    .ok bof

theorem scanFinish_eq (pre0 part : List Char) (st : ScanSt) (bof : List BoFL)
    (hpart : st.part = part.reverse) (hbof : bof.map BoFL.toModel = st.bof.reverse) :
    resMap (List.map BoFL.toModel) (scanFinish (pre0 ++ part) (bof, st.inside, strLen pre0)) =
      resOfOption (scanEnd st) := by
  obtain ⟨ins, p, sb⟩ := st
  simp only at hpart hbof
  subst hpart
  cases ins with
  | true => rfl
  | false =>
    obtain ⟨bof', hb, hm⟩ := pushFillerLit_eq part sb false bof hbof _ (strSliceFrom_suffix pre0 part)
    simp only [scanFinish, Bool.false_eq_true, if_false, usizeSub_strLen, bind_ok, scanEnd, hb, resMap, hm]
    rfl

theorem optBind_eq_match {α β : Type} (o : Option α) (f : α → Option β) :
    o.bind f = match o with | Option.none => Option.none | Option.some a => f a := by
  cases o <;> rfl

/-- **the `while let` loop and what follows it** compute `scan`, from every state that the loop can
    be in: `rest` is what the iterator still has to yield, `pre0` the text before `part_start`,
    `part` the text between `part_start` and the iterator -/
theorem scanLoop_eq (S : List Char) (n : Nat) : ∀ (rest : List Char), rest.length ≤ n →
    ∀ (st : ScanSt) (pre0 part : List Char) (bof : List BoFL) (off : Nat),
    S = pre0 ++ part ++ rest → off = strLen (pre0 ++ part) →
    st.part = part.reverse → bof.map BoFL.toModel = st.bof.reverse →
    resMap (List.map BoFL.toModel)
      ((scanLoop S (charIndicesFrom off rest) bof st.inside (strLen pre0)).bind (scanFinish S)) =
      resOfOption (scan rest st) := by
  induction n with
  | zero =>
    intro rest hlen st pre0 part bof off hS hoff hpart hbof
    obtain rfl : rest = [] := List.eq_nil_of_length_eq_zero (by omega)
    rw [charIndicesFrom, scanLoop, bind_ok, hS, List.append_nil, scan]
    exact scanFinish_eq pre0 part st bof hpart hbof
  | succ n ih =>
    intro rest hlen st pre0 part bof off hS hoff hpart hbof
    cases rest with
    | nil => exact ih [] (Nat.zero_le _) st pre0 part bof off hS hoff hpart hbof
    | cons w0 t =>
      simp only [List.length_cons] at hlen
      by_cases hesc : w0 = t.head?.getD 'x' ∧ (w0 = '{' ∨ w0 = '}')
      · -- an escaped bracket: two characters are consumed
        obtain ⟨hw1, hbr⟩ := hesc
        cases t with
        | nil => rcases hbr with rfl | rfl <;> exact absurd hw1 (by decide)
        | cons w1 rest' =>
          obtain rfl : w0 = w1 := hw1
          rw [scanLoop_esc _ _ _ _ _ _ _ hbr, scan_esc w0 rest' st hbr]
          exact ih rest' (by simp only [List.length_cons] at hlen; omega)
            { st with part := w0 :: w0 :: st.part } pre0 (part ++ [w0, w0]) bof _ (by simp [hS])
            (by simp only [hoff, strLen_append, strLen]; omega) (by simp [hpart]) hbof
      · subst hS hoff
        rw [scanLoop_noesc _ _ _ _ _ _ _ hesc, scan_noesc w0 t st hesc]
        rcases scanBody_eq pre0 part t w0 st bof hpart hbof with
          ⟨hs, hb⟩ | ⟨st', bof', pre0', part', hs, hb, hpre, hpart', hbof'⟩
        · rw [hs, hb]; rfl
        · rw [hs, hb, bind_ok, Option.bind_some]
          exact ih t (by omega) st' pre0' part' bof' _ (by rw [hpre]; simp)
            (by rw [hpre]; simp only [strLen_append, strLen]; omega) hpart' hbof'

theorem parseBoundsListLit_unfold (s : List Char) :
    parseBoundsListLit s =
      if s.isEmpty then .ok []
      else if s.any (fun c => c == '{' || c == '}') then
        (scanLoop s (charIndices s) [] false 0).bind (scanFinish s)
      else resMapM (fun x => resMap BoFL.bound (UserBoundsL.fromStr x)) (splitOnChar ',' s) := rfl

theorem plainList_eq (ps : List (List Char)) :
    resMap (List.map BoFL.toModel)
        (resMapM (fun x => resMap BoFL.bound (UserBoundsL.fromStr x)) ps) =
      resOfOption ((parseAll ps).map (·.map BoF.bound)) := by
  induction ps with
  | nil => rfl
  | cons p ps ih =>
    rw [parseAll_cons, resMapM, bind_resMap, Option.map_bind]
    refine resMap_bind (UserBoundsL.fromStr_eq p) fun a =>
      (resMap_bind_ok (k := (BoFL.bound a :: ·)) (k' := (BoF.bound a.toModel :: ·)) ih fun bs => rfl).trans ?_
    cases parseAll ps <;> rfl

/-- **`parse_bounds_list`** computes `parseBoundsList` on EVERY string: in particular no `&s[a..b]` of
    the scanner is ever out of range or off a char boundary (whatever multi-byte characters the
    fillers contain and wherever they stand), `idx - part_start` and `s.len() - part_start` never
    underflow, and the per-bound parser never panics. -/
theorem parseBoundsListLit_toModel (s : List Char) :
    resMap (List.map BoFL.toModel) (parseBoundsListLit s) = resOfOption (parseBoundsList s) := by
  rw [parseBoundsListLit_unfold]
  unfold parseBoundsList
  by_cases he : s.isEmpty = true
  · rw [if_pos he, if_pos he]; rfl
  · rw [if_neg he, if_neg he]
    have hany : (s.any fun c => c == '{' || c == '}') = (s.any fun c => decide (c = '{' ∨ c = '}')) := by
      congr 1; funext c; rw [Bool.decide_or]; rfl
    rw [hany]
    by_cases hb : (s.any fun c => decide (c = '{' ∨ c = '}')) = true
    · rw [if_pos hb, if_pos hb]
      exact scanLoop_eq s s.length s (Nat.le_refl _) { inside := false, part := [], bof := [] } [] [] [] 0
        rfl rfl rfl rfl
    · rw [if_neg hb, if_neg hb]
      exact plainList_eq _

/-- the same, read from the model's side: `parse_bounds_list(s)` IS the model's answer stored in
    the Rust types -/
theorem parseBoundsListLit_eq (s : List Char) :
    parseBoundsListLit s = resMap (List.map bofOfModel) (resOfOption (parseBoundsList s)) :=
  eq_resMap_of_toModel map_bofOfModel_of_toModel (parseBoundsListLit_toModel s)

/-- `parse_bounds_list` never panics -/
theorem parseBoundsListLit_never_panics (s : List Char) : parseBoundsListLit s ≠ .panic :=
  ne_panic_of_ofOption (parseBoundsListLit_toModel s)

/-- non-vacuity: 2-, 3- and 4-byte characters before, between and after the brackets, escapes, a
    fallback, comma-separated bounds (the `{` of `{1:2,…}` is at byte 2, that of `{3}` at byte 23;
    `{3}}}` is `{`, `3`, an escaped `}}`, `}`: the bound `3}}` is refused) -/
example :
    parseBoundsListLit "é{1:2,-1=x}{{\\t€😎{3}x}}".toList = .ok
      [BoFL.filler [195, 169], BoFL.bound (UserBoundsL.new (S 1) (S 2)),
       BoFL.bound (UserBoundsL.withFallback (S (-1)) (S (-1)) (Option.some [120])),
       BoFL.filler [123, 9, 226, 130, 172, 240, 159, 152, 142],
       BoFL.bound (UserBoundsL.new (S 3) (S 3)), BoFL.filler [120, 125]] ∧
    parseBoundsListLit "é{3}}}".toList = .fail ∧
    parseBoundsListLit "é{1}}".toList = .fail ∧ parseBoundsListLit "é}".toList = .fail ∧
    parseBoundsListLit "1:2,é".toList = .fail := by
  simp only [parseBoundsListLit_eq]
  decide +kernel

theorem dropWhile_eq_nil {α : Type} (p : α → Bool) (l : List α) :
    l.dropWhile p = [] ↔ l.all p = true := by
  induction l with
  | nil => simp
  | cons x t ih => by_cases hx : p x = true <;> simp [hx, ih]

theorem all_dropWhile {α : Type} (p : α → Bool) (l : List α) : (l.dropWhile p).all p = l.all p := by
  induction l with
  | nil => rfl
  | cons x t ih => by_cases hx : p x = true <;> simp [hx, ih]

/-- `s.trim().is_empty()` is "every character is white space" -/
theorem strTrim_isEmpty (s : List Char) : (strTrim s).isEmpty = s.all isWhitespace := by
  rw [strTrim, Bool.eq_iff_iff, List.isEmpty_iff, List.reverse_eq_nil_iff, dropWhile_eq_nil,
    List.all_reverse, all_dropWhile]

/-- **`UserBoundsList::from_str`** = `boundsListOfString` on every string (in particular it never
    panics: `boundsListOfString_never_panics`) -/
theorem fromStrLit_toModel (s : List Char) :
    resMap UserBoundsListL.toModel (fromStrLit s) = boundsListOfString s := by
  unfold fromStrLit boundsListOfString
  rw [strTrim_isEmpty]
  by_cases h : s.all isWhitespace = true
  · rw [if_pos h, if_pos h]; rfl
  · rw [if_neg h, if_neg h]
    rcases resMap_eq_ofOption (parseBoundsListLit_toModel s) with ⟨list, hl, hm⟩ | ⟨hl, hm⟩
    · rw [hl, hm, bind_ok]
      exact fromVecLit_guarded list
    · rw [hl, hm]
      rfl

/-- the same, read from the model's side: `from_str(s)` is the model's answer stored in the Rust
    types -/
theorem fromStrLit_eq (s : List Char) :
    fromStrLit s = resMap listOfModel (boundsListOfString s) :=
  eq_resMap_of_toModel listOfModel_of_toModel (fromStrLit_toModel s)

/-- non-vacuity: fillers of 2 and 4 bytes, a negative bound -/
example :
    fromStrLit "é{1:2}😎{-1}".toList = .ok
      { list := [BoFL.filler [195, 169], BoFL.bound (UserBoundsL.new (S 1) (S 2)),
          BoFL.filler [240, 159, 152, 142],
          BoFL.bound { UserBoundsL.new (S (-1)) (S (-1)) with isLast := true }],
        lastInterestingField := SideL.cont } ∧
    fromStrLit " \t".toList = .fail ∧ fromStrLit "é".toList = .fail ∧ fromStrLit "{0}".toList = .fail := by
  simp only [fromStrLit_eq]
  decide +kernel

/-- `UserBoundsList::from_str` never panics -/
theorem fromStrLit_never_panics (s : List Char) : fromStrLit s ≠ .panic := by
  intro h
  have := fromStrLit_toModel s
  rw [h] at this
  exact boundsListOfString_never_panics s this.symm

theorem parsed_leftNonzero (s : List Char) (u : UserBoundsListL) (h : fromStrLit s = .ok u) :
    leftNonzero u.list = true := by
  have hm : boundsListOfString s = .ok u.toModel := by
    rw [← fromStrLit_toModel, h]; rfl
  simp only [leftNonzero, List.all_eq_true]
  intro x hx
  cases x with
  | filler f => rfl
  | bound b =>
    exact bne_iff_ne.mpr fun hz =>
      (boundsListOfString_wf hm b.toModel (List.mem_map.mpr ⟨_, hx, rfl⟩)).left.ne_some_zero
        ((toModel_eq_zero_iff b.l).mpr hz)

/-- **end to end**: on what `UserBoundsList::from_str` accepted, every list function computes what the
    model says — `unpack` and `complement` on every record with fewer than 2³¹ fields, the others
    without any hypothesis -/
theorem parsed_list (s : List Char) (u : UserBoundsListL) (h : fromStrLit s = .ok u) :
    boundsListOfString s = .ok u.toModel ∧
    u.isSortable = Tuc.isSortable u.toModel.list ∧
    u.isSorted = .ok (Tuc.isSorted u.toModel.list) ∧
    u.hasNegativeIndices = Tuc.hasNegativeIndices u.toModel.list ∧
    u.isForwardOnly = .ok (Tuc.isForwardOnly u.toModel.list) ∧
    (∀ n, n < 2147483648 →
      resMap UserBoundsListL.toModel (u.unpack n) = unpackList u.toModel.list n ∧
      resMap UserBoundsListL.toModel (u.complement n) = complementList u.toModel.list n) := by
  refine ⟨by rw [← fromStrLit_toModel, h]; rfl, isSortable_eq u, isSorted_eq u, hasNegativeIndices_eq u,
    isForwardOnly_eq u, fun n hn => ?_⟩
  have hl := parsed_leftNonzero s u h
  exact ⟨unpack_eq u n hn hl, complement_eq u n hn hl⟩

/-- non-vacuity: `fromStrLit "é{2:}{{"` is accepted -/
example : ∃ u, fromStrLit "é{2:}{{".toList = .ok u ∧ u.list.length = 3 := by
  refine ⟨listOfModel
    { list := [BoF.filler [195, 169], BoF.bound { l := Side.some 2, r := Side.cont, isLast := true },
        BoF.filler [123]], lastInteresting := Side.cont }, ?_, rfl⟩
  rw [fromStrLit_eq]
  decide +kernel

/-- every side of every bound of the list fits an `i32` -/
def AllInI32 (l : List BoF) : Prop := ∀ b, BoF.bound b ∈ l → b.l.InI32 ∧ b.r.InI32

theorem toModel_allInI32 (l : List BoFL) : AllInI32 (l.map BoFL.toModel) := by
  intro b hb
  obtain ⟨x, _, hx⟩ := List.mem_map.mp hb
  cases x with
  | filler f => cases hx
  | bound bL =>
    simp only [BoFL.toModel, BoF.bound.injEq] at hx
    subst hx
    exact ⟨bL.l.toModel_inI32, bL.r.toModel_inI32⟩

theorem map_toModel_bofOfModel (l : List BoF) (h : AllInI32 l) :
    (l.map bofOfModel).map BoFL.toModel = l := by
  induction l with
  | nil => rfl
  | cons x t ih =>
    have ht : AllInI32 t := fun b hb => h b (List.mem_cons_of_mem _ hb)
    cases x with
    | filler f => simp only [List.map_cons, bofOfModel, BoFL.toModel, ih ht]
    | bound b =>
      have hb := h b List.mem_cons_self
      simp only [List.map_cons, bofOfModel, BoFL.toModel, ih ht, boundsOfModel_toModel b hb.1 hb.2]

/-- a model list is the image of a Rust value exactly when all its sides fit -/
theorem allInI32_iff_exists (l : List BoF) : AllInI32 l ↔ ∃ x : List BoFL, x.map BoFL.toModel = l :=
  ⟨fun h => ⟨l.map bofOfModel, map_toModel_bofOfModel l h⟩, fun ⟨x, hx⟩ => hx ▸ toModel_allInI32 x⟩

/-- **a parsed bound always fits an `i32`** -/
theorem parseBoundsList_allInI32 (s : List Char) (l : List BoF) (h : parseBoundsList s = Option.some l) :
    AllInI32 l := fun b hb =>
  let ⟨t, ht⟩ := (parseBoundsList_items s l h).2 b hb
  let wf := parseUserBounds_wf t b ht
  ⟨wf.leftI32, wf.rightI32⟩

theorem fromVec_model (l : List BoF) (h : AllInI32 l) :
    resMap UserBoundsListL.toModel (fromVecLit (l.map bofOfModel)) = fromVec l := by
  rw [fromVec_eq, map_toModel_bofOfModel l h]

theorem isSortable_model (l : List BoF) (h : AllInI32 l) (f : SideL) :
    (UserBoundsListL.mk (l.map bofOfModel) f).isSortable = Tuc.isSortable l := by
  rw [isSortable_eq, map_toModel_bofOfModel l h]

theorem isSorted_model (l : List BoF) (h : AllInI32 l) (f : SideL) :
    (UserBoundsListL.mk (l.map bofOfModel) f).isSorted = .ok (Tuc.isSorted l) := by
  rw [isSorted_eq, map_toModel_bofOfModel l h]

theorem hasNegativeIndices_model (l : List BoF) (h : AllInI32 l) (f : SideL) :
    (UserBoundsListL.mk (l.map bofOfModel) f).hasNegativeIndices = Tuc.hasNegativeIndices l := by
  rw [hasNegativeIndices_eq, map_toModel_bofOfModel l h]

theorem isForwardOnly_model (l : List BoF) (h : AllInI32 l) (f : SideL) :
    (UserBoundsListL.mk (l.map bofOfModel) f).isForwardOnly = .ok (Tuc.isForwardOnly l) := by
  rw [isForwardOnly_eq, map_toModel_bofOfModel l h]

theorem leftNonzero_of_model (l : List BoF) (h : AllInI32 l) (h0 : LNZ l) :
    leftNonzero (l.map bofOfModel) = true := by
  simp only [leftNonzero, List.all_eq_true, List.mem_map]
  rintro x ⟨y, hy, rfl⟩
  cases y with
  | filler f => rfl
  | bound b =>
    simp only [bofOfModel, bne_iff_ne, ne_eq]
    exact boundsOfModel_l_ne_zero b (h b hy).1 (h0 b hy)

theorem unpack_model (l : List BoF) (h : AllInI32 l) (h0 : LNZ l) (f : SideL) (n : Nat)
    (hn : n < 2147483648) :
    resMap UserBoundsListL.toModel ((UserBoundsListL.mk (l.map bofOfModel) f).unpack n) =
      unpackList l n := by
  rw [unpack_eq _ n hn (leftNonzero_of_model l h h0), map_toModel_bofOfModel l h]

theorem complement_model (l : List BoF) (h : AllInI32 l) (h0 : LNZ l) (f : SideL) (n : Nat)
    (hn : n < 2147483648) :
    resMap UserBoundsListL.toModel ((UserBoundsListL.mk (l.map bofOfModel) f).complement n) =
      complementList l n := by
  rw [complement_eq _ n hn (leftNonzero_of_model l h h0), map_toModel_bofOfModel l h]

/-! ## concrete values: 2³¹ fields, the left side 0

The hypotheses of `unpack_eq` / `complement_eq` are necessary as stated (first, second and last
`example`), but what decides at 2³¹ fields is the index the ranges reach (third `example`).
(`decide`: kernel evaluation of both definitions) -/

/-- the last field, `-f -1` -/
def lastField : UserBoundsListL := ⟨[BoFL.bound (UserBoundsL.new (S (-1)) (S (-1)))], SideL.cont⟩

/-- `0:`, which only `UserBounds::new` can build -/
def zeroLeft : UserBoundsListL := ⟨[BoFL.bound (UserBoundsL.new (S 0) SideL.cont)], SideL.cont⟩

/-- the first field, `-f 1` -/
def firstField : UserBoundsListL := ⟨[BoFL.bound (UserBoundsL.new (S 1) (S 1))], SideL.cont⟩

/-- 2³¹ fields (`try_into_range` resolves `-1` to `2³¹ − 1 .. 2³¹`): `i as i32 + 1` (userbounds.rs
    l.272) overflows on the slot `i = 2³¹ − 1` — a panic of the debug build — where the model says
    "field 2³¹", an index that no `Side` can hold -/
example :
    lastField.unpack 2147483648 = .panic ∧
    unpackList (lastField.list.map BoFL.toModel) 2147483648 =
      .ok { list := [BoF.bound { l := Side.some 2147483648, r := Side.some 2147483648, isLast := true }],
            lastInteresting := Side.some 2147483648 } := by decide +kernel

/-- 2³¹ fields: the complement of `1` is `2:2147483648` in the model; `UserBounds::from(1..2³¹)` panics
    in `end.try_into::<i32>().expect("range was bigger than expected")` -/
example :
    firstField.complement 2147483648 = .panic ∧
    complementList (firstField.list.map BoFL.toModel) 2147483648 =
      .ok { list := [BoF.bound { l := Side.some 2, r := Side.some 2147483648, isLast := true }],
            lastInteresting := Side.some 2147483648 } := by decide +kernel

/-- 2³¹ fields, outside the hypothesis `num_fields < 2³¹`, and still equal: `1` unpacks to itself
    and the complement of `-1` is `1:2147483647`, as the model says — what decides is the index the
    range reaches, not the number of fields -/
example :
    resMap UserBoundsListL.toModel (firstField.unpack 2147483648) =
      unpackList (firstField.list.map BoFL.toModel) 2147483648 ∧
    resMap UserBoundsListL.toModel (lastField.complement 2147483648) =
      complementList (lastField.list.map BoFL.toModel) 2147483648 ∧
    complementList (lastField.list.map BoFL.toModel) 2147483648 =
      .ok { list := [BoF.bound { l := Side.some 1, r := Side.some 2147483647, isLast := true }],
            lastInteresting := Side.some 2147483647 } := by decide +kernel

/-- 2³¹ − 1 fields — the largest number the hypothesis allows — is fine -/
example :
    resMap UserBoundsListL.toModel (lastField.complement 2147483647) =
      complementList (lastField.list.map BoFL.toModel) 2147483647 := by decide +kernel

/-- the left side `0` (3 fields): `UserBoundsList::unpack` panics in the `expect` of `into()` — the
    bound unpacked to nothing — where the model has three bounds; `complement` panics in
    `UserBounds::complement` where the model says "the complement is empty" -/
example :
    zeroLeft.unpack 3 = .panic ∧
    (∃ u, unpackList (zeroLeft.list.map BoFL.toModel) 3 = .ok u ∧ u.list.length = 3) ∧
    zeroLeft.complement 3 = .panic ∧
    complementList (zeroLeft.list.map BoFL.toModel) 3 = .fail := by
  refine ⟨by decide +kernel, ⟨_, rfl, by decide +kernel⟩, by decide +kernel, by decide +kernel⟩

end BoundsListLit
end Tuc
