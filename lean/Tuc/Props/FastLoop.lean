import Tuc.Model.FastLoop
import Tuc.Lemmas.FastLoop
import Tuc.Lemmas.Grammar
/-!
# Tuc.Props.FastLoop — the statements of `fast_lane.rs` refine the normal-form model

`Tuc.Model.FastLoop` follows the Rust text of `trim`, `cut_str_fast_lane`, `output_parts` and
`read_and_cut_text_as_bytes` statement by statement (checked `fields[i]`, `&line[a..b]`, `x - 1`,
`i32` counter).  This file proves that they compute exactly what `Tuc.Model.FastLane` says, under ONE
hypothesis, `CounterFits`: the `i32` counter `curr_field` does not overflow.

The `#guard`s before the theorems compare the two by evaluation on all 1093 records of at most 6 bytes over
`{a, -, CR}` × 15 bounds lists (as the parser builds them) × `-t` (none / l / r / b) × `-s` × `-j` ×
`--fallback-oob`, and again with arbitrary `last_interesting_field`s and both
EOLs, always with a dirty vector; and the whole-input functions on all inputs of at
most 6 bytes over `{a, -, LF}`.
-/

namespace Tuc
open TextLoops FastLoop

namespace FastLoop

def linesOfLength (alphabet : Bytes) : Nat → List Bytes
  | 0 => [[]]
  | n + 1 => (linesOfLength alphabet n).flatMap fun l => alphabet.map fun c => c :: l

/-- `a`, the delimiter `-`, CR -/
def testAlphabet : Bytes := [97, 45, 13]
def testRecords : List Bytes := (List.range 7).flatMap (linesOfLength testAlphabet)

/-- the bounds lists, as the parser builds them (`is_last`, `last_interesting_field`) -/
def testBoundsTexts : List String :=
  ["1", "2", "1:", ":2", "2:3", "1,3", "3,1", "-1", "-2:", "2:-1", "1,-1", "2,2,4:",
   "{1}x{3=L}{4}", "a{2:}b{-3:-2=M}", "5=Z,1"]

def testBounds : List UserBoundsList :=
  testBoundsTexts.filterMap fun s => (boundsListOfString s.toList).toOption

/-- previous content of the reused vector -/
def dirtyFields : List Nat := [7, 9]

def testOpts (bounds : UserBoundsList) : List FastOpt :=
  [Option.none, Option.some TrimKind.left, Option.some .right, Option.some .both].flatMap fun trim =>
  [false, true].flatMap fun onlyDelimited =>
  [false, true].flatMap fun join =>
  [Option.none, Option.some [71]].map fun fallbackOob =>
    { delimiter := 45, join := join, eol := .newline, bounds := bounds,
      onlyDelimited := onlyDelimited, trim := trim, fallbackOob := fallbackOob }

end FastLoop

#guard testRecords.length == 1093
#guard testBounds.length == 15

#guard testBounds.all fun bounds => (testOpts bounds).all fun opt => testRecords.all fun rec =>
  cutStrFastLaneLoop rec opt dirtyFields bounds.lastInteresting ==
    cutStrFastLane rec opt dirtyFields bounds.lastInteresting

/-! arbitrary early-stop fields (not only the one the bounds list carries), both EOLs -/

#guard [Side.cont, .some 0, .some 1, .some 2, .some 3, .some (-1), .some 7].all fun lif =>
  testBounds.all fun bounds => testRecords.all fun rec =>
    [EOL.newline, .zero].all fun eol =>
    let opt : FastOpt := { delimiter := 45, join := true, eol := eol, bounds := bounds,
                           onlyDelimited := false, trim := Option.some .both, fallbackOob := Option.some [71] }
    cutStrFastLaneLoop rec opt dirtyFields lif == cutStrFastLane rec opt dirtyFields lif

/-! the whole input (`-` = 45, LF = 10), dirty vector carried from record to record -/

#guard ((List.range 7).flatMap (linesOfLength [97, 45, 10])).all fun input =>
  testBounds.all fun bounds =>
    [false, true].all fun s =>
    let opt : FastOpt := { delimiter := 45, join := false, eol := .newline, bounds := bounds,
                           onlyDelimited := s, trim := Option.none, fallbackOob := Option.none }
    readAndCutTextAsBytesLoop opt input == readAndCutFast opt input

/-! the `i32` counter: the 2³¹-th delimiter of a scan that is not stopped early -/

#guard scanFor .cont [5] 2147483646 [0] == .ok (2147483647, [0, 6])
#guard scanFor .cont [5] 2147483647 [0] == .panic
#guard scanFor (.some 2147483647) [5, 9] 2147483646 [0] == .ok (2147483647, [0, 6])

/-- **`cut_str_fast_lane`: the statements are the normal form** — same bytes, same status, same
    content of `fields` afterwards — for every record, every `FastOpt`, every
    `last_interesting_field` and any previous content of `fields`, as long as the `i32` counter
    fits (`CounterFits`: record shorter than 2³¹ bytes, or early stop at a positive `i32`). -/
theorem cutStrFastLaneLoop_eq (initialBuffer : Bytes) (opt : FastOpt) (fields : List Nat)
    (lastInterestingField : Side)
    (hfit : CounterFits lastInterestingField initialBuffer.length) :
    cutStrFastLaneLoop initialBuffer opt fields lastInterestingField =
      cutStrFastLane initialBuffer opt fields lastInterestingField := by
  rw [loop_of_trimmed, afterTrim_eq _ _ _ (hfit.mono (fastTrimmed_sublist initialBuffer opt).length_le)]
  rfl

/-- **`cut_str_fast_lane` cannot panic**: no `fields[i]` out of range, no `fields[r.end] - 1` or
    `fields.len() - 1` below zero, no `&line[idx_start..idx_end]` out of range or crossed, no
    overflow of `curr_field` — when the counter fits and no bound has the left index 0 (the parser
    refuses index 0), for every `last_interesting_field`. -/
theorem cutStrFastLaneLoop_no_panic (initialBuffer : Bytes) (opt : FastOpt) (fields : List Nat)
    (lastInterestingField : Side)
    (hfit : CounterFits lastInterestingField initialBuffer.length)
    (hz : LNZ opt.bounds.list) :
    (cutStrFastLaneLoop initialBuffer opt fields lastInterestingField).1.status ≠ .panic := by
  rw [cutStrFastLaneLoop_eq _ _ _ _ hfit]
  exact (cutStrFastLane_safe _ _ _ _ hz).ne_panic

/-- both together, and the run is not `hang` either -/
theorem cutStrFastLaneLoop_refines (initialBuffer : Bytes) (opt : FastOpt) (fields : List Nat)
    (lastInterestingField : Side)
    (hfit : CounterFits lastInterestingField initialBuffer.length)
    (hz : ∀ b, BoF.bound b ∈ opt.bounds.list → b.l ≠ .some 0) :
    cutStrFastLaneLoop initialBuffer opt fields lastInterestingField =
      cutStrFastLane initialBuffer opt fields lastInterestingField ∧
    (cutStrFastLaneLoop initialBuffer opt fields lastInterestingField).1.status ≠ .panic ∧
    (cutStrFastLaneLoop initialBuffer opt fields lastInterestingField).1.status ≠ .hang := by
  refine ⟨cutStrFastLaneLoop_eq _ _ _ _ hfit, cutStrFastLaneLoop_no_panic _ _ _ _ hfit hz, ?_⟩
  rw [cutStrFastLaneLoop_eq _ _ _ _ hfit]
  exact (cutStrFastLane_safe _ _ _ _ hz).ne_hang

/-- **the hypothesis `CounterFits` is needed**: a record that is not trimmed, whose scan is not
    stopped early (`Continue`) and that holds more delimiters than an `i32` can count makes the
    literal function panic (`curr_field += 1` overflows: panic in the debug build; the release
    build wraps to `i32::MIN` and goes on) — the normal-form model counts in `Int`. -/
theorem cutStrFastLaneLoop_overflow (initialBuffer : Bytes) (opt : FastOpt) (fields : List Nat)
    (htrim : opt.trim = Option.none)
    (hmany : i32Max < ((memchrIter opt.delimiter initialBuffer).length : Int)) :
    (cutStrFastLaneLoop initialBuffer opt fields .cont).1 = Run.panic := by
  rw [loop_of_trimmed]
  unfold FastLoop.afterTrim FastLoop.afterTrimWith fastTrimmed
  rw [htrim]
  have hne : initialBuffer.isEmpty = false := by
    cases initialBuffer with
    | nil => simp [memchrIter, memchrIterFrom, i32Max] at hmany
    | cons _ _ => rfl
  have := scanFor_overflow .cont (memchrIter opt.delimiter initialBuffer) 0 [0]
    (Int.le_refl _) (by simp [i32Max]) (by intro k hk; cases hk) (by omega)
  simp only [hne, Bool.false_eq_true, if_false, this]

/-- **`read_and_cut_text_as_bytes`: the literal loop over the records is the model**, when the `i32`
    counter fits on every record — in particular for every input shorter than 2³¹ bytes, and for any
    input when the bounds list stops the scan at a positive `i32` field. -/
theorem readAndCutTextAsBytesLoop_eq (opt : FastOpt) (input : Bytes)
    (hfit : ∀ r ∈ records opt.eol.byte input, CounterFits opt.bounds.lastInteresting r.length) :
    readAndCutTextAsBytesLoop opt input = readAndCutFast opt input := by
  have h := forByteRecord_eq opt opt.bounds.lastInteresting (records opt.eol.byte input) []
    (fun r hr f => cutStrFastLaneLoop_eq r opt f _ (hfit r hr))
  unfold readAndCutTextAsBytesLoop readAndCutFast
  simp only [h, Run.seq_empty]
  split <;> rfl

theorem readAndCutTextAsBytesLoop_no_panic (opt : FastOpt) (input : Bytes)
    (hfit : CounterFits opt.bounds.lastInteresting input.length)
    (hz : LNZ opt.bounds.list) :
    (readAndCutTextAsBytesLoop opt input).status ≠ .panic := by
  rw [readAndCutTextAsBytesLoop_eq opt input fun r hr => hfit.mono (records_length_le _ _ r hr)]
  exact (fastRecords_safe opt _ hz _ _).ne_panic

/-- **every `FastOpt` that `FastOpt::try_from` builds from parsed bounds**: on an input shorter
    than 2³¹ bytes the literal `read_and_cut_text_as_bytes` is the model and does not panic (the
    hypothesis on the bounds of the per-record theorems is discharged by the parser). -/
theorem readAndCutTextAsBytesLoop_of_parsed (o : Opt) (fo : FastOpt) (fieldsArg : List Char)
    (ho : fastOptOf o = Option.some fo) (hb : boundsListOfString fieldsArg = .ok o.bounds)
    (input : Bytes) (hlen : (input.length : Int) ≤ i32Max) :
    readAndCutTextAsBytesLoop fo input = readAndCutFast fo input ∧
    (readAndCutTextAsBytesLoop fo input).status ≠ .panic := by
  have hz : LNZ fo.bounds.list := by
    rw [(fastOptOf_facts ho).bounds]
    exact LNZ.of_nonzero (parsed_nonzero fieldsArg o.bounds hb)
  exact ⟨readAndCutTextAsBytesLoop_eq fo input fun r hr =>
      CounterFits.mono (Or.inl hlen) (records_length_le _ _ r hr),
    readAndCutTextAsBytesLoop_no_panic fo input (Or.inl hlen) hz⟩

end Tuc
