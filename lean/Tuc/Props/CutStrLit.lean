import Tuc.Model.CutStrLit
import Tuc.Props.BoundsLit
import Tuc.Lemmas.Total
import Tuc.Props.MainLevel
/-!
# Tuc.Props.CutStrLit — the statements of `cut_str` (cut_str.rs:260-456) refine the normal-form model

`Tuc.Model.CutStrLit` follows the Rust text of `cut_str`, `maybe_replace_delimiter` and
`write_maybe_as_json!` statement by statement: every `unwrap`, `fields[i]`, `r.end - 1`,
`&line[a..b]` and `drain(..1)` is checked, and `b.try_into_range(num_fields)` (l.416) is the
machine-integer transcription of `Tuc.Model.BoundsLit`.  `Tuc.Model.CutStr` is the normal-form model
(`cutStr`, `cutStrCore`, `emitRecord`, `outputLoop`, `outputBof`) about which the property theorems
(C01 …) are stated.  This file proves that the two are equal.

* `cutStrLit_eq` — `cutStrLit line opt fields compressedLineBuf eol = cutStr line opt fields
  compressedLineBuf eol`: the bytes written, the status and the two scratch buffers as the function
  leaves them, for every record, every option record (also those `parse_args` never builds), any
  previous content of the two buffers, any `eol`, under two hypotheses:
  1. `BoundsOk opt.bounds.list` — every bound has both sides inside `i32` and a left side that is not
     the literal 0;
  2. `FieldsFit line opt` — the record has fewer than 2³¹ fields (the vector `fields` after l.332-355).
  Componentwise: `cutStrLit_run`, `cutStrLit_fields`, `cutStrLit_buf`.
* no well-formedness of `Opt` is needed beyond the bounds.  The places where literal and model look
  different are all equal: the `unwrap`s of l.286 / 319 / 338 / 340 sit behind a test
  `opt.regex_bag.is_some()`; the `unwrap` of l.316 (`replace_delimiter`) panics exactly where the
  model's `st = none` does (and `cut_str` returns at l.271 before); `fields.drain(..1)` (l.354) is
  behind `fields.len() > 2`; the test `bounds.is_empty()` of l.376, which the model does not have, is
  never true (`complementList_boundsOk`); the previous content of the two buffers is never read; the
  model's `maybeReplaceDelimiter … compressedWithRegex` differs from l.422-426 only when
  `delimiter_already_replaced` is set without a regex bag (`DarOk`, needed by `emitStage_eq`, necessary
  there) — which `cut_str` cannot do (l.324 is inside `if opt.regex_bag.is_some()`, l.313).

The list-level `complement` / `unpack` (l.373, 402) are called through the model in
`Tuc.Model.CutStrLit` (their per-bound machine-integer refinements are `BoundsLit.complement_eq` /
`unpack_eq`); the machine-integer content of this refinement is l.416.

Trap: `unfold` / `simp only [f]` of a function whose `match` discriminant is `resolve b n` with a
concrete bound `b` lets `whnf` run into `I32.wrap ↑n` (see `Tuc.Props.BoundsLit`): lemmas about
`fieldToPrint` / `outputClosure` are stated for a variable bound and instantiated afterwards.  The bare
`dsimp only` calls below reduce `let`s and a `match` on a constructor that a preceding `rw` / `cases` has put in place.
-/

namespace Tuc
namespace CutStrLitProps
open BoundsLit

theorem writeMaybeAsJsonLit_eq (t : Bytes) (j : Bool) :
    CutStrLit.writeMaybeAsJsonLit t j = writeMaybeAsJson t j := rfl

theorem maybeReplaceDelimiterLit_eq (text : Bytes) (opt : Opt) :
    CutStrLit.maybeReplaceDelimiterLit text opt = maybeReplaceDelimiter text opt false := by
  unfold CutStrLit.maybeReplaceDelimiterLit maybeReplaceDelimiter
  cases opt.replaceDelimiter <;> cases opt.regexBag <;> simp

/-- the flag `delimiter_already_replaced` is consistent with the option record: it is set only
    together with a regex bag (l.313-324) — or where `maybe_replace_delimiter` is the identity anyway.
    Needed (and necessary: the `DarOk` witness at the end of the file) for the stages that take the flag as an argument; `cut_str`
    itself always satisfies it. -/
def DarOk (opt : Opt) (dar : Bool) : Prop :=
  dar = true → opt.regexBag.isSome = true ∨ opt.boundsType = .characters ∨ opt.replaceDelimiter = none

theorem maybeReplaceDelimiter_true (text : Bytes) (opt : Opt) (h : DarOk opt true) :
    maybeReplaceDelimiter text opt true = text := by
  unfold maybeReplaceDelimiter
  rcases h rfl with h | h | h
  · cases hb : opt.regexBag with
    | none => rw [hb] at h; cases h
    | some bag => cases opt.replaceDelimiter <;> simp
  · simp [h]
  · simp [h]

/-- l.416 on the domain of the hypotheses (`BoundsLit.tryIntoRange_model_i64`: `try_into_range`
    computes in `i64`, so any number of parts up to `i64::MAX`) -/
theorem resolve_eq (b : UserBounds) (n : Nat) (hl : b.l.InI32) (hr : b.r.InI32)
    (hn : n < 9223372036854775808) (h0 : b.l ≠ Side.some 0) :
    CutStrLit.resolve b n = resOfOption (b.tryIntoRange n) :=
  tryIntoRange_model_i64 b n hl hr hn h0

/-- a bound the Rust types can hold and the parser can produce: sides inside `i32`, left side not
    the literal 0 -/
def BoundOk (b : UserBounds) : Prop := b.l.InI32 ∧ b.r.InI32 ∧ b.l ≠ Side.some 0

theorem replaced_eq (s : Bytes) (opt : Opt) (dar : Bool) (hd : DarOk opt dar) :
    (if dar then s else CutStrLit.maybeReplaceDelimiterLit s opt) = maybeReplaceDelimiter s opt dar := by
  cases dar with
  | true => rw [maybeReplaceDelimiter_true s opt hd]; rfl
  | false => exact maybeReplaceDelimiterLit_eq s opt

/-- the closure of `try_for_each` (l.407-446) is `outputBof` -/
theorem outputClosure_eq (line : Bytes) (fields : List Range) (n : Nat) (opt : Opt) (dar : Bool)
    (bof : BoF) (hb : ∀ b, bof = .bound b → BoundOk b) (hn : n < 9223372036854775808) (hd : DarOk opt dar) :
    CutStrLit.outputClosure line fields n opt dar bof = outputBof line fields n opt dar bof := by
  cases bof with
  | filler f => simp only [CutStrLit.outputClosure, outputBof, Run.seq_empty]
  | bound b =>
    obtain ⟨hl, hr, h0⟩ := hb b rfl
    unfold CutStrLit.outputClosure CutStrLit.fieldToPrint outputBof
    simp only [Run.seq_empty, writeMaybeAsJsonLit_eq]
    rw [resolve_eq b n hl hr hn h0]
    cases h : b.tryIntoRange n with
    | none =>
      -- l.427-434, the bound does not resolve: the fallbacks
      simp only [resOfOption]
      cases b.fallback with
      | some f => rfl
      | none => cases opt.fallbackOob <;> rfl
    | some p =>
      -- l.418-426, the bound resolves: `fields[r.start]`, `r.end - 1`, `fields[..]`, `&line[a..b]`
      obtain ⟨s, e⟩ := p
      have hse := (tryIntoRange_bounds b n s e h0 h).1
      simp only [resOfOption, CutStrLit.indexRange, usizeSub]
      rw [if_pos (by omega)]
      cases fields[s]? with
      | none => rfl
      | some fs =>
        simp only [bind_ok]
        cases fields[e - 1]? with
        | none => rfl
        | some fe =>
          simp only [bind_ok, CutStrLit.sliceBytes]
          by_cases hc : fs.start ≤ fe.stop ∧ fe.stop ≤ line.length
          · rw [if_pos hc, if_pos hc, bind_ok, ← replaced_eq _ opt dar hd]
            cases dar <;> rfl
          · rw [if_neg hc, if_neg hc]; rfl

/-- **hypothesis 1**: every bound of the list has sides inside `i32` and a left side that is not
    the literal 0 -/
def BoundsOk (l : List BoF) : Prop := ∀ b, BoF.bound b ∈ l → BoundOk b

theorem tryForEach_eq (line : Bytes) (fields : List Range) (n : Nat) (opt : Opt) (dar : Bool)
    (hn : n < 9223372036854775808) (hd : DarOk opt dar) :
    ∀ (l : List BoF), BoundsOk l →
      CutStrLit.tryForEach line fields n opt dar l = outputLoop line fields n opt dar l
  | [], _ => rfl
  | bof :: t, hb => by
    simp only [CutStrLit.tryForEach, outputLoop]
    rw [outputClosure_eq line fields n opt dar bof
      (fun b h => hb b (h ▸ List.mem_cons_self)) hn hd,
      tryForEach_eq line fields n opt dar hn hd t (fun b h => hb b (List.mem_cons_of_mem _ h))]

theorem fromVec_boundsOk (l : List BoF) (u : UserBoundsList) (h : fromVec l = .ok u)
    (hl : BoundsOk l) : BoundsOk u.list :=
  fromVec_all (fun _ h => h) h hl

theorem complementBof_boundsOk (n : Nat) (hn : n < 2147483648) (x : BoF)
    (hx : ∀ b, x = .bound b → BoundOk b) : BoundsOk (complementBof n x) := by
  intro b hb
  obtain ⟨b0, rfl, h | ⟨s, e, q, hr, hq, rfl⟩⟩ := mem_complementBof hb
  · obtain ⟨hl, hr, h0⟩ := hx b0 rfl
    exact h ▸ ⟨hl, hr, h0⟩
  · obtain ⟨hse, hen⟩ := tryIntoRange_bounds b0 n s e (hx b0 rfl).2.2 hr
    have := complementStdRange_bounds n s e hse hen (by omega) q hq
    simp only [BoundOk, UserBounds.ofRange, Side.InI32, i32Min, i32Max, ne_eq, Side.some.injEq]
    omega

theorem unpackBof_boundsOk (n : Nat) (hn : n < 2147483648) (x : BoF)
    (hx : ∀ b, x = .bound b → BoundOk b) : BoundsOk (unpackBof n x) := by
  intro b hb
  obtain ⟨b0, rfl, h | ⟨s, e, i, hr, hi, rfl⟩⟩ := mem_unpackBof hb
  · obtain ⟨hl, hr, h0⟩ := hx b0 rfl
    exact h ▸ ⟨hl, hr, h0⟩
  · obtain ⟨hse, hen⟩ := tryIntoRange_bounds b0 n s e (hx b0 rfl).2.2 hr
    simp only [BoundOk, UserBounds.single, Side.InI32, i32Min, i32Max, ne_eq, Side.some.injEq]
    omega

/-- `bounds.complement(num_fields)?` (l.373): the new list is `BoundsOk` and not empty (so the
    test of l.376 is never true) -/
theorem complementList_boundsOk (l : List BoF) (n : Nat) (hn : n < 2147483648) (hl : BoundsOk l)
    (u : UserBoundsList) (h : complementList l n = .ok u) : BoundsOk u.list ∧ u.list.isEmpty = false := by
  unfold complementList at h
  simp only at h
  split at h
  · cases h
  · rename_i hne
    refine ⟨fromVec_boundsOk _ u h (bound_mem_flatMap _ _ fun x hx =>
      complementBof_boundsOk n hn x (fun b hb => hl b (hb ▸ hx))), markLast_ne_nil _ _ (fromVec_ok h).1⟩

/-- `bounds.unpack(num_fields)` (l.402) -/
theorem unpackList_boundsOk (l : List BoF) (n : Nat) (hn : n < 2147483648) (hl : BoundsOk l)
    (u : UserBoundsList) (h : unpackList l n = .ok u) : BoundsOk u.list :=
  fromVec_boundsOk _ u h (bound_mem_flatMap _ _ fun x hx =>
      unpackBof_boundsOk n hn x (fun b hb => hl b (hb ▸ hx)))

/-- l.372-376: after the optional `complement` the list is `BoundsOk` again, and the test
    `bounds.is_empty()` of l.376 is false -/
theorem complementStep_boundsOk (opt : Opt) (n : Nat) (hn : opt.complement = true → n < 2147483648)
    (hb : BoundsOk opt.bounds.list) :
    ∀ u, (if opt.complement = true then complementList opt.bounds.list n else .ok opt.bounds) = .ok u →
      BoundsOk u.list ∧ (opt.complement && u.list.isEmpty) = false :=
  Res.ite_ok_imp
    (fun hc u hu => ⟨(complementList_boundsOk _ _ (hn hc) hb u hu).1,
      by rw [(complementList_boundsOk _ _ (hn hc) hb u hu).2, Bool.and_false]⟩)
    (fun hc => ⟨hb, by rw [Bool.not_eq_true] at hc; rw [hc, Bool.false_and]⟩)

/-- l.357-455 is `emitRecord`: `try_into_range` (l.416) takes any number of fields a vector can have;
    only `complement` (l.373) and `unpack` (l.402), where they run, need it below 2³¹ -/
theorem emitStage_eq_of (line : Bytes) (fields : List Range) (opt : Opt) (dar : Bool) (eol : Bytes)
    (hb : BoundsOk opt.bounds.list) (hn : fields.length < 9223372036854775808)
    (hn' : opt.complement = true ∨
      (opt.json || (decide (opt.boundsType = .characters) && opt.replaceDelimiter.isSome)) = true →
      fields.length < 2147483648)
    (hd : DarOk opt dar) :
    CutStrLit.emitStage line fields opt dar eol = emitRecord line fields opt dar eol := by
  unfold CutStrLit.emitStage emitRecord
  dsimp only
  by_cases h1 : (opt.onlyDelimited && fields.length == 1) = true
  · rw [if_pos h1, if_pos h1]
  · rw [if_neg h1, if_neg h1]
    congr 1
    have hac := complementStep_boundsOk opt fields.length (fun h => hn' (.inl h)) hb
    generalize (if opt.complement = true then complementList opt.bounds.list fields.length
        else Res.ok opt.bounds) = ac at hac
    cases ac with
    | fail => rfl
    | panic => rfl
    | ok bounds =>
      obtain ⟨hb1, he⟩ := hac bounds rfl
      simp only [CutStrLit.orStop]
      rw [he]
      simp only [Bool.false_eq_true, if_false]
      have hun := Res.ite_ok_imp (P := fun u : UserBoundsList => BoundsOk u.list)
        (c := ((opt.json || (decide (opt.boundsType = .characters) && opt.replaceDelimiter.isSome))
          && bounds.list.any needsUnpack) = true)
        (fun hc => unpackList_boundsOk _ _ (hn' (.inr (Bool.and_eq_true _ _ ▸ hc).1)) hb1) (fun _ => hb1)
      generalize (if ((opt.json || (decide (opt.boundsType = .characters) && opt.replaceDelimiter.isSome))
            && bounds.list.any needsUnpack) = true
          then unpackList bounds.list fields.length else Res.ok bounds) = un at hun
      cases un with
      | fail => rfl
      | panic => rfl
      | ok bounds' =>
        dsimp only
        rw [tryForEach_eq line fields fields.length opt dar hn hd _ (hun bounds' rfl)]
        simp only [Run.seq_empty, Run.seq_assoc]

/-- **l.357-455 is `emitRecord`**, on a `BoundsOk` list, a vector of fewer than 2³¹ fields and a
    consistent flag (`DarOk`) -/
theorem emitStage_eq (line : Bytes) (fields : List Range) (opt : Opt) (dar : Bool) (eol : Bytes)
    (hb : BoundsOk opt.bounds.list) (hn : fields.length < 2147483648) (hd : DarOk opt dar) :
    CutStrLit.emitStage line fields opt dar eol = emitRecord line fields opt dar eol :=
  emitStage_eq_of line fields opt dar eol hb (by omega) (fun _ => hn) hd

/-- l.280-291: neither `unwrap` can panic -/
theorem trimStage_eq (line : Bytes) (opt : Opt) : CutStrLit.trimStage line opt = .ok (trimOf opt line) := by
  unfold CutStrLit.trimStage trimOf
  cases opt.trim with
  | none => rfl
  | some k => cases opt.regexBag <;> rfl

/-- l.332-355: the `unwrap`s are behind `should_build_ranges_using_regex`, `drain(..1)` behind
    `fields.len() > 2`; the previous content of `fields` is not read -/
theorem fieldsStage_eq (loc : CutStrLit.Locals) (opt : Opt) (fields : List Range)
    (h : loc.shouldBuildRangesUsingRegex = true → opt.regexBag.isSome = true) :
    CutStrLit.fieldsStage loc opt fields =
      .ok (engineFields opt loc.line loc.delimiter loc.shouldBuildRangesUsingRegex) := by
  have hdrain : ∀ f : List Range,
      (if (decide (opt.boundsType = .characters) && decide (f.length > 2)) = true then
        CutStrLit.drainTo f.dropLast 1 else Res.ok f) =
      .ok (if (decide (opt.boundsType = .characters) && decide (f.length > 2)) = true then
        f.dropLast.drop 1 else f) := by
    intro f
    by_cases hc : (decide (opt.boundsType = .characters) && decide (f.length > 2)) = true
    · rw [if_pos hc, if_pos hc]
      simp only [Bool.and_eq_true, decide_eq_true_eq] at hc
      unfold CutStrLit.drainTo
      rw [if_pos (by rw [List.length_dropLast]; omega)]
    · rw [if_neg hc, if_neg hc]
  unfold CutStrLit.fieldsStage engineFields
  cases hu : loc.shouldBuildRangesUsingRegex with
  | true =>
    have := h hu
    cases hbag : opt.regexBag with
    | none => rw [hbag] at this; cases this
    | some bag =>
      simp only [if_true, CutStrLit.unwrap, bind_ok]
      exact hdrain _
  | false =>
    simp only [Bool.false_eq_true, if_false]
    by_cases hg : opt.greedyDelimiter = true
    · simp only [hg, if_true, bind_ok]
      exact hdrain _
    · simp only [hg]
      exact hdrain _

theorem darOk_false (opt : Opt) : DarOk opt false := by intro h; cases h

theorem compressDelimiter_buf (line d buf : Bytes) :
    compressDelimiter line d buf = compressDelimiter line d [] := rfl

def buffersAfter (r : Run × Option (List Range) × Option Bytes) (fields : List Range) (buf : Bytes) :
    Run × List Range × Bytes := (r.1, r.2.1.getD fields, r.2.2.getD buf)

theorem cutStr_eq_buffersAfter (line : Bytes) (opt : Opt) (fields : List Range) (buf eol : Bytes) :
    cutStr line opt fields buf eol = buffersAfter (cutStrCore line opt eol) fields buf := rfl

/-- **l.300-330 is `compressOf`** (`Tuc.Lemmas.Total`), for every line, option record and buffer: l.316
    panics exactly where the model has `none`, and `compressed_line_buf` is written exactly where the
    model says what is left in it -/
theorem compressStage_eq (line : Bytes) (opt : Opt) (buf : Bytes) :
    CutStrLit.compressStage line opt buf =
      match compressOf opt line with
      | Option.none => .panic
      | Option.some (l, d, u, bo, cwr) => .ok ⟨l, d, u, cwr, bo.getD buf⟩ := by
  unfold CutStrLit.compressStage compressOf
  simp only [Bool.and_true]
  by_cases hsc : (opt.compressDelimiter &&
      (decide (opt.boundsType = .fields) || decide (opt.boundsType = .lines))) = true
  · simp only [if_pos hsc]
    cases opt.regexBag with
    | none => rfl
    | some bag => cases opt.replaceDelimiter <;> rfl
  · simp only [if_neg hsc]
    rfl

theorem compressOf_some {opt : Opt} {line l d : Bytes} {u cwr : Bool} {bo : Option Bytes}
    (h : compressOf opt line = Option.some (l, d, u, bo, cwr)) :
    (u = true → opt.regexBag.isSome = true) ∧ DarOk opt cwr := by
  unfold compressOf at h
  split at h
  · cases hbag : opt.regexBag with
    | none => rw [hbag] at h; cases h; exact ⟨nofun, nofun⟩
    | some bag =>
      rw [hbag] at h
      cases hrd : opt.replaceDelimiter with
      | none => rw [hrd] at h; cases h
      | some nd => rw [hrd] at h; cases h; exact ⟨nofun, fun _ => .inl (hbag ▸ rfl)⟩
  · cases h; exact ⟨id, nofun⟩

theorem afterTrim_snd_eol (line : Bytes) (opt : Opt) (eol eol' : Bytes) :
    (afterTrim line opt eol).2 = (afterTrim line opt eol').2 := by
  unfold afterTrim
  split
  · rfl
  · split <;> rfl

theorem cutStrCore_snd_eol (line : Bytes) (opt : Opt) (eol eol' : Bytes) :
    (cutStrCore line opt eol).2 = (cutStrCore line opt eol').2 := by
  rw [cutStrCore_eq, cutStrCore_eq]
  split
  · rfl
  · split
    · rfl
    · exact afterTrim_snd_eol _ _ _ _

/-- the vector `fields` of the record `line` as `cut_str` computes it (l.332-355: after trim,
    compression, the split and the pop/drain of `-c`); `none` when the function returns before -/
def fieldsOf (line : Bytes) (opt : Opt) : Option (List Range) := (cutStrCore line opt []).2.1

/-- **hypothesis 2**: the record has fewer than 2³¹ fields.  `complement` (l.373) and `unpack`
    (l.402) need it — the field numbers they build are stored in `i32` sides —; `try_into_range`
    (l.416) does not (`resolve_eq`). -/
def FieldsFit (line : Bytes) (opt : Opt) : Prop :=
  ∀ f, fieldsOf line opt = Option.some f → f.length < 2147483648

def fieldsFitB (line : Bytes) (opt : Opt) : Bool :=
  match fieldsOf line opt with
  | Option.some f => decide (f.length < 2147483648)
  | Option.none => true

theorem fieldsFit_iff (line : Bytes) (opt : Opt) : fieldsFitB line opt = true ↔ FieldsFit line opt := by
  unfold fieldsFitB FieldsFit
  cases fieldsOf line opt with
  | none => simp
  | some f => simp

instance (line : Bytes) (opt : Opt) : Decidable (FieldsFit line opt) :=
  decidable_of_iff _ (fieldsFit_iff line opt)

theorem fieldsOf_eq (line : Bytes) (opt : Opt)
    (h1 : ¬(opt.regexBag.isSome && (opt.compressDelimiter && opt.replaceDelimiter.isNone)) = true)
    (h2 : ¬(opt.regexBag.isSome && (opt.join && opt.replaceDelimiter.isNone)) = true) :
    fieldsOf line opt = (afterTrim (trimOf opt line) opt []).2.1 := by
  unfold fieldsOf
  rw [cutStrCore_eq]
  simp only [Bool.and_assoc]
  rw [if_neg h1, if_neg h2]

/-- `cut_str` computes what the model says as soon as l.357-455 is `emitRecord` on the vector
    `fields` that reaches it: everything before is Total's stages, unconditionally (`trimStage_eq`,
    `compressStage_eq`, `fieldsStage_eq`) -/
theorem cutStrLit_eq_of_emit (line : Bytes) (opt : Opt) (fields : List Range) (compressedLineBuf eol : Bytes)
    (hemit : ∀ l f dar, fieldsOf line opt = Option.some f → DarOk opt dar →
      CutStrLit.emitStage l f opt dar eol = emitRecord l f opt dar eol) :
    CutStrLit.cutStrLit line opt fields compressedLineBuf eol = cutStr line opt fields compressedLineBuf eol := by
  rw [cutStr_eq_buffersAfter, cutStrCore_eq]
  unfold CutStrLit.cutStrLit
  simp only [Bool.and_assoc]
  by_cases h1 : (opt.regexBag.isSome && (opt.compressDelimiter && opt.replaceDelimiter.isNone)) = true
  · rw [if_pos h1, if_pos h1]; rfl
  · rw [if_neg h1, if_neg h1]
    by_cases h2 : (opt.regexBag.isSome && (opt.join && opt.replaceDelimiter.isNone)) = true
    · rw [if_pos h2, if_pos h2]; rfl
    · rw [if_neg h2, if_neg h2, trimStage_eq]
      dsimp only
      by_cases he : (trimOf opt line).isEmpty = true
      · rw [if_pos he]
        unfold afterTrim
        rw [if_pos he, Run.seq_empty]
        rfl
      · rw [if_neg he, compressStage_eq]
        have hat : ∀ eol, afterTrim (trimOf opt line) opt eol = _ := fun eol => if_neg he
        rw [hat]
        cases hco : compressOf opt (trimOf opt line) with
        | none => rfl
        | some x =>
          obtain ⟨l, d, u, bo, cwr⟩ := x
          obtain ⟨hu, hd⟩ := compressOf_some hco
          dsimp only
          rw [fieldsStage_eq _ opt fields hu]
          dsimp only
          rw [hemit _ _ _ (by rw [fieldsOf_eq line opt h1 h2, hat, hco]) hd]
          rfl

/-- **`cut_str` (cut_str.rs:260-456) computes what the model says** — the bytes written, the
    status, and the two scratch buffers as the function leaves them — for EVERY record, EVERY
    option record (regex bag present or not, any combination of flags, consistent or not), ANY
    previous content of the two buffers and any `eol`, as soon as the bounds are `i32` values with a
    non-zero left side (`BoundsOk`) and the record has fewer than 2³¹ fields (`FieldsFit`). -/
theorem cutStrLit_eq (line : Bytes) (opt : Opt) (fields : List Range) (compressedLineBuf eol : Bytes)
    (hb : BoundsOk opt.bounds.list) (hn : FieldsFit line opt) :
    CutStrLit.cutStrLit line opt fields compressedLineBuf eol = cutStr line opt fields compressedLineBuf eol :=
  cutStrLit_eq_of_emit line opt fields compressedLineBuf eol
    fun l f dar hf hd => emitStage_eq l f opt dar eol hb (hn f hf) hd

theorem cutStrLit_run (line : Bytes) (opt : Opt) (fields : List Range) (buf eol : Bytes)
    (hb : BoundsOk opt.bounds.list) (hn : FieldsFit line opt) :
    (CutStrLit.cutStrLit line opt fields buf eol).1 = (cutStrCore line opt eol).1 := by
  rw [cutStrLit_eq line opt fields buf eol hb hn]; rfl

/-- componentwise: the vector `fields` afterwards (untouched when the function returns early) -/
theorem cutStrLit_fields (line : Bytes) (opt : Opt) (fields : List Range) (buf eol : Bytes)
    (hb : BoundsOk opt.bounds.list) (hn : FieldsFit line opt) :
    (CutStrLit.cutStrLit line opt fields buf eol).2.1 = (fieldsOf line opt).getD fields := by
  rw [cutStrLit_eq line opt fields buf eol hb hn, cutStr_eq_buffersAfter]
  show (cutStrCore line opt eol).2.1.getD fields = _
  rw [cutStrCore_snd_eol line opt eol []]; rfl

/-- componentwise: `compressed_line_buf` afterwards (untouched unless l.327 ran) -/
theorem cutStrLit_buf (line : Bytes) (opt : Opt) (fields : List Range) (buf eol : Bytes)
    (hb : BoundsOk opt.bounds.list) (hn : FieldsFit line opt) :
    (CutStrLit.cutStrLit line opt fields buf eol).2.2 = (cutStrCore line opt []).2.2.getD buf := by
  rw [cutStrLit_eq line opt fields buf eol hb hn, cutStr_eq_buffersAfter]
  show (cutStrCore line opt eol).2.2.getD buf = _
  rw [cutStrCore_snd_eol line opt eol []]

/-- **no new panic**: on the domain of the hypotheses the Rust function panics only where the model
    does -/
theorem cutStrLit_panic_only_if_model (line : Bytes) (opt : Opt) (fields : List Range) (buf eol : Bytes)
    (hb : BoundsOk opt.bounds.list) (hn : FieldsFit line opt)
    (h : (CutStrLit.cutStrLit line opt fields buf eol).1.status = .panic) :
    (cutStr line opt fields buf eol).1.status = .panic := by
  rw [← cutStrLit_eq line opt fields buf eol hb hn]; exact h

theorem BoundsOk.lnz {l : List BoF} (h : BoundsOk l) : LNZ l := fun b hb => (h b hb).2.2

/-- on the domain of the hypotheses, when the regex bag (if any) honours the contract of `find_iter`
    (`cutStr_safe` of Lemmas/Total: the model is then `Safe`): **no `unwrap`, no `fields[i]`, no `r.end - 1`, no
    `&line[a..b]`, no `drain(..1)` and no integer operation of `cut_str` can panic**, and the
    function terminates (`Safe` = the status is `ok` or `fail`) -/
theorem cutStrLit_safe (line : Bytes) (opt : Opt) (fields : List Range) (buf eol : Bytes)
    (hb : BoundsOk opt.bounds.list) (hn : FieldsFit line opt)
    (hbag : ∀ bag, opt.regexBag = Option.some bag → bag.OK) :
    (CutStrLit.cutStrLit line opt fields buf eol).1.Safe := by
  rw [cutStrLit_eq line opt fields buf eol hb hn]
  exact cutStr_safe line opt fields buf eol hbag hb.lnz

/-- the fold of `cutRecords` (`Tuc.Model.CutStr`) with the transcription `CutStrLit.cutStrLit` as the
    per-record function: the two buffers are handed from one record to the next, the loop stops at
    the first record that does not end well -/
def cutRecordsLit (opt : Opt) : List Bytes → List Range → Bytes → Run
  | [], _, _ => Run.empty
  | rec :: t, fields, buf =>
    let r := CutStrLit.cutStrLit rec opt fields buf [opt.eol.byte]
    r.1.seq (cutRecordsLit opt t r.2.1 r.2.2)

/-- `read_and_cut_str` with `CutStrLit.cutStrLit` -/
def readAndCutStrLit (opt : Opt) (input : Bytes) : Run :=
  cutRecordsLit opt (records opt.eol.byte input) [] []

theorem cutRecordsLit_eq (opt : Opt) (hb : BoundsOk opt.bounds.list) :
    ∀ (recs : List Bytes) (fields : List Range) (buf : Bytes),
      (∀ rec ∈ recs, FieldsFit rec opt) →
      cutRecordsLit opt recs fields buf = cutRecords opt recs fields buf
  | [], _, _, _ => rfl
  | rec :: t, fields, buf, hn => by
    simp only [cutRecordsLit, cutRecords]
    rw [cutStrLit_eq rec opt fields buf _ hb (hn rec List.mem_cons_self),
      cutRecordsLit_eq opt hb t _ _ (fun r hr => hn r (List.mem_cons_of_mem _ hr))]

theorem readAndCutStrLit_eq (opt : Opt) (input : Bytes) (hb : BoundsOk opt.bounds.list)
    (hn : ∀ rec ∈ records opt.eol.byte input, FieldsFit rec opt) :
    readAndCutStrLit opt input = readAndCutStr opt input :=
  cutRecordsLit_eq opt hb _ _ _ hn

theorem readAndCutStrLit_safe (opt : Opt) (input : Bytes) (hb : BoundsOk opt.bounds.list)
    (hn : ∀ rec ∈ records opt.eol.byte input, FieldsFit rec opt)
    (hbag : ∀ bag, opt.regexBag = Option.some bag → bag.OK) :
    (readAndCutStrLit opt input).Safe := by
  rw [readAndCutStrLit_eq opt input hb hn]
  exact readAndCutStr_safe opt hbag hb.lnz input

theorem boundsOk_of_parsed (f : List Char) (u : UserBoundsList) (h : boundsListOfString f = .ok u) :
    BoundsOk u.list := by
  intro b hb
  have wf := boundsListOfString_wf h b hb
  exact ⟨wf.leftI32, wf.rightI32, wf.left.ne_some_zero⟩

/-- **every `Opt` that `parse_args` returns is `BoundsOk`** — every argument vector -/
theorem boundsOk_of_parseArgv (regexOk : Arg → Bool) (argv : List Arg) (o : Opt) (fm : Bool)
    (re : Option Arg) (h : parseArgv regexOk argv = .run o fm re) : BoundsOk o.bounds.list := by
  obtain ⟨f, hf⟩ := parseArgv_bounds_fromParser regexOk argv o fm re h
  exact boundsOk_of_parsed f o.bounds hf

/-- … whatever regex bag the model's `tucRun` then puts in it (`compileBag`; in the Rust text
    `parse_args` builds it, tuc.rs:185-204) -/
theorem boundsOk_withBag (o : Opt) (bag : Option RegexBag) (h : BoundsOk o.bounds.list) :
    BoundsOk ({ o with regexBag := bag } : Opt).bounds.list := h

/-- **`cut_str` on what the command line can produce**: only the number of fields is left -/
theorem cutStrLit_eq_of_parseArgv (regexOk : Arg → Bool) (argv : List Arg) (o : Opt) (fm : Bool)
    (re : Option Arg) (h : parseArgv regexOk argv = .run o fm re) (bag : Option RegexBag)
    (line : Bytes) (fields : List Range) (buf eol : Bytes)
    (hn : FieldsFit line { o with regexBag := bag }) :
    CutStrLit.cutStrLit line { o with regexBag := bag } fields buf eol =
      cutStr line { o with regexBag := bag } fields buf eol :=
  cutStrLit_eq line _ fields buf eol (boundsOk_of_parseArgv regexOk argv o fm re h) hn

def sideFitsB : Side → Bool
  | .some v => decide (i32Min ≤ v) && decide (v ≤ i32Max)
  | .cont => true

def boundOkB (b : UserBounds) : Bool := sideFitsB b.l && sideFitsB b.r && decide (b.l ≠ Side.some 0)

def boundsOkB (l : List BoF) : Bool :=
  l.all fun x => match x with
    | .bound b => boundOkB b
    | .filler _ => true

theorem sideFitsB_iff (s : Side) : sideFitsB s = true ↔ s.InI32 := by
  cases s with
  | cont => simp [sideFitsB, Side.InI32]
  | some v => simp [sideFitsB, Side.InI32]

theorem boundOkB_iff (b : UserBounds) : boundOkB b = true ↔ BoundOk b := by
  simp only [boundOkB, BoundOk, Bool.and_eq_true, sideFitsB_iff, decide_eq_true_eq, and_assoc]

theorem boundsOkB_iff (l : List BoF) : boundsOkB l = true ↔ BoundsOk l := by
  simp only [boundsOkB, BoundsOk, List.all_eq_true]
  constructor
  · intro h b hb; exact (boundOkB_iff b).1 (h _ hb)
  · intro h x hx
    cases x with
    | bound b => exact (boundOkB_iff b).2 (h b hx)
    | filler f => rfl

instance (l : List BoF) : Decidable (BoundsOk l) := decidable_of_iff _ (boundsOkB_iff l)

def darOkB (opt : Opt) (dar : Bool) : Bool :=
  !dar || opt.regexBag.isSome || decide (opt.boundsType = .characters) || opt.replaceDelimiter.isNone

theorem darOkB_iff (opt : Opt) (dar : Bool) : darOkB opt dar = true ↔ DarOk opt dar := by
  unfold darOkB DarOk
  cases dar <;> cases opt.replaceDelimiter <;> simp

instance (opt : Opt) (dar : Bool) : Decidable (DarOk opt dar) := decidable_of_iff _ (darOkB_iff opt dar)


/-- bounds lists as the parser builds them: single fields, ranges, open sides, negative indexes,
    unsorted, format strings with fillers, per-bound fallbacks, out-of-range bounds, the ends of `i32` -/
def testBoundsTexts : List String :=
  ["1", "2", "1:", ":2", "2:3", "-1", "-2:", "2:-1", "3,1", "1:2,4:", "2=F", "7=G,1", "a{1}b{3:}",
   "{2}{2}", "5", "-5:", "2147483647", "-2147483648:", ":2147483647=Z", "{1:2147483647}|{-2147483648}"]

def testBounds : List UserBoundsList :=
  testBoundsTexts.filterMap fun s => (boundsListOfString s.toList).toOption

/-- records: empty, one field, delimiters at the ends and doubled, multi-byte characters, bytes that
    are not UTF-8 -/
def testLines : List Bytes :=
  ["", "a", "a,b", "a,b,c", ",a,,b,", ",,", ",,,a,,b,,", "é,x", "h,é,l,l,o", "a b, c", "abc"].map
    (fun s => utf8 s.toList) ++ [[0xFF, 44, 97], [44, 0xC3]]

/-- option records: every flag of `cut_str`, alone and combined; fields mode with a literal
    delimiter (one byte, two bytes, empty), characters mode (`charsBag`), fields mode with a regex
    (`[, ]`), lines mode; the combinations `cut_str` refuses (`bail!`) included -/
def testOpts (b : UserBoundsList) : List Opt :=
  let base : Opt := { delimiter := [44], bounds := b }
  let chars : Opt := { base with delimiter := [], boundsType := .characters, regexBag := Option.some charsBag }
  let re : Opt := { base with regexBag := Option.some (Re.cls [44, 32]).bag }
  [ base,
    { base with json := true },
    { base with complement := true },
    { base with complement := true, json := true },
    { base with complement := true, onlyDelimited := true },
    { base with compressDelimiter := true },
    { base with greedyDelimiter := true },
    { base with trim := Option.some .both },
    { base with trim := Option.some .left },
    { base with trim := Option.some .right },
    { base with trim := Option.some .both, compressDelimiter := true, greedyDelimiter := true },
    { base with onlyDelimited := true },
    { base with join := true },
    { base with join := true, replaceDelimiter := Option.some [59] },
    { base with replaceDelimiter := Option.some [59, 59] },
    { base with replaceDelimiter := Option.some [59], compressDelimiter := true, json := true },
    { base with fallbackOob := Option.some [63] },
    { base with fallbackOob := Option.some [63], json := true, join := true },
    { base with delimiter := [44, 44] },
    { base with delimiter := [44, 44], greedyDelimiter := true, compressDelimiter := true },
    { base with delimiter := [] },
    { base with delimiter := [], greedyDelimiter := true, trim := Option.some .both },
    { base with boundsType := .lines, delimiter := [44], compressDelimiter := true, join := true },
    { base with boundsType := .bytes, compressDelimiter := true },
    chars,
    { chars with json := true },
    { chars with replaceDelimiter := Option.some [45] },
    { chars with replaceDelimiter := Option.some [45], join := true },
    { chars with complement := true },
    { chars with complement := true, json := true, fallbackOob := Option.some [63] },
    { chars with join := true },
    { chars with compressDelimiter := true, onlyDelimited := true },
    { chars with trim := Option.some .both },
    re,
    { re with replaceDelimiter := Option.some [59] },
    { re with compressDelimiter := true },
    { re with compressDelimiter := true, replaceDelimiter := Option.some [59] },
    { re with compressDelimiter := true, replaceDelimiter := Option.some [59], json := true, join := true },
    { re with greedyDelimiter := true },
    { re with greedyDelimiter := true, trim := Option.some .both, replaceDelimiter := Option.some [] },
    { re with trim := Option.some .left, complement := true },
    { re with json := true },
    { re with join := true },
    { re with join := true, replaceDelimiter := Option.some [59, 32], fallbackOob := Option.some [63] } ]

#guard testBounds.length == 20 && testLines.length == 13 && (testOpts default).length == 44

/-! 20 bounds × 44 option records × 13 records = 11 440 cases, with clean buffers and with dirty
    ones (content that must not be read), `eol` = LF and NUL NUL: the run and both buffers -/
#guard testBounds.all fun b => (testOpts b).all fun opt => testLines.all fun line =>
  CutStrLit.cutStrLit line opt [] [] [10] == cutStr line opt [] [] [10] &&
  CutStrLit.cutStrLit line opt [⟨7, 9⟩, ⟨0, 100⟩] [1, 2, 3] [0, 0] ==
    cutStr line opt [⟨7, 9⟩, ⟨0, 100⟩] [1, 2, 3] [0, 0]

/-! every one of them is inside the hypotheses of `cutStrLit_eq` -/
#guard testBounds.all fun b => boundsOkB b.list &&
  (testOpts b).all fun opt => testLines.all fun line => fieldsFitB line opt

/-! the stages on their own, `delimiter_already_replaced` both ways where it may be set -/
#guard testBounds.all fun b => (testOpts b).all fun opt => testLines.all fun line =>
  [false, true].all fun dar =>
    !darOkB opt dar ||
      (let fields := fillWithFieldsLocations [] line opt.delimiter
       CutStrLit.emitStage line fields opt dar [10] == emitRecord line fields opt dar [10] &&
       CutStrLit.emitStage line (fields.drop 1) opt dar [10] == emitRecord line (fields.drop 1) opt dar [10])

/-! the record loop: whole inputs -/
#guard testBounds.all fun b => (testOpts b).all fun opt =>
  ["", "a,b\nc,d,e\n\n,f", "a\n", ",,\n\né,x,y\nz"].all fun s =>
    readAndCutStrLit opt (utf8 s.toList) == readAndCutStr opt (utf8 s.toList)

/-- `-f 2:3,-1 --json` (which implies `--join`) -/
def exOpt : Opt :=
  { delimiter := [44],
    bounds := { list := [.bound { l := .some 2, r := .some 3 }, .bound { l := .some (-1), r := .some (-1), isLast := true }],
                lastInteresting := .cont },
    json := true, join := true }

/-- `a,b,c,d` with dirty buffers -/
example :
    CutStrLit.cutStrLit [97, 44, 98, 44, 99, 44, 100] exOpt [⟨5, 6⟩] [1] [10] =
      cutStr [97, 44, 98, 44, 99, 44, 100] exOpt [⟨5, 6⟩] [1] [10] :=
  cutStrLit_eq _ _ _ _ _ ((boundsOkB_iff _).1 (by decide)) ((fieldsFit_iff _ _).1 (by decide))

#guard (CutStrLit.cutStrLit [97, 44, 98, 44, 99, 44, 100] exOpt [⟨5, 6⟩] [1] [10]) ==
  (Run.ok (utf8 "[\"b\",\"c\",\"d\"]\n".toList), [⟨0, 1⟩, ⟨2, 3⟩, ⟨4, 5⟩, ⟨6, 7⟩], [1])

example :
    readAndCutStrLit exOpt [97, 44, 98, 10, 99, 44, 100, 44, 101, 10] =
      readAndCutStr exOpt [97, 44, 98, 10, 99, 44, 100, 44, 101, 10] :=
  readAndCutStrLit_eq _ _ ((boundsOkB_iff _).1 (by decide))
    (by intro r hr; exact (fieldsFit_iff _ _).1 (by revert r; decide))

example : (CutStrLit.cutStrLit [97, 44, 98, 44, 99, 44, 100] exOpt [⟨5, 6⟩] [1] [10]).1.Safe :=
  cutStrLit_safe _ _ _ _ _ ((boundsOkB_iff _).1 (by decide)) ((fieldsFit_iff _ _).1 (by decide))
    (by intro bag h; cases h)

/-- `tuc -d , -f 2:3` -/
def exArgv : List Arg := [['-', 'd'], [','], ['-', 'f'], ['2', ':', '3']]

/-- `parse_args` returns an `Opt`, and it is `BoundsOk` -/
example : ∃ o fm re, parseArgv (fun _ => true) exArgv = .run o fm re ∧ BoundsOk o.bounds.list :=
  ⟨_, _, _, rfl, boundsOk_of_parseArgv (fun _ => true) exArgv _ _ _ rfl⟩

/-! ### `BoundsOk`: the left side 0

Only `UserBounds::new` can build it (the parser refuses it: `boundsOk_of_parsed`).  The Rust start
is `-1 as usize` = 2⁶⁴ − 1: `fields[r.start]` panics (l.420).  The model resolves it as field 1. -/

def optLeftZero : Opt :=
  { delimiter := [44],
    bounds := { list := [.bound { l := .some 0, r := .some 1, isLast := true }], lastInteresting := .cont } }

#guard (CutStrLit.cutStrLit [97, 44, 98] optLeftZero [] [] [10]).1 == Run.panic
#guard (cutStr [97, 44, 98] optLeftZero [] [] [10]).1 == Run.ok [97, 10]
#guard fieldsFitB [97, 44, 98] optLeftZero && !boundsOkB optLeftZero.bounds.list

/-! ### `BoundsOk`: a side that is not an `i32`

2³² + 1 has no Rust counterpart (`parse::<i32>` refuses it); stored in an `i32` it is the index 1. -/

def optBigSide : Opt :=
  { delimiter := [44],
    bounds := { list := [.bound { l := .some 4294967297, r := .some 4294967297, isLast := true }],
                lastInteresting := .cont } }

#guard (CutStrLit.cutStrLit [97, 44, 98] optBigSide [] [] [10]).1 == Run.ok [97, 10]
#guard (cutStr [97, 44, 98] optBigSide [] [] [10]).1 == Run.fail
#guard fieldsFitB [97, 44, 98] optBigSide && !boundsOkB optBigSide.bounds.list

/-! ### `DarOk` (stage level only)

`CutStrLit.emitStage` (l.357-455) with `delimiter_already_replaced = true`, no regex, `-r ;`: the Rust text prints the
slice as it is (l.423), the model's `maybeReplaceDelimiter … true` still replaces with the literal
delimiter.  `cut_str` never gets there: l.324 sets the flag inside `if opt.regex_bag.is_some()`
(l.313) — which is why `cutStrLit_eq` has no such hypothesis. -/

def optReplace : Opt :=
  { delimiter := [44], replaceDelimiter := Option.some [59],
    bounds := { list := [.bound { l := .some 1, r := .cont, isLast := true }], lastInteresting := .cont } }

#guard CutStrLit.emitStage [97, 44, 98] [⟨0, 1⟩, ⟨2, 3⟩] optReplace true [10] == Run.ok [97, 44, 98, 10]
#guard emitRecord [97, 44, 98] [⟨0, 1⟩, ⟨2, 3⟩] optReplace true [10] == Run.ok [97, 59, 98, 10]
#guard !darOkB optReplace true && darOkB optReplace false && boundsOkB optReplace.bounds.list

def oneOpen : UserBounds := { l := .some 1, r := .cont, isLast := true }
def optOneOpen : Opt :=
  { delimiter := [9], bounds := { list := [.bound oneOpen], lastInteresting := .cont } }

/-! ### `FieldsFit`: 2³¹ fields or more

For the program without options (`-f 1:`, TAB) literal and model agree on every record, the records of
2³¹ fields and more included (`cutStrLit_eq_cutStr_oneOpen`, `cutStrLit_eq_cutStr_on_2GiB_line`).  A
record with 2³¹ fields cannot be evaluated; the closure takes `num_fields` as a separate argument, so one
call can be: with `num_fields = 2³¹` (and 2³² + 1) both resolve `1:` to `0..num_fields` (and then find
that the vector is too short). -/

#guard outputBof [97] [⟨0, 1⟩] 2147483648 optOneOpen false (.bound oneOpen) == Run.panic
#guard [2147483648, 4294967297, 9223372036854775807].all fun n =>
  CutStrLit.outputClosure [97] [⟨0, 1⟩] n optOneOpen false (.bound oneOpen) ==
    outputBof [97] [⟨0, 1⟩] n optOneOpen false (.bound oneOpen)

theorem tryIntoRange_oneOpen (n : Nat) (h : 0 < n) : oneOpen.tryIntoRange n = Option.some (0, n) :=
  (BoundsLit.model_one_open n).trans (if_neg (Nat.ne_of_gt h))

theorem boundOk_oneOpen : BoundOk oneOpen :=
  ⟨⟨by decide, by decide⟩, trivial, by decide⟩

/-- l.416 on `1:`, any number of fields a vector can have -/
theorem resolve_oneOpen (n : Nat) (h : 0 < n) (hn : n < 9223372036854775808) :
    CutStrLit.resolve oneOpen n = .ok (0, n) := by
  rw [resolve_eq oneOpen n boundOk_oneOpen.1 boundOk_oneOpen.2.1 hn boundOk_oneOpen.2.2,
    tryIntoRange_oneOpen n h]
  rfl

theorem boundsOk_oneOpen : BoundsOk [.bound oneOpen] := by
  intro b hb
  cases List.mem_singleton.mp hb
  exact boundOk_oneOpen

theorem fieldsOf_oneOpen (line : Bytes) :
    fieldsOf line optOneOpen =
      if line.isEmpty then Option.none else Option.some (fillWithFieldsLocations [] line [9]) := by
  have e0 : optOneOpen.regexBag.isSome = false := rfl
  have e1 : trimOf optOneOpen line = line := rfl
  have e2 : optOneOpen.compressDelimiter = false := rfl
  unfold fieldsOf
  rw [cutStrCore_eq, e0, e1]
  simp only [Bool.false_and, Bool.false_eq_true, if_false]
  unfold afterTrim
  cases line.isEmpty
  · simp only [compressOf_off e2, Bool.false_eq_true, if_false]; rfl
  · rfl

theorem findIterAux_tabs : ∀ (k pos : Nat),
    (findIterAux [9] 0 pos (List.replicate k 9)).length = k
  | 0, _ => rfl
  | k + 1, pos => by
    rw [List.replicate_succ, findIterAux]
    simp [List.isPrefixOf, findIterAux_tabs k]

theorem fields_tabs (k : Nat) (hk : 0 < k) :
    (fillWithFieldsLocations [] (List.replicate k 9) [9]).length = k + 1 := by
  unfold fillWithFieldsLocations
  rw [if_neg (by cases k with
    | zero => omega
    | succ k => simp [List.replicate_succ])]
  rw [rangesBetween_length, findIter, findIterAux_tabs]

/-- **the program without options (`-f 1:`, TAB) does not need `FieldsFit`**: on every record of
    fewer than 2⁶³ fields — 2³¹ fields and more included — `cut_str` as written and the model agree
    (`h`; no Rust vector has 2⁶³ entries, its size is at most `isize::MAX` bytes: said here, not proved) -/
theorem cutStrLit_eq_cutStr_oneOpen (line : Bytes) (fields : List Range) (buf eol : Bytes)
    (h : (fillWithFieldsLocations [] line [9]).length < 9223372036854775808) :
    CutStrLit.cutStrLit line optOneOpen fields buf eol = cutStr line optOneOpen fields buf eol := by
  refine cutStrLit_eq_of_emit line optOneOpen fields buf eol fun l f dar hf hd => ?_
  rw [fieldsOf_oneOpen] at hf
  cases hl : line.isEmpty with
  | true => rw [hl] at hf; cases hf
  | false =>
    rw [hl] at hf
    cases hf
    exact emitStage_eq_of l _ optOneOpen dar eol boundsOk_oneOpen h (fun h => absurd h (by decide)) hd

/-- an instance outside `FieldsFit`: the record made of 2³¹ − 1 TABs (2 GiB) has 2³¹ empty fields,
    and `cut_str` as written and the model agree on it -/
theorem cutStrLit_eq_cutStr_on_2GiB_line :
    ∃ line : Bytes, line.length = 2147483647 ∧
      (fillWithFieldsLocations [] line [9]).length = 2147483648 ∧
      CutStrLit.cutStrLit line optOneOpen [] [] [10] = cutStr line optOneOpen [] [] [10] :=
  ⟨List.replicate 2147483647 9, List.length_replicate, fields_tabs _ (by omega),
    cutStrLit_eq_cutStr_oneOpen _ _ _ _ (by rw [fields_tabs _ (by omega)]; omega)⟩

end CutStrLitProps
end Tuc
