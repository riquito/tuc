import Tuc.Props.C13Runs
import Tuc.Props.C03Parsed
/-!
# C13 at the level of runs — `-M` (fixed memory), through C03
-/
namespace Tuc
open Tuc.Spec

/-- **C13, `-M`, the run**, for parsed bounds, any read segmentation, and inputs all of whose
    records are admissible (no requested closed range straddles the end of a record): a bound
    that does not resolve on some record and has no fallback at all fails the run, after the
    output of the records before it and of what the failing record printed before that bound. -/
theorem stream_never_silent (opt : Opt) (so : StreamOpt) (hso : streamOptOf opt = some so)
    (f : List Char) (hparse : boundsListOfString f = .ok opt.bounds) (segs : List Bytes)
    (hadm : ∀ r ∈ records opt.eol.byte segs.flatten,
      Admissible opt.bounds.list (r.count so.delimiter + 1))
    (before after : List Bytes) (r : Bytes)
    (hrec : records opt.eol.byte segs.flatten = before ++ r :: after)
    (tok : Tok) (pre post : List BoF) (b : UserBounds) (ht : recordTok (cfgOf opt) r = some tok)
    (hs : (opt.onlyDelimited && tok.numFields == 1) = false)
    (hb : opt.bounds.list = pre ++ .bound b :: post)
    (h : resolve b tok.numFields = none) (hf : b.fallback = none) (hg : opt.fallbackOob = none) :
    (cutBytesStream so segs).status = .fail ∧
    ((specRunRecords (cfgOf opt) before).status = .ok →
      (cutBytesStream so segs).out =
        (specRunRecords (cfgOf opt) before).out ++
          (openBracket (cfgOf opt) ++
            (emitThen (cfgOf opt) tok (specSep (cfgOf opt)) (specJoiner (cfgOf opt))
              (rewriteList (cfgOf opt) tok.numFields pre)).out)) := by
  rw [stream_refines_spec_of_parsed opt so hso f hparse segs hadm]
  exact specRun_fails_at (cfgOf opt) segs.flatten before after r hrec tok pre post b ht hs hb h hf hg

end Tuc
