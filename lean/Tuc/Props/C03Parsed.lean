import Tuc.Props.C03Refine
import Tuc.Lemmas.CutStrSpec
import Tuc.Lemmas.Grammar
/-!
# C03, end to end — `-M` equals the specification for parsed bounds, on admissible inputs

`stream_refines_spec` (Tuc/Props/C03Refine.lean) takes three facts about the bounds as hypotheses:
no two literal texts in a row, well-formed ranges, `is_last` on the last bound.  Here they are
discharged for every bounds list that `UserBoundsList::from_str` (`boundsListOfString`) returns:
`boundsListOfString_noAdj` (C04), `boundsListOfString_good` (Lemmas/CutStrSpec: `LastMarked`),
and `boundsListOfString_wf` (Lemmas/Grammar: `accepted_wellformed` for every bound of the list).
The hypothesis on the input stays: every record `Admissible` (no closed range straddles its end).
-/
namespace Tuc
open Tuc.Spec

/-- **C03, end to end.**  For every option set that `-M` accepts whose bounds are what
    `UserBoundsList::from_str` returned for some `-f` argument `f`, every read segmentation, and
    every input all of whose records are admissible (no requested closed range straddles the end
    of the record): bytes written and exit status are those of the specification. -/
theorem stream_refines_spec_of_parsed (opt : Opt) (so : StreamOpt) (h : streamOptOf opt = some so)
    (f : List Char) (hparse : boundsListOfString f = .ok opt.bounds) (segs : List Bytes)
    (hadm : ∀ r ∈ records opt.eol.byte segs.flatten,
      Admissible opt.bounds.list (r.count so.delimiter + 1)) :
    cutBytesStream so segs = specRun (cfgOf opt) segs.flatten :=
  stream_refines_spec opt so h (boundsListOfString_noAdj f _ hparse) (boundsListOfString_wf hparse)
    (boundsListOfString_good f _ hparse).2 segs hadm

/-- **C03 at the level of `main`.**  With `-M` and an option set that `-M` accepts, what `main`
    dispatches to is the specification's run, for parsed bounds and admissible inputs. -/
theorem dispatch_fixedMemory_eq_spec (opt : Opt) (so : StreamOpt) (h : streamOptOf opt = some so)
    (f : List Char) (hparse : boundsListOfString f = .ok opt.bounds) (segs : List Bytes)
    (hadm : ∀ r ∈ records opt.eol.byte segs.flatten,
      Admissible opt.bounds.list (r.count so.delimiter + 1)) :
    dispatch opt true segs = some (specRun (cfgOf opt) segs.flatten) := by
  rw [dispatch_fixedMemory, h, Option.map_some, stream_refines_spec_of_parsed opt so h f hparse segs hadm]

end Tuc
