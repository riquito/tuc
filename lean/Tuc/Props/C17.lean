import Tuc.Props.C04
/-!
# C17 — memory stays within the documented bounds: two facts about the TAGGED-BYTE machine of `-M`

This file is about `streamStep` / `SState` of `Tuc.Model.Stream` (the normal-form machine of C03/C04), not
about the loop of stream.rs: what the literal `cut_bytes_stream` holds from chunk to chunk is
`Tuc.Props.Space` (`cutBytesStreamLoopI_ok`, the `-M` section), and the bounds C17 names for the other
engines are `Tuc.Props.Space` / `Tuc.Props.Space2`.

`retained st` = the number of bytes the state of the `-M` machine holds (the pending piece of the
current chunk: read, not printed yet); the rest of the state is `bof_idx`, `curr_field` and three
flags.  That nothing is retained after the last byte of a chunk of several bytes is not derived
here (by `streamStep_piece` such a step empties the piece or leaves it as it was; in `streamStep`
the latter happens in skip mode and when `print_bof` panics).
-/
namespace Tuc

/-- bytes held by the state of the chunk machine -/
def retained (st : SState) : Nat := st.piece.length

/-- a step on a byte tagged "last of its chunk", from a state that retains nothing, ends in a state
    that retains nothing (`piece_empty_at_chunk_end` of C04; `hok` is not used) -/
theorem retained_zero_at_chunk_end (o : StreamOpt) (st : SState) (c : UInt8) (hp : retained st = 0)
    (hok : (streamStep o st c true).1.status = .ok) : retained (streamStep o st c true).2 = 0 := by
  unfold retained at hp ⊢
  have : st.piece = [] := List.eq_nil_of_length_eq_zero hp
  rw [piece_empty_at_chunk_end o st c this hok]
  rfl

/-- within a chunk the pending piece only ever grows by the byte just read -/
theorem retained_step (o : StreamOpt) (st : SState) (c : UInt8) (last : Bool) :
    retained (streamStep o st c last).2 ≤ retained st + 1 := by
  unfold retained
  rcases streamStep_piece o st c last with h | h | ⟨_, h⟩
  · rw [h]; exact Nat.zero_le _
  · rw [h]; exact Nat.le_succ _
  · rw [h, List.length_append]; exact Nat.le_refl _

end Tuc
