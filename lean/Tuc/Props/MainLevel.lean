import Tuc.Model.Main
import Tuc.Lemmas.MainLevel
import Tuc.Props.C04
import Tuc.Props.C10
import Tuc.Props.C10Stream
import Tuc.Props.C11
import Tuc.Props.C12
import Tuc.Props.C14
import Tuc.Props.C19Argv
import Tuc.Props.EndToEnd
import Tuc.Lemmas.Program
/-!
# Main level — the engine-level properties lifted to the whole program `tucMain`

`tucMain regexOk argv segs : MainResult` (`Tuc.Model.Main`) is `main` of `src/bin/tuc.rs` from the
argument vector to the bytes on stdout and the exit status: `parseArgv` (pico_args + `parse_args`),
the regex bag, `dispatch`.  The property files state C04, C10, C11, C12, C14 about the engines or
about `dispatch` on an `Opt` whose bounds "come from the parser".  Here they are stated about the
program: C12, C04 and C14 (writer side) for EVERY argument vector, C10 for every argument vector
of field mode, C11 for accepted canonical command lines.  The bridge is
`parseArgv_bounds_fromParser`: for EVERY argument vector, every `Opt` that `parse_args` returns has
bounds that are a value of `UserBoundsList::from_str` — read off the walk through `parseWith` that
also gives `parseArgv_total` (`parseWith_spec`, C19Argv).  So `boundsListOfString_good` /
`parsed_nonzero` / `boundsListOfString_noAdj` apply to whatever any spelling of the command line
makes `main` run with.

Not covered: C10 for `-c` at program level (`tucMain_append` asks `FieldMode`; with `-c` the outcome
`unmodelled` depends on the input being UTF-8); `-b`/`-l` have no C10.  C11 is for canonical
command lines only (the statement needs the command line "with `-z` toggled").  `-e` is outside
C11 (as in C11 itself).  Where the model says `unmodelled` (`-e` with a regex outside
`Tuc.Model.Regex`, `-c` on input that is not UTF-8) `tucMain_never_panics` only says "not `panic`".
-/
namespace Tuc

/-- if `parse_args` returns an `Opt`, its bounds are a value of `UserBoundsList::from_str` -/
def RunParsed : ArgvResult → Prop
  | .run o _ _ => FromParser o.bounds
  | _ => True

/-- from every state the step `m` of `parse_args` either ends it with a result that satisfies `RunParsed`
    or goes on with a value that satisfies `Q`; one rule, `Inv.unwrap`.  No proof uses it:
    `parseArgv_bounds_fromParser` is read off `parseArgv_spec` (C19Argv) -/
def Inv {σ α : Type} (m : P σ α) (Q : α → Prop) : Prop :=
  ∀ s, match m s with
    | .done r => RunParsed r
    | .next a _ => Q a

theorem Inv.unwrap {σ α : Type} (o : Option α) (Q : α → Prop) (h : ∀ a, o = Option.some a → Q a) :
    Inv (P.unwrap o : P σ α) Q := by
  intro s
  cases o with
  | none => trivial
  | some a => exact h a rfl

theorem parseArgv_bounds_fromParser (regexOk : Arg → Bool) (argv : List Arg) (o : Opt) (fm : Bool)
    (re : Option Arg) (h : parseArgv regexOk argv = .run o fm re) :
    ∃ f : Arg, boundsListOfString f = .ok o.bounds :=
  ((parseArgv_spec regexOk argv).2 o fm re h).1

theorem compileBag_ok (o : Opt) (re : Option Arg) (bag : Option RegexBag)
    (h : compileBag o re = Option.some bag) : ∀ b, bag = Option.some b → b.OK := by
  intro b hb
  rcases compileBag_cases h with rfl | rfl | ⟨r, rfl⟩ <;> cases hb
  · exact charsBag_ok
  · exact MainLevel.Re.bag_ok r

theorem tucRun_safe (o : Opt) (hf : FromParser o.bounds) (fm : Bool) (re : Option Arg)
    (segs : List Bytes) :
    tucRun o fm re segs ≠ .panic ∧
      ∀ r, tucRun o fm re segs = .run r → r.status = .ok ∨ r.status = .fail := by
  obtain ⟨f, hf⟩ := hf
  unfold tucRun
  cases hc : compileBag o re with
  | none => exact ⟨nofun, nofun⟩
  | some bag =>
    simp only
    split
    · exact ⟨nofun, nofun⟩
    · cases hd : dispatch { o with regexBag := bag } fm segs with
      | none => exact ⟨nofun, nofun⟩
      | some r0 =>
        refine ⟨nofun, fun r hr => ?_⟩
        cases hr
        exact dispatch_safe { o with regexBag := bag } f hf (compileBag_ok o re bag hc) fm segs r0 hd

/-- **C12 at the level of the program, for EVERY argument vector.**  Whatever the arguments (any
    spelling `pico_args` understands, any values, any conflicts, `-e RE` included), whatever the
    input and however the reads deliver it: the model of `main` never reaches a panic site —
    neither an `unwrap`/`expect` of `parse_args` (`parseArgv_total`) nor one in an engine
    (`dispatch_safe`) — and when an engine runs it ends with exit status 0 or 1 (no panic, no
    endless loop).  No hypothesis: the bounds of every `Opt` that `parse_args` returns come out of
    the bounds parser (`parseArgv_bounds_fromParser`), the regex bag is `none`, `\b|\B` or
    compiled from a modelled regex (`compileBag_ok`). -/
theorem tucMain_never_panics (regexOk : Arg → Bool) (argv : List Arg) (segs : List Bytes) :
    tucMain regexOk argv segs ≠ .panic ∧
      ∀ r, tucMain regexOk argv segs = .run r → r.status = .ok ∨ r.status = .fail := by
  unfold tucMain
  cases hp : parseArgv regexOk argv with
  | panic => exact absurd hp (parseArgv_total regexOk argv)
  | run o fm re => exact tucRun_safe o (parseArgv_bounds_fromParser regexOk argv o fm re hp) fm re segs
  | _ => exact ⟨nofun, nofun⟩

theorem tucMain_run_status (regexOk : Arg → Bool) (argv : List Arg) (segs : List Bytes) (r : Run)
    (h : tucMain regexOk argv segs = .run r) : r.status ≠ .panic ∧ r.status ≠ .hang := by
  have := (tucMain_never_panics regexOk argv segs).2 r h
  exact ⟨Run.Safe.ne_panic this, Run.Safe.ne_hang this⟩

/-- a NON-canonical spelling (`-d:` glued, the cluster `-gz`, `--fields=2`): the engine runs and
    ends well.  `tuc --fields=2 -d: -gz` on `a::b␀` prints `b␀`. -/
example :
    tucMain (fun _ => true) [['-', '-', 'f', 'i', 'e', 'l', 'd', 's', '=', '2'], ['-', 'd', ':'], ['-', 'g', 'z']]
      [[97, 58], [58, 98, 0]] = .run (Run.ok [98, 0]) := by decide +kernel

/-- … and a command line that fails in the engine (`-f 3` on a record of two fields: exit 1) -/
example :
    tucMain (fun _ => true) [['-', 'f', '3'], ['-', 'd', ':']] [[97, 58, 98, 10]] = .run Run.fail := by
  decide +kernel

/-- **C04 at the level of the program, for EVERY argument vector.**  What `tuc` does — help,
    rejection, or the bytes on stdout and the exit status — depends on the bytes of the input
    only, never on how successive reads split it: with `-M` by C04 (`chunk_independent`, whose
    hypothesis `NoAdjFillers` holds for everything the bounds parser produces), without `-M`
    because the engines are handed `segs.flatten`.  Empty reads are allowed. -/
theorem tucMain_chunk_independent (regexOk : Arg → Bool) (argv : List Arg) (segs segs' : List Bytes)
    (h : segs.flatten = segs'.flatten) :
    tucMain regexOk argv segs = tucMain regexOk argv segs' := by
  rw [tucMain_eq_programWith, tucMain_eq_programWith]
  exact programWith_congr (by rw [h]) fun o fm rt bag hp _ _ => by
    obtain ⟨f, hf⟩ := parseArgv_bounds_fromParser regexOk argv o fm rt hp
    cases fm with
    | true => exact dispatch_fixedMemory_chunk_independent { o with regexBag := bag } f hf segs segs' h
    | false => exact dispatch_flatten _ segs segs' h

/-- … in particular it is what one read of the whole input gives -/
theorem tucMain_one_read (regexOk : Arg → Bool) (argv : List Arg) (segs : List Bytes) :
    tucMain regexOk argv segs = tucMain regexOk argv [segs.flatten] :=
  tucMain_chunk_independent regexOk argv _ _ (by simp)

/-- `tuc -M1 -d: -f1,3` (glued values) on `a:b:c⏎x:y:z⏎` in pieces of 4, 3 and 5 bytes, and in one -/
example :
    tucMain (fun _ => true) [['-', 'M', '1'], ['-', 'd', ':'], ['-', 'f', '1', ',', '3']]
        [[97, 58, 98, 58], [99, 10, 120], [58, 121, 58, 122, 10]] = .run (Run.ok [97, 99, 10, 120, 122, 10]) ∧
    tucMain (fun _ => true) [['-', 'M', '1'], ['-', 'd', ':'], ['-', 'f', '1', ',', '3']]
        [[97, 58, 98, 58, 99, 10, 120, 58, 121, 58, 122, 10]] = .run (Run.ok [97, 99, 10, 120, 122, 10]) := by
  decide +kernel

/-- the invocation with a stdout that accepts `lim` bytes and then fails (`none` = never fails):
    what `deliver` (`BufWriter` + the final `flush()?`) makes of the engine's run.  (The texts of
    `--help` / `--version` are not modelled, so those outcomes are left as they are.) -/
def MainResult.deliver (m : MainResult) (lim : Option Nat) : MainResult :=
  match m with
  | .run r => .run (Tuc.deliver r lim)
  | x => x

theorem MainResult.deliver_run (r : Run) (lim : Option Nat) :
    (MainResult.run r).deliver lim = .run (Tuc.deliver r lim) := rfl

/-- **C14 (writer side) for every argument vector, 1**: whatever the position of the write fault,
    what reaches stdout is a prefix of the fault-free output, and the outcome is still a run with
    exit status 0 or 1 -/
theorem tucMain_deliver_prefix (regexOk : Arg → Bool) (argv : List Arg) (segs : List Bytes)
    (lim : Option Nat) (r : Run) (h : tucMain regexOk argv segs = .run r) :
    ∃ r', (tucMain regexOk argv segs).deliver lim = .run r' ∧ r'.out <+: r.out ∧
      (r'.status = .ok ∨ r'.status = .fail) := by
  rw [h]
  exact ⟨Tuc.deliver r lim, rfl, deliver_prefix r lim,
    deliver_safe r lim ((tucMain_never_panics regexOk argv segs).2 r h)⟩

/-- **2**: a write fault that cuts anything off never ends in exit status 0 -/
theorem tucMain_deliver_cut_fails (regexOk : Arg → Bool) (argv : List Arg) (segs : List Bytes)
    (k : Nat) (r : Run) (h : tucMain regexOk argv segs = .run r) (hk : k < r.out.length) :
    ∃ r', (tucMain regexOk argv segs).deliver (Option.some k) = .run r' ∧ r'.out = r.out.take k ∧
      r'.status = .fail := by
  rw [h]
  refine ⟨Tuc.deliver r (Option.some k), rfl, ?_, ?_⟩
  · unfold Tuc.deliver
    have : ¬ (r.out.length ≤ k) := by omega
    simp only [this, if_false]
  · have h1 := deliver_cut_fails r k hk
    have h2 := deliver_safe r (Option.some k) ((tucMain_never_panics regexOk argv segs).2 r h)
    rcases h2 with h2 | h2
    · exact absurd h2 h1
    · exact h2

/-- **3**: a writer that accepts at least as many bytes as the run writes changes nothing, whatever
    the outcome -/
theorem tucMain_deliver_enough (regexOk : Arg → Bool) (argv : List Arg) (segs : List Bytes) (k : Nat)
    (hk : ∀ r, tucMain regexOk argv segs = .run r → r.out.length ≤ k) :
    (tucMain regexOk argv segs).deliver (Option.some k) = tucMain regexOk argv segs := by
  cases hm : tucMain regexOk argv segs with
  | run r =>
    have := hk r hm
    simp only [MainResult.deliver, Tuc.deliver, this, if_true]
  | _ => rfl

/-- **4**: when the invocation ends with exit status 0, everything the engine wrote was delivered -/
theorem tucMain_success_complete (regexOk : Arg → Bool) (argv : List Arg) (segs : List Bytes)
    (lim : Option Nat) (r' : Run) (h : (tucMain regexOk argv segs).deliver lim = .run r')
    (hok : r'.status = .ok) : tucMain regexOk argv segs = .run r' := by
  cases hm : tucMain regexOk argv segs with
  | run r =>
    rw [hm, MainResult.deliver_run, MainResult.run.injEq] at h
    subst h
    rw [success_complete r lim hok]
  | _ => rw [hm] at h; cases h

/-- `tuc -d: -f2,1` on `a:b⏎c:d⏎` writes `ba⏎dc⏎`; a stdout that takes 4 bytes gets `ba⏎d`, exit 1 -/
example :
    tucMain (fun _ => true) [['-', 'd', ':'], ['-', 'f', '2', ',', '1']] [[97, 58, 98, 10, 99, 58, 100, 10]] =
      .run (Run.ok [98, 97, 10, 100, 99, 10]) ∧
    (tucMain (fun _ => true) [['-', 'd', ':'], ['-', 'f', '2', ',', '1']] [[97, 58, 98, 10, 99, 58, 100, 10]]).deliver
      (Option.some 4) = .run ⟨[98, 97, 10, 100], .fail⟩ := by
  decide +kernel

/-- "the first part, then (if it went well) the second": two engine runs are sequenced with
    `Run.seq`; an outcome that does not depend on the input (help, version, rejection, a regex the
    model does not cover) is the outcome of the whole -/
def MainResult.seq : MainResult → MainResult → MainResult
  | .run a, .run b => .run (a.seq b)
  | x, _ => x

theorem dispatch_append (o : Opt) (hty : o.boundsType = .fields) (fm : Bool) (segsA segsB : List Bytes)
    (a : Bytes) (h : segsA.flatten = a ++ [o.eol.byte]) :
    MainResult.ofDispatch (dispatch o fm (segsA ++ segsB)) =
      (MainResult.ofDispatch (dispatch o fm segsA)).seq (MainResult.ofDispatch (dispatch o fm segsB)) := by
  unfold dispatch
  simp only [List.flatten_append, h]
  cases fm with
  | true =>
    simp only [if_true]
    cases hso : streamOptOf o with
    | none => rfl
    | some so =>
      simp only [MainResult.ofDispatch, MainResult.seq]
      rw [cutBytesStream_append so segsA segsB a (by rw [(streamOptOf_facts _ _ hso).eol]; exact h)]
  | false =>
    simp only [Bool.false_eq_true, if_false, hty, reduceCtorEq]
    cases hfo : fastOptOf o with
    | some fo =>
      simp only [MainResult.ofDispatch, MainResult.seq]
      rw [← (fastOptOf_facts hfo).eol, readAndCutFast_append]
    | none =>
      simp only [MainResult.ofDispatch, MainResult.seq]
      rw [readAndCutStr_append]

theorem tucRun_append (o : Opt) (hty : o.boundsType = .fields) (fm : Bool) (re : Option Arg)
    (segsA segsB : List Bytes) (a : Bytes) (h : segsA.flatten = a ++ [o.eol.byte]) :
    tucRun o fm re (segsA ++ segsB) = (tucRun o fm re segsA).seq (tucRun o fm re segsB) := by
  unfold tucRun
  cases compileBag o re with
  | none => rfl
  | some bag =>
    have hc : ∀ x : Bytes, (decide (o.boundsType = BoundsType.characters) && !validUtf8 x) = false := by
      intro x; simp [hty]
    simp only [hc, Bool.false_eq_true, if_false]
    exact dispatch_append { o with regexBag := bag } hty fm segsA segsB a h

/-- the record terminator in force, read off what `parse_args` returns (`-z`: NUL) -/
def eolOf (regexOk : Arg → Bool) (argv : List Arg) : UInt8 :=
  match parseArgv regexOk argv with
  | .run o _ _ => o.eol.byte
  | _ => 10

/-- `parse_args` does not select `-b`, `-c` or `-l`: field mode (`-f`, or no mode option) -/
def FieldMode (regexOk : Arg → Bool) (argv : List Arg) : Prop :=
  ∀ o fm re, parseArgv regexOk argv = .run o fm re → o.boundsType = .fields

/-- **C10 at the level of the program, for EVERY argument vector of field mode** (any spelling;
    any of `-d -e -g -p -s -t -z -m -j -r --json --fallback-oob`; with or without `-M`): if the
    reads `segsA` deliver an input that ends with the record terminator in force, then running
    `tuc` on `segsA` followed by `segsB` is running it on `segsA` and then (if that ended with
    status 0) on `segsB` — bytes on stdout and exit status; and an outcome that does not depend on
    the input (help, version, rejection) is the same three times.  Any read segmentation on either
    side.  Lifts `readAndCutStr_append`, `readAndCutFast_append` (C10) and
    `cutBytesStream_append` (C10 for `-M`). -/
theorem tucMain_append (regexOk : Arg → Bool) (argv : List Arg) (hmode : FieldMode regexOk argv)
    (segsA segsB : List Bytes) (a : Bytes) (h : segsA.flatten = a ++ [eolOf regexOk argv]) :
    tucMain regexOk argv (segsA ++ segsB) =
      (tucMain regexOk argv segsA).seq (tucMain regexOk argv segsB) := by
  unfold eolOf at h
  unfold tucMain
  cases hp : parseArgv regexOk argv with
  | run o fm re =>
    rw [hp] at h
    exact tucRun_append o (hmode o fm re hp) fm re segsA segsB a h
  | _ => rfl

/-- … and if the run on the first part fails, the run on the whole fails the same way, having
    delivered exactly the same bytes -/
theorem tucMain_append_of_fail (regexOk : Arg → Bool) (argv : List Arg) (hmode : FieldMode regexOk argv)
    (segsA segsB : List Bytes) (a : Bytes) (h : segsA.flatten = a ++ [eolOf regexOk argv]) (r : Run)
    (hr : tucMain regexOk argv segsA = .run r) (hf : r.status ≠ .ok) :
    tucMain regexOk argv (segsA ++ segsB) = .run r := by
  rw [tucMain_append regexOk argv hmode segsA segsB a h, hr]
  cases hb : tucMain regexOk argv segsB with
  | run b => simp only [MainResult.seq]; rw [Run.seq_of_not_ok _ _ hf]
  | _ => rfl

/-- … and if it succeeds, the outputs are concatenated and the status is that of the second part -/
theorem tucMain_append_of_ok (regexOk : Arg → Bool) (argv : List Arg) (hmode : FieldMode regexOk argv)
    (segsA segsB : List Bytes) (a : Bytes) (h : segsA.flatten = a ++ [eolOf regexOk argv]) (r r' : Run)
    (hr : tucMain regexOk argv segsA = .run r) (hr' : tucMain regexOk argv segsB = .run r')
    (hok : r.status = .ok) :
    tucMain regexOk argv (segsA ++ segsB) = .run ⟨r.out ++ r'.out, r'.status⟩ := by
  rw [tucMain_append regexOk argv hmode segsA segsB a h, hr, hr']
  simp only [MainResult.seq, Run.seq, hok]

/-- the record terminator of `K` as a byte (`K.eol.byte`, C19Argv): NUL with `-z`, LF without -/
def Canon.eolByte (K : Canon) : UInt8 := if K.z = true then 0 else 10

theorem Canon.Accepted.eolOf {regexOk : Arg → Bool} {K : Canon} (h : K.Accepted regexOk) :
    Tuc.eolOf regexOk (canonArgv K) = K.eolByte := by
  unfold Tuc.eolOf
  rw [h.parse]
  show (if K.z = true then EOL.zero else EOL.newline).byte = K.eolByte
  unfold Canon.eolByte
  cases K.z <;> rfl

theorem Canon.Accepted.fieldMode {regexOk : Arg → Bool} {K : Canon} (h : K.Accepted regexOk)
    (hmode : K.mode = .f ∨ K.mode = .dflt) : FieldMode regexOk (canonArgv K) := by
  intro o fm re hp
  rw [h.parse] at hp
  cases hp
  rw [K.optOf_boundsType]
  rcases hmode with hm | hm <;> rw [hm] <;> rfl

/-- **C10 for canonical command lines of field mode** (`-f` or no mode option; any accepted
    option set, `-M N` included): the instance of `tucMain_append` with the terminator in closed
    form -/
theorem tucMain_canon_append (regexOk : Arg → Bool) (K : Canon) (hK : K.Accepted regexOk)
    (hmode : K.mode = .f ∨ K.mode = .dflt) (segsA segsB : List Bytes) (a : Bytes)
    (h : segsA.flatten = a ++ [K.eolByte]) :
    tucMain regexOk (canonArgv K) (segsA ++ segsB) =
      (tucMain regexOk (canonArgv K) segsA).seq (tucMain regexOk (canonArgv K) segsB) :=
  tucMain_append regexOk (canonArgv K) (hK.fieldMode hmode) segsA segsB a (by rw [hK.eolOf]; exact h)

/-- … for one read of `A ++ B` -/
theorem tucMain_canon_append_one_read (regexOk : Arg → Bool) (K : Canon) (hK : K.Accepted regexOk)
    (hmode : K.mode = .f ∨ K.mode = .dflt) (a b : Bytes) :
    tucMain regexOk (canonArgv K) [(a ++ [K.eolByte]) ++ b] =
      (tucMain regexOk (canonArgv K) [a ++ [K.eolByte]]).seq (tucMain regexOk (canonArgv K) [b]) := by
  rw [tucMain_chunk_independent regexOk (canonArgv K) [(a ++ [K.eolByte]) ++ b]
    ([a ++ [K.eolByte]] ++ [b]) (by simp)]
  exact tucMain_canon_append regexOk K hK hmode [a ++ [K.eolByte]] [b] a (by simp)

/-- `tuc -f 2 -d : -M 1` -/
def exAppend : Canon := { mode := .f, bounds := ['2'], d := Option.some [':'], mem := Option.some ['1'] }

theorem exAppend_accepted : exAppend.Accepted (fun _ => true) :=
  .of_accepted (by decide +kernel) rfl rfl

/-- on `a:b⏎` (read as `a:` + `b⏎`) followed by `c⏎` (no second field: exit 1 after `b⏎`) -/
example :
    tucMain (fun _ => true) (canonArgv exAppend) ([[97, 58], [98, 10]] ++ [[99, 10]]) =
      (tucMain (fun _ => true) (canonArgv exAppend) [[97, 58], [98, 10]]).seq
        (tucMain (fun _ => true) (canonArgv exAppend) [[99, 10]]) :=
  tucMain_canon_append _ exAppend exAppend_accepted (Or.inl rfl) _ _ [97, 58, 98] (by decide)

example :
    tucMain (fun _ => true) (canonArgv exAppend) [[97, 58], [98, 10]] = .run (Run.ok [98, 10]) ∧
    tucMain (fun _ => true) (canonArgv exAppend) [[99, 10]] = .run Run.fail ∧
    tucMain (fun _ => true) (canonArgv exAppend) ([[97, 58], [98, 10]] ++ [[99, 10]]) =
      .run ⟨[98, 10], .fail⟩ := by
  decide +kernel

/-- the engine's output renamed (help, version, rejection carry no modelled bytes) -/
def MainResult.mapOut (f : Bytes → Bytes) : MainResult → MainResult
  | .run r => .run (r.mapOut f)
  | x => x

theorem swap_flatten (segs : List Bytes) : (segs.map swap).flatten = swap segs.flatten := by
  simp [swap, List.map_flatten]

theorem dispatch_swap_fields {o : Opt} (h : NoLfNulOpt o) (hty : o.boundsType = .fields) (fm : Bool)
    (segs : List Bytes) :
    dispatch o.swapped fm (segs.map swap) = (dispatch o fm segs).map (Run.mapOut swap) := by
  have hty' : o.swapped.boundsType = .fields := hty
  unfold dispatch
  simp only [swap_flatten]
  cases fm with
  | true =>
    simp only [if_true]
    cases hso : streamOptOf o with
    | none => rw [streamOptOf_swapped, hso]; rfl
    | some so =>
      obtain ⟨h1, h2⟩ := fieldMode_stream_swap h hso segs
      rw [h1]
      simp only [Option.map_some, h2]
  | false =>
    simp only [Bool.false_eq_true, if_false, hty, hty', reduceCtorEq]
    cases hfo : fastOptOf o with
    | some fo =>
      obtain ⟨h1, h2⟩ := fieldMode_fast_swap h hfo segs.flatten
      rw [h1]
      simp only [Option.map_some, h2]
    | none =>
      rw [fastOptOf_swapped, hfo]
      simp only [Option.map_none, Option.map_some, readAndCutStr_swap h]

theorem dispatch_swap_chars {o : Opt} (h : NoLfNulChars o) (hty : o.boundsType = .characters) (fm : Bool)
    (segs : List Bytes) :
    dispatch o.swapped fm (segs.map swap) = (dispatch o fm segs).map (Run.mapOut swap) := by
  have hnf : o.boundsType ≠ .fields := by rw [hty]; decide
  cases fm with
  | true => rw [dispatch_fm_not_fields o hnf, dispatch_fm_not_fields o.swapped hnf]; rfl
  | false =>
    have hb : o.regexBag.isSome = true := by rw [h.bag]; rfl
    rw [dispatch_chars o _ hty hb, dispatch_chars o.swapped _ hty hb, swap_flatten, readAndCutStr_swap_chars h]
    rfl

/-- `swappedAll`: LF and NUL are also exchanged in the delimiter, which in line mode is the terminator -/
theorem dispatch_swap_lines {o : Opt} (h : NoLfNulLits o) (hty : o.boundsType = .lines) (fm : Bool)
    (segs : List Bytes) :
    dispatch o.swappedAll fm (segs.map swap) = (dispatch o fm segs).map (Run.mapOut swap) := by
  have hnf : o.boundsType ≠ .fields := by rw [hty]; decide
  cases fm with
  | true => rw [dispatch_fm_not_fields o hnf, dispatch_fm_not_fields o.swappedAll hnf]; rfl
  | false =>
    rw [dispatch_lines o _ hty, dispatch_lines o.swappedAll _ hty, swap_flatten, readAndCutLines_swap h]
    rfl

theorem dispatch_swap_bytes {o : Opt} (h : NoLfNulLits o) (hty : o.boundsType = .bytes) (fm : Bool)
    (segs : List Bytes) :
    dispatch o.swapped fm (segs.map swap) = (dispatch o fm segs).map (Run.mapOut swap) := by
  have hnf : o.boundsType ≠ .fields := by rw [hty]; decide
  cases fm with
  | true => rw [dispatch_fm_not_fields o hnf, dispatch_fm_not_fields o.swapped hnf]; rfl
  | false =>
    rw [dispatch_bytes o _ hty, dispatch_bytes o.swapped _ hty, swap_flatten, readAndCutBytes_swap h]
    rfl

theorem MainResult.mapOut_ofDispatch (f : Bytes → Bytes) (d : Option Run) :
    (MainResult.ofDispatch d).mapOut f = MainResult.ofDispatch (d.map (Run.mapOut f)) := by
  cases d <;> rfl

theorem Canon.optOf_toggleZ_eq (K : Canon) :
    optOf K.toggleZ.table =
      { optOf K.table with
        eol := (optOf K.table).eol.swap
        delimiter := if boundsTypeOf K.table.mode = .lines then swap (optOf K.table).delimiter
          else (optOf K.table).delimiter } := by
  unfold optOf
  rw [show K.toggleZ.table.flag .z = !K.table.flag .z from rfl]
  by_cases hm : boundsTypeOf K.table.mode = .lines
  · simp only [Canon.toggleZ_mode, hm, if_true]
    cases K.table.flag .z <;> rfl
  · simp only [Canon.toggleZ_mode, hm, if_false]
    cases K.table.flag .z <;> rfl

theorem Canon.optOf_toggleZ (K : Canon) (hl : K.mode ≠ .l) :
    optOf K.toggleZ.table = (optOf K.table).swapped := by
  have hm : boundsTypeOf K.table.mode ≠ .lines := by
    rw [K.table_mode]; cases h : K.mode <;> simp_all [boundsTypeOf]
  rw [K.optOf_toggleZ_eq, if_neg hm]
  rfl

theorem Canon.optOf_toggleZ_lines (K : Canon) (hl : K.mode = .l) :
    optOf K.toggleZ.table = (optOf K.table).swappedAll := by
  rw [K.optOf_toggleZ_eq, if_pos (by rw [K.table_mode, hl]; rfl)]
  rfl

/-- **the domain of C11 for a command line**: the texts given on it — the values of `-d`, `-r`,
    `--fallback-oob`, the literal text and the per-bound fallbacks (`{1=x}`) inside the bounds —
    contain neither LF nor NUL (argv cannot contain NUL in the first place), no `--json`
    (`serde_json` escapes LF as `\n` and NUL as `\u0000`), no `-e` -/
structure Canon.NoLfNul (K : Canon) : Prop where
  d : ∀ x, K.d = Option.some x → Tuc.NoLfNul (utf8 x)
  r : ∀ x, K.r = Option.some x → Tuc.NoLfNul (utf8 x)
  fallback : ∀ x, K.fallback = Option.some x → Tuc.NoLfNul (utf8 x)
  fillers : ∀ f, BoF.filler f ∈ K.table.bounds.list → Tuc.NoLfNul f
  fallbacks : ∀ b f, BoF.bound b ∈ K.table.bounds.list → b.fallback = Option.some f → Tuc.NoLfNul f
  noJson : K.json = false
  noRegex : K.e = none

theorem Canon.NoLfNul.replace {K : Canon} (h : K.NoLfNul) :
    ∀ r, (optOf K.table).replaceDelimiter = Option.some r → Tuc.NoLfNul r := by
  intro r hr
  rw [K.optOf_replaceDelimiter, h.noJson, if_neg Bool.false_ne_true] at hr
  split at hr
  · cases hr; intro b hb; cases hb
  · cases hkr : K.r with
    | none => rw [hkr] at hr; cases hr
    | some x => rw [hkr] at hr; cases hr; exact h.r x hkr

theorem Canon.NoLfNul.fallbackOob {K : Canon} (h : K.NoLfNul) :
    ∀ f, (optOf K.table).fallbackOob = Option.some f → Tuc.NoLfNul f := by
  intro f hf
  rw [K.optOf_fallbackOob] at hf
  cases hk : K.fallback with
  | none => rw [hk] at hf; cases hf
  | some x => rw [hk] at hf; cases hf; exact h.fallback x hk

theorem Canon.NoLfNul.lits {K : Canon} (h : K.NoLfNul) : NoLfNulLits (optOf K.table) where
  replace := h.replace
  fallbackOob := h.fallbackOob
  fillers := h.fillers
  fallbacks := h.fallbacks
  regex := by intro bag hb; cases hb
  noJson := h.noJson

/-- in field mode the `Opt` of `K` lies in the domain of the C11 theorems of the field engines
    (`NoLfNulOpt`; the default delimiter TAB is neither LF nor NUL) -/
theorem Canon.NoLfNul.fields {K : Canon} (h : K.NoLfNul) (hmode : K.mode = .f ∨ K.mode = .dflt) :
    NoLfNulOpt (optOf K.table) where
  delimiter := by
    have : K.delimiter = (match K.d with | Option.some x => utf8 x | none => [9]) := by
      unfold Canon.delimiter; rcases hmode with hm | hm <;> rw [hm] <;> rfl
    rw [K.optOf_delimiter, this]
    cases hd : K.d with
    | none => decide
    | some x => exact h.d x hd
  replace := h.replace
  fallbackOob := h.fallbackOob
  fillers := h.fillers
  fallbacks := h.fallbacks
  noRegex := rfl
  noJson := h.noJson
  notChars := by
    rw [K.optOf_boundsType]; rcases hmode with hm | hm <;> rw [hm] <;> decide

theorem Canon.NoLfNul.chars {K : Canon} (h : K.NoLfNul) (hmode : K.mode = .c) :
    NoLfNulChars { optOf K.table with regexBag := Option.some charsBag } where
  delimiter := by
    show Tuc.NoLfNul (optOf K.table).delimiter
    rw [K.optOf_delimiter, Canon.delimiter, hmode]
    exact fun _ hb => nomatch hb
  replace := h.replace
  fallbackOob := h.fallbackOob
  fillers := h.fillers
  fallbacks := h.fallbacks
  bag := rfl
  noJson := h.noJson

theorem tucRun_swap_noRegex {o o' : Opt} (fm : Bool) (segs : List Bytes)
    (hbt : o.boundsType ≠ .characters) (hbt' : o'.boundsType ≠ .characters)
    (hb : o.regexBag = none) (hb' : o'.regexBag = none)
    (hd : dispatch o' fm (segs.map swap) = (dispatch o fm segs).map (Run.mapOut swap)) :
    tucRun o' fm none (segs.map swap) = (tucRun o fm none segs).mapOut swap := by
  rw [tucRun_plain _ _ _ hbt' hb', tucRun_plain _ _ _ hbt hb, MainResult.mapOut_ofDispatch, hd]

theorem tucRun_canon_swap (K : Canon) (hdom : K.NoLfNul) (fm : Bool) (segs : List Bytes) :
    tucRun (optOf K.toggleZ.table) fm K.table.regexText (segs.map swap) =
      (tucRun (optOf K.table) fm K.table.regexText segs).mapOut swap := by
  have hbt := K.optOf_boundsType
  by_cases hc : K.mode = .c
  · rw [hc] at hbt
    rw [K.optOf_toggleZ (by rw [hc]; decide), tucRun_chars _ _ _ _ hbt,
      tucRun_chars (optOf K.table).swapped _ _ _ hbt, swap_flatten, validUtf8_swap]
    cases validUtf8 segs.flatten with
    | false => rfl
    | true =>
      simp only [if_true]
      rw [MainResult.mapOut_ofDispatch]
      exact congrArg MainResult.ofDispatch (dispatch_swap_chars (hdom.chars hc) hbt fm segs)
  · -- `-f`, no mode option, `-b`, `-l`: no regex bag, the cases differ only in the engine that `dispatch` picks
    have hnc : (optOf K.table).boundsType ≠ .characters := by
      rw [hbt]; cases hm : K.mode <;> first | exact absurd hm hc | decide
    rw [K.regexText_none hc hdom.noRegex]
    by_cases hl : K.mode = .l
    · rw [K.optOf_toggleZ_lines hl]
      rw [hl] at hbt
      exact tucRun_swap_noRegex fm segs hnc hnc rfl rfl (dispatch_swap_lines hdom.lits hbt fm segs)
    · rw [K.optOf_toggleZ hl]
      refine tucRun_swap_noRegex fm segs hnc hnc rfl rfl ?_
      cases hm : K.mode with
      | f => rw [hm] at hbt; exact dispatch_swap_fields (hdom.fields (.inl hm)) hbt fm segs
      | dflt => rw [hm] at hbt; exact dispatch_swap_fields (hdom.fields (.inr hm)) hbt fm segs
      | b => rw [hm] at hbt; exact dispatch_swap_bytes hdom.lits hbt fm segs
      | c => exact absurd hm hc
      | l => exact absurd hm hl

/-- **C11 at the level of the program, for canonical command lines — all four modes (`-f`/default,
    `-c`, `-b`, `-l`), with or without `-M`, every read segmentation.**  Let `K` be accepted, let
    the texts on the command line contain neither LF nor NUL, without `--json` and `-e`
    (`K.NoLfNul`: the domain of the C11 theorems), and let `K.toggleZ` be `K` with `-z` added or
    removed (and something left on the command line).  Then `tuc` with the toggled command line
    on the input with LF and NUL exchanged (in every read) does what `tuc` with the original
    command line does on the original input, with LF and NUL exchanged in the output: the same
    outcome (rejection, failure …), the same exit status, the swapped bytes.

    Lifts `readAndCutStr_swap`, `readAndCutFast_swap` (via `fieldMode_fast_swap`),
    `cutBytesStream_swap_of_fixed` (via `fieldMode_stream_swap`), `readAndCutStr_swap_chars`,
    `readAndCutLines_swap` and `readAndCutBytes_swap` (C11); composes them with
    `parseArgv_canonArgv` on both command lines. -/
theorem tucMain_swap (regexOk : Arg → Bool) (K : Canon) (hK : K.Accepted regexOk)
    (hne : canonArgv K.toggleZ ≠ []) (hdom : K.NoLfNul) (segs : List Bytes) :
    tucMain regexOk (canonArgv K.toggleZ) (segs.map swap) =
      (tucMain regexOk (canonArgv K) segs).mapOut swap := by
  rw [(hK.toggleZ hne).main, hK.main, K.toggleZ_memKb, K.toggleZ_regexText]
  exact tucRun_canon_swap K hdom _ segs

theorem Canon.NoLfNul.ofPlain {K : Canon} (bs : List UserBounds) (hbs : K.table.bounds.list = bs.map .bound)
    (hfb : ∀ b ∈ bs, b.fallback = none) (hd : ∀ x, K.d = Option.some x → Tuc.NoLfNul (utf8 x))
    (hr : K.r = none) (hf : K.fallback = none) (hj : K.json = false) (he : K.e = none) : K.NoLfNul where
  d := hd
  r := by intro x hx; rw [hr] at hx; cases hx
  fallback := by intro x hx; rw [hf] at hx; cases hx
  fillers := by
    intro f hm
    rw [hbs] at hm
    obtain ⟨b, _, hb⟩ := List.mem_map.mp hm
    cases hb
  fallbacks := by
    intro b f hm hbf
    rw [hbs] at hm
    obtain ⟨b', hb', hb⟩ := List.mem_map.mp hm
    cases hb
    rw [hfb b hb'] at hbf
    cases hbf
  noJson := hj
  noRegex := he

/-- `tuc -f 2,1 -d :` -/
def exSwap : Canon := { mode := .f, bounds := ['2', ',', '1'], d := Option.some [':'] }

theorem exSwap_accepted : exSwap.Accepted (fun _ => true) :=
  .of_accepted (by decide +kernel) rfl rfl

theorem exSwap_noLfNul : exSwap.NoLfNul :=
  .ofPlain [{ l := .some 2, r := .some 2 }, { l := .some 1, r := .some 1, isLast := true }]
    (by decide +kernel) (by decide) (by intro x hx; cases hx; decide +kernel) rfl rfl rfl rfl

/-- `tuc -f 2,1 -d : -z` on `a:b␀` `c:d␀` against `tuc -f 2,1 -d :` on `a:b⏎` `c:d⏎` -/
example :
    tucMain (fun _ => true) (canonArgv exSwap.toggleZ) ([[97, 58, 98, 10], [99, 58, 100, 10]].map swap) =
      (tucMain (fun _ => true) (canonArgv exSwap) [[97, 58, 98, 10], [99, 58, 100, 10]]).mapOut swap :=
  tucMain_swap _ exSwap exSwap_accepted (by decide +kernel) exSwap_noLfNul _

example :
    canonArgv exSwap.toggleZ = [['-', 'f'], ['2', ',', '1'], ['-', 'd'], [':'], ['-', 'z']] ∧
    [[97, 58, 98, 10], [99, 58, 100, 10]].map swap = [[97, 58, 98, 0], [99, 58, 100, 0]] ∧
    tucMain (fun _ => true) (canonArgv exSwap) [[97, 58, 98, 10], [99, 58, 100, 10]] =
      .run (Run.ok [98, 97, 10, 100, 99, 10]) ∧
    tucMain (fun _ => true) (canonArgv exSwap.toggleZ) [[97, 58, 98, 0], [99, 58, 100, 0]] =
      .run (Run.ok [98, 97, 0, 100, 99, 0]) := by
  decide +kernel

/-- the side condition `hne`: `tuc -z` cuts (`-f 1:`), `tuc` without arguments prints the help -/
example :
    tucMain (fun _ => true) (canonArgv { z := true }) [[97, 0]] = .run (Run.ok [97, 0]) ∧
    tucMain (fun _ => true) (canonArgv ({ z := true } : Canon).toggleZ) [[97, 10]] = .help := by
  decide +kernel

/-- `tuc -l 2,1 --no-join` (the buffered algorithm; in line mode `-z` also changes the delimiter) -/
def exSwapLines : Canon := { mode := .l, bounds := ['2', ',', '1'], noJoin := true }

theorem exSwapLines_accepted : exSwapLines.Accepted (fun _ => true) :=
  .of_accepted (by decide +kernel) rfl rfl

theorem exSwapLines_noLfNul : exSwapLines.NoLfNul :=
  .ofPlain [{ l := .some 2, r := .some 2 }, { l := .some 1, r := .some 1, isLast := true }]
    (by decide +kernel) (by decide) (by intro x hx; cases hx) rfl rfl rfl rfl

example (segs : List Bytes) :
    tucMain (fun _ => true) (canonArgv exSwapLines.toggleZ) (segs.map swap) =
      (tucMain (fun _ => true) (canonArgv exSwapLines) segs).mapOut swap :=
  tucMain_swap _ exSwapLines exSwapLines_accepted (by decide +kernel) exSwapLines_noLfNul segs

example :
    tucMain (fun _ => true) (canonArgv exSwapLines) [[97, 10, 98], [10]] = .run (Run.ok [98, 97, 10]) ∧
    tucMain (fun _ => true) (canonArgv exSwapLines.toggleZ) [[97, 0, 98], [0]] = .run (Run.ok [98, 97, 0]) := by
  decide +kernel

end Tuc
