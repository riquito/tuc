import Tuc.Model.CutStr
import Tuc.Model.FastLane
import Tuc.Model.Lines
import Tuc.Lemmas.Bounds
/-!
# C09 — negative indexes are the exact mirror of positive ones

`MirrorSide n s s'`: `s'` is `s`, or `s` is the negative index `-k` (`1 ≤ k ≤ n`) and `s'` is
`n + 1 - k`.  Any subset of the negative indexes of a bounds list may be rewritten
(`MirrorList`).  The theorems say that `try_into_range` — the function through which the general
engine, the fast lane and byte mode look at a bound — and the specification's `resolve` are
invariant under that rewriting, and lift it to the output loops of these three engines.  (`-M` and
`-l` one line at a time look at a bound through `matches`; they serve forward-only requests, which
have no negative index.)
-/
namespace Tuc
open Tuc.Spec

inductive MirrorSide (n : Nat) : Side → Side → Prop
  | same (s : Side) : MirrorSide n s s
  | flip (k : Nat) (h1 : 1 ≤ k) (h2 : k ≤ n) : MirrorSide n (.some (-(k : Int))) (.some ((n : Int) + 1 - k))

structure MirrorBound (n : Nat) (b b' : UserBounds) : Prop where
  l : MirrorSide n b.l b'.l
  r : MirrorSide n b.r b'.r
  isLast : b'.isLast = b.isLast
  fallback : b'.fallback = b.fallback

inductive MirrorList (n : Nat) : List BoF → List BoF → Prop
  | nil : MirrorList n [] []
  | filler (f : Bytes) {t t' : List BoF} : MirrorList n t t' → MirrorList n (.filler f :: t) (.filler f :: t')
  | bound {b b' : UserBounds} {t t' : List BoF} : MirrorBound n b b' → MirrorList n t t' →
      MirrorList n (.bound b :: t) (.bound b' :: t')

theorem rangeEnd_mirror {n : Nat} {s s' : Side} (h : MirrorSide n s s') :
    rangeEnd s' n = rangeEnd s n := by
  cases h with
  | same => rfl
  | flip k h1 h2 =>
    rw [rangeEnd_of_pos (by omega), if_pos (by omega), rangeEnd_of_neg (by omega), if_pos (by omega)]
    congr 1; omega

theorem rangeStart_mirror {n : Nat} {s s' : Side} (h : MirrorSide n s s') :
    rangeStart s' n = rangeStart s n := by
  cases h with
  | same => rfl
  | flip k h1 h2 => rw [rangeStart_some, rangeStart_some, rangeEnd_mirror (.flip k h1 h2)]

/-- `try_into_range` does not see the difference between `-k` and `n+1-k`, on either side. -/
theorem tryIntoRange_mirror {n : Nat} {b b' : UserBounds} (h : MirrorBound n b b') :
    b'.tryIntoRange n = b.tryIntoRange n := by
  unfold UserBounds.tryIntoRange
  rw [rangeStart_mirror h.l, rangeEnd_mirror h.r]

theorem tryIntoRange_single (p : Int) (n : Nat) (h1 : 1 ≤ p) (h2 : p ≤ n) :
    ({ l := .some p, r := .some p } : UserBounds).tryIntoRange n = some ((p - 1).toNat, p.toNat) := by
  simp only [UserBounds.tryIntoRange, rangeStart_of_pos (Int.lt_of_lt_of_le Int.zero_lt_one h1),
    rangeEnd_of_pos (Int.lt_of_lt_of_le Int.zero_lt_one h1), if_pos h2]
  rw [if_neg (by omega)]

/-- in particular `-1` is the last part and `-n` the first -/
theorem minus_one_is_last (n : Nat) (h : 1 ≤ n) :
    ({ l := .some (-1), r := .some (-1) } : UserBounds).tryIntoRange n = some (n - 1, n) := by
  rw [← tryIntoRange_mirror (b := { l := .some (-1), r := .some (-1) })
      (b' := { l := .some ((n : Int) + 1 - (1 : Nat)), r := .some ((n : Int) + 1 - (1 : Nat)) })
      ⟨.flip 1 (Nat.le_refl 1) h, .flip 1 (Nat.le_refl 1) h, rfl, rfl⟩,
    tryIntoRange_single _ n (by omega) (by omega)]
  congr 2 <;> omega

theorem minus_n_is_first (n : Nat) (h : 1 ≤ n) :
    ({ l := .some (-(n : Int)), r := .some (-(n : Int)) } : UserBounds).tryIntoRange n = some (0, 1) := by
  rw [← tryIntoRange_mirror (b := { l := .some (-(n : Int)), r := .some (-(n : Int)) })
      (b' := { l := .some ((n : Int) + 1 - n), r := .some ((n : Int) + 1 - n) })
      ⟨.flip n h (Nat.le_refl n), .flip n h (Nat.le_refl n), rfl, rfl⟩,
    tryIntoRange_single _ n (by omega) (by omega)]
  congr 2 <;> omega

theorem outputBof_mirror {n : Nat} {b b' : UserBounds} (h : MirrorBound n b b')
    (line : Bytes) (fields : List Range) (opt : Opt) (c : Bool) :
    outputBof line fields n opt c (.bound b') = outputBof line fields n opt c (.bound b) := by
  simp only [outputBof, tryIntoRange_mirror h, h.isLast, h.fallback]

/-- general field engine (and `-c`, and the buffered `-l`): the whole output loop -/
theorem outputLoop_mirror {n : Nat} {bs bs' : List BoF} (h : MirrorList n bs bs')
    (line : Bytes) (fields : List Range) (opt : Opt) (c : Bool) :
    outputLoop line fields n opt c bs' = outputLoop line fields n opt c bs := by
  induction h with
  | nil => rfl
  | filler f _ ih => simp only [outputLoop, ih]
  | bound hb _ ih => simp only [outputLoop, ih, outputBof_mirror hb]

/-- fast lane: `n` is the number of fields the scan found (`fields.length - 1`) -/
theorem fastOutputLoop_mirror {bs bs' : List BoF} (line : Bytes) (fields : List Nat) (opt : FastOpt)
    (h : MirrorList (fields.length - 1) bs bs') :
    fastOutputLoop line fields opt bs' = fastOutputLoop line fields opt bs := by
  induction h with
  | nil => rfl
  | filler f _ ih => simp only [fastOutputLoop, ih]
  | bound hb _ ih =>
    simp only [fastOutputLoop, ih, outputParts, tryIntoRange_mirror hb, hb.isLast, hb.fallback]

/-- byte mode: `n` is the number of bytes of the input -/
theorem cutBytesLoop_mirror {bs bs' : List BoF} (data : Bytes) (opt : Opt)
    (h : MirrorList data.length bs bs') :
    cutBytesLoop data opt bs' = cutBytesLoop data opt bs := by
  induction h with
  | nil => rfl
  | filler f _ ih => simp only [cutBytesLoop, ih]
  | bound hb _ ih => simp only [cutBytesLoop, ih, tryIntoRange_mirror hb, hb.fallback]

theorem resolveSide_mirror {n : Nat} {s s' : Side} (h : MirrorSide n s s') (dflt : Nat) :
    resolveSide s' n dflt = resolveSide s n dflt := by
  cases h with
  | same => rfl
  | flip k h1 h2 =>
    rw [resolveSide_of_pos (by omega), resolveSide_of_neg (by omega), if_pos (by omega),
      if_pos (by omega)]
    rfl

/-- **the specification resolves a bound and its mirror to the same parts** — no side condition
    (`resolve_mirror` below excludes the index 0 by two hypotheses it does not use) -/
theorem resolve_mirror' {n : Nat} {b b' : UserBounds} (h : MirrorBound n b b') :
    resolve b' n = resolve b n :=
  resolve_congr (resolveSide_mirror h.l 1) (resolveSide_mirror h.r n)

theorem resolve_mirror {n : Nat} {b b' : UserBounds} (h : MirrorBound n b b')
    (hz : b.Nonzero) (hz' : b'.Nonzero) : resolve b' n = resolve b n :=
  resolve_mirror' h

/-- non-vacuity: a list with two negative indexes, one of them rewritten -/
example : MirrorList 3 [.bound { l := .some (-1), r := .some (-1) }, .filler [0x78], .bound { l := .some (-3), r := .some 2 }]
    [.bound { l := .some 3, r := .some 3 }, .filler [0x78], .bound { l := .some (-3), r := .some 2 }] :=
  .bound ⟨MirrorSide.flip 1 (by omega) (by omega), MirrorSide.flip 1 (by omega) (by omega), rfl, rfl⟩
    (.filler _ (.bound ⟨.same _, .same _, rfl, rfl⟩ .nil))

end Tuc
