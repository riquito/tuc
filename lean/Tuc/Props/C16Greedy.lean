import Tuc.Model.CutStr
import Tuc.Model.Regex
import Tuc.Spec.RegexSpec
import Tuc.Lemmas.RegexSpec
import Tuc.Props.C16
/-!
# C16, the `-g -r R` instance — a regex delimiter with `-g` and a replacement

`cut_str` with `-e RE -g -r R` (no `-p`): the fields are the gaps of `(RE)+`, but every printed
range is matched again with `RE` (not `(RE)+`) and every match is replaced by `R`.  The
specification (`tokenizeRe … true`) says: a separator is a match of `(RE)+`, it counts for the
matches of `RE` inside it and is rendered as that many `R`.

The two agree as soon as the two match lists are related the way `RE` and `(RE)+` are
(`GreedyTiled`): every match of `(RE)+` is tiled exactly by consecutive matches of `RE`, and no
match of `RE` lies outside the matches of `(RE)+`.  That is proved for one-byte expressions of the
Lean matcher (`OneByte.greedyTiled`) and measured on the real engine's match lists by the C16 check.
The other hypothesis of the replacement theorem, `SliceStable`, is discharged for the same expressions
(`OneByte.sliceStable`), so `regexCut_replace_greedy_oneByte` has no hypothesis on the matcher left.
-/
namespace Tuc
open Tuc.Spec

def greedyTiledListsB (normal greedy : List (Nat × Nat)) : Bool :=
  (normal.all fun m => greedy.any fun g => decide (g.1 ≤ m.1 ∧ m.2 ≤ g.2)) &&
    greedy.all fun g => decide (Tiles g.1 g.2 (normal.filter fun m => decide (g.1 ≤ m.1 ∧ m.2 ≤ g.2)))

theorem greedyTiledListsB_sound (normal greedy : List (Nat × Nat))
    (h : greedyTiledListsB normal greedy = true) : GreedyTiledLists normal greedy := by
  unfold greedyTiledListsB at h
  rw [Bool.and_eq_true] at h
  constructor
  · intro m hm
    have h1 := List.all_eq_true.mp h.1 m hm
    obtain ⟨g, hg, h2⟩ := List.any_eq_true.mp h1
    exact ⟨g, hg, of_decide_eq_true h2⟩
  · intro g hg
    exact of_decide_eq_true (List.all_eq_true.mp h.2 g hg)

def greedyTiledB (bag : RegexBag) (s : Bytes) : Bool :=
  greedyTiledListsB (bag.normal s) (bag.greedy s)

theorem greedyTiledB_sound (bag : RegexBag) (s : Bytes) (h : greedyTiledB bag s = true) :
    GreedyTiled bag s := greedyTiledListsB_sound _ _ h

/-- **C16, `-g -r R` (no `-p`).**  The fields are the gaps of `(RE)+`; every printed range is
    matched again — with `RE`, not `(RE)+` — and every match is replaced by the literal bytes `R`.
    Under the hypotheses of `regexCut_replace_eq_spec` (non-empty matches of `RE`, `SliceStable`)
    and `GreedyTiled` (the matches of `(RE)+` over the record after `-t` are tiled exactly by the
    matches of `RE`, and no match of `RE` lies outside them), this is the specification: a
    separator is rendered as `R` once per match of `RE` it is made of; with `-j` the joiner is `R`
    too; any of `-t -s -m`, fallbacks, fillers. -/
theorem regexCut_replace_greedy_eq_spec (opt : Opt) (bag : RegexBag) (line : Bytes) (R : Bytes)
    (hre : opt.regexBag = Option.some bag) (hok : bag.OK)
    (hr : opt.replaceDelimiter = Option.some R) (hp : opt.compressDelimiter = false)
    (hg : opt.greedyDelimiter = true)
    (hjson : opt.json = false) (hty : opt.boundsType = .fields ∨ opt.boundsType = .lines)
    (hz : AllNonzero opt.bounds.list) (hL : LastMarked opt.bounds.list)
    (hstrict : StrictMatches (trimmedRe opt bag line).length 0 (bag.normal (trimmedRe opt bag line)))
    (hstable : SliceStable bag (trimmedRe opt bag line))
    (htiled : GreedyTiled bag (trimmedRe opt bag line)) :
    (cutStrCore line opt [opt.eol.byte]).1 = specRecordRe (cfgOf opt) bag line := by
  refine cutStr_regex_replace_eq_spec_of opt bag line R _ _ rfl rfl hre hok hr hp hty hz hL hstrict
    hstable ?_
  rw [hg]
  exact htiled

/-! ## the executable matcher on one-byte expressions (`-`, `[-,]`, …) is `GreedyTiled`

For an expression that matches exactly one byte out of a set — a literal ASCII character, a class,
an alternation of those (what `Re.parse` returns for `[-,]`) — the matches of `(RE)+` are the
maximal runs of such bytes and the matches of `RE` the bytes themselves: `GreedyTiled` holds on
every record. -/

/-- `r` matches exactly one byte, those satisfying `p` -/
structure OneByte (r : Re) (p : UInt8 → Bool) : Prop where
  cons : ∀ f x t k, Re.run f r (x :: t) k = if p x = true then k t else none
  nil : ∀ f k, Re.run f r [] k = none

theorem OneByte.byte (b : UInt8) : OneByte (.byte b) (fun x => decide (x = b)) := by
  constructor
  · intro f x t k; simp [Re.run]
  · intro f k; simp [Re.run]

theorem OneByte.cls (bs : List UInt8) : OneByte (.cls bs) (fun x => bs.contains x) := by
  constructor
  · intro f x t k; simp [Re.run]
  · intro f k; simp [Re.run]

theorem OneByte.alt {a b : Re} {p q : UInt8 → Bool} (ha : OneByte a p) (hb : OneByte b q) :
    OneByte (.alt a b) (fun x => p x || q x) := by
  constructor
  · intro f x t k
    rw [Re.run, ha.cons, hb.cons]
    cases p x <;> cases q x <;> cases k t <;> simp
  · intro f k
    rw [Re.run, ha.nil, hb.nil]

/-- the matches of a one-byte expression: every byte satisfying `p` -/
def singles (p : UInt8 → Bool) : Nat → Bytes → List (Nat × Nat)
  | _, [] => []
  | pos, x :: t => if p x = true then (pos, pos + 1) :: singles p (pos + 1) t else singles p (pos + 1) t

theorem OneByte.matchLen_cons {r : Re} {p : UInt8 → Bool} (h : OneByte r p) (x : UInt8) (t : Bytes) :
    r.matchLen (x :: t) = if p x = true then Option.some 1 else none := by
  unfold Re.matchLen
  rw [h.cons]
  cases p x <;> simp

theorem OneByte.findIterAux_eq {r : Re} {p : UInt8 → Bool} (h : OneByte r p) :
    ∀ (s : Bytes) (pos : Nat), Re.findIterAux r 0 pos s = singles p pos s
  | [], _ => rfl
  | x :: t, pos => by
    simp only [Re.findIterAux, singles, h.matchLen_cons]
    cases hp : p x
    · simp [h.findIterAux_eq t (pos + 1)]
    · simp [h.findIterAux_eq t (pos + 1)]

theorem OneByte.run_plus {r : Re} {p : UInt8 → Bool} (h : OneByte r p) :
    ∀ (s : Bytes) (f : Nat), s.length < f →
      Re.run f (.plus r) s Option.some =
        match s with
        | [] => none
        | x :: t => if p x = true then Option.some (t.dropWhile p) else none
  | [], f, hf => by
    obtain ⟨f', rfl⟩ : ∃ f', f = f' + 1 := ⟨f - 1, by omega⟩
    rw [Re.run, h.nil]
  | x :: t, f, hf => by
    obtain ⟨f', rfl⟩ : ∃ f', f = f' + 1 := ⟨f - 1, by simp at hf; omega⟩
    have hf' : t.length < f' := by simp at hf; omega
    rw [Re.run, h.cons]
    have ih := h.run_plus t f' hf'
    cases hp : p x
    · simp [hp]
    · simp only [if_true, List.length_cons, Nat.lt_succ_self]
      rw [ih]
      cases t with
      | nil => simp [hp]
      | cons y t' =>
        cases hy : p y <;> simp [List.dropWhile, hy, hp]

theorem OneByte.matchLen_plus {r : Re} {p : UInt8 → Bool} (h : OneByte r p) (x : UInt8) (t : Bytes) :
    (Re.plus r).matchLen (x :: t) =
      if p x = true then Option.some ((t.takeWhile p).length + 1) else none := by
  unfold Re.matchLen
  rw [h.run_plus (x :: t) _ (Nat.lt_succ_self _)]
  have := congrArg List.length (List.takeWhile_append_dropWhile (p := p) (l := t))
  simp only [List.length_append] at this
  cases hp : p x
  · simp [hp]
  · simp only [hp, if_true, Option.map_some, List.length_cons, Option.some.injEq]
    omega

theorem Re.findIterAux_skip (r : Re) : ∀ (k : Nat) (s : Bytes) (pos : Nat),
    Re.findIterAux r k pos s = Re.findIterAux r 0 (pos + k) (s.drop k)
  | 0, s, pos => rfl
  | k + 1, [], pos => by simp [Re.findIterAux]
  | k + 1, x :: t, pos => by
    simp only [Re.findIterAux, List.drop_succ_cons]
    rw [Re.findIterAux_skip r k t (pos + 1)]
    congr 1
    omega

theorem singles_append (p : UInt8 → Bool) : ∀ (u v : Bytes) (pos : Nat),
    singles p pos (u ++ v) = singles p pos u ++ singles p (pos + u.length) v
  | [], v, pos => by simp [singles]
  | x :: u, v, pos => by
    have e : pos + 1 + u.length = pos + (u.length + 1) := by omega
    cases hp : p x <;> simp [singles, hp, singles_append p u v (pos + 1), e]

theorem singles_tiles (p : UInt8 → Bool) : ∀ (u : Bytes) (pos : Nat), (∀ x ∈ u, p x = true) →
    Tiles pos (pos + u.length) (singles p pos u)
  | [], pos, _ => by simp [singles, Tiles]
  | x :: u, pos, h => by
    have hx := h x (List.mem_cons_self ..)
    have ih := singles_tiles p u (pos + 1) (fun y hy => h y (List.mem_cons_of_mem _ hy))
    have e : pos + 1 + u.length = pos + (u.length + 1) := by omega
    rw [e] at ih
    simp only [singles, hx, if_true, List.length_cons]
    exact ⟨rfl, ih⟩

theorem singles_mem (p : UInt8 → Bool) : ∀ (u : Bytes) (pos : Nat), ∀ m ∈ singles p pos u,
    pos ≤ m.1 ∧ m.2 = m.1 + 1 ∧ m.2 ≤ pos + u.length
  | [], _, m, hm => by cases hm
  | x :: u, pos, m, hm => by
    have ih := singles_mem p u (pos + 1) m
    simp only [List.length_cons]
    cases hp : p x
    · simp only [singles, hp, Bool.false_eq_true, if_false] at hm
      have := ih hm
      omega
    · simp only [singles, hp, if_true] at hm
      rcases List.mem_cons.mp hm with rfl | hm
      · exact ⟨Nat.le_refl _, rfl, by show pos + 1 ≤ pos + (u.length + 1); omega⟩
      · have := ih hm
        omega

/-- the matches of `(r)+` for a one-byte `r` are tiled by the single bytes: along the scan, a run
    `x :: u` gives one match of `(r)+`, tiled by the singles of `x :: u`; what follows the run
    starts beyond it -/
theorem OneByte.tiled {r : Re} {p : UInt8 → Bool} (h : OneByte r p) :
    ∀ (n : Nat) (s : Bytes) (pos : Nat), s.length ≤ n →
      GreedyTiledLists (singles p pos s) (Re.findIterAux (.plus r) 0 pos s)
  | _, [], _, _ => ⟨nofun, nofun⟩
  | 0, x :: t, _, hn => by simp at hn
  | n + 1, x :: t, pos, hn => by
    have hn' : t.length ≤ n := by simpa using hn
    simp only [Re.findIterAux, h.matchLen_plus]
    cases hp : p x
    · simp only [singles, hp, Bool.false_eq_true, if_false]
      exact h.tiled n t (pos + 1) hn'
    · simp only [singles, hp, if_true]
      rw [Re.findIterAux_skip]
      -- `t = u ++ v`, `u` the bytes of the run after `x`, `v` what follows the run
      have hall : ∀ y ∈ t.takeWhile p, p y = true :=
        fun y hy => List.all_eq_true.mp List.all_takeWhile y hy
      have hsplit := List.takeWhile_append_dropWhile (p := p) (l := t)
      generalize t.takeWhile p = u at hall hsplit ⊢
      generalize t.dropWhile p = v at hsplit
      subst hsplit
      have hv : v.length ≤ n := by rw [List.length_append] at hn'; omega
      rw [List.drop_left, singles_append]
      have ih := h.tiled n v (pos + 1 + u.length) hv
      have hT : Tiles pos (pos + 1 + u.length) ((pos, pos + 1) :: singles p (pos + 1) u) :=
        ⟨rfl, singles_tiles p u (pos + 1) hall⟩
      have hu := singles_mem p u (pos + 1)
      have hN' := singles_mem p v (pos + 1 + u.length)
      have hG' := (Re.findIterAux_ok (.plus r) v 0 (pos + 1 + u.length) (Nat.zero_le _)).mem
      have hTin : ∀ m ∈ (pos, pos + 1) :: singles p (pos + 1) u,
          pos ≤ m.1 ∧ m.1 < m.2 ∧ m.2 ≤ pos + 1 + u.length := by
        intro m hm
        rcases List.mem_cons.mp hm with rfl | hm
        · simp only; omega
        · have := hu m hm; omega
      rw [show pos + u.length + 1 = pos + 1 + u.length by omega, ← List.cons_append]
      constructor
      · intro m hm
        rcases List.mem_append.mp hm with hm | hm
        · exact ⟨_, List.mem_cons_self .., (hTin m hm).1, (hTin m hm).2.2⟩
        · obtain ⟨g, hg, hgm⟩ := ih.covered m hm
          exact ⟨g, List.mem_cons_of_mem _ hg, hgm⟩
      · intro g hg
        rw [List.filter_append]
        rcases List.mem_cons.mp hg with rfl | hg
        · -- the singles of the run lie inside it, what follows does not
          rw [List.filter_eq_self.mpr fun m hm => decide_eq_true ⟨(hTin m hm).1, (hTin m hm).2.2⟩,
            List.filter_eq_nil_iff.mpr, List.append_nil]
          · exact hT
          · intro m hm hpm
            have := hN' m hm
            have := of_decide_eq_true hpm
            omega
        · rw [List.filter_eq_nil_iff.mpr, List.nil_append]
          · exact ih.tiled g hg
          · intro m hm hpm
            have := hTin m hm
            have := hG' g hg
            have := of_decide_eq_true hpm
            omega

theorem OneByte.greedyTiled {r : Re} {p : UInt8 → Bool} (h : OneByte r p) (s : Bytes) :
    GreedyTiled (Re.bag r) s := by
  have := h.tiled s.length s 0 (Nat.le_refl _)
  rwa [← h.findIterAux_eq] at this

theorem singles_shift (p : UInt8 → Bool) (a : Nat) : ∀ (u : Bytes) (pos : Nat),
    (singles p (pos + a) u).map (fun m => (m.1 - a, m.2 - a)) = singles p pos u
  | [], _ => rfl
  | x :: u, pos => by
    have ih := singles_shift p a u (pos + 1)
    have e : pos + 1 + a = pos + a + 1 := by omega
    rw [e] at ih
    have e1 : pos + a - a = pos := by omega
    have e2 : pos + a + 1 - a = pos + 1 := by omega
    cases hp : p x <;> simp [singles, hp, ih, e1, e2]

theorem singles_middle (p : UInt8 → Bool) (l1 l2 l3 : Bytes) :
    insideShift (singles p 0 (l1 ++ (l2 ++ l3))) l1.length (l1.length + l2.length) =
      singles p 0 l2 := by
  unfold insideShift
  -- of the matches of the three parts, the window keeps exactly those of the middle one
  rw [singles_append, singles_append, List.filter_append, List.filter_append,
    List.filter_eq_nil_iff.mpr, List.filter_eq_self.mpr, List.filter_eq_nil_iff.mpr,
    List.append_nil, List.nil_append]
  · exact singles_shift p l1.length l2 0
  · intro m hm hpm
    have := singles_mem p l3 _ m hm
    have := of_decide_eq_true hpm
    omega
  · intro m hm
    have := singles_mem p l2 _ m hm
    exact decide_eq_true (by omega)
  · intro m hm hpm
    have := singles_mem p l1 0 m hm
    have := of_decide_eq_true hpm
    omega

theorem singles_slice (p : UInt8 → Bool) (line : Bytes) (a b : Nat) (hab : a ≤ b)
    (hb : b ≤ line.length) :
    singles p 0 (slice line a b) = insideShift (singles p 0 line) a b := by
  have e : line.take a ++ (slice line a b ++ line.drop b) = line := by
    rw [← slice_to_end line b, slice_append_slice line hab hb, slice_to_end, List.take_append_drop]
  have la : (line.take a).length = a := by
    rw [List.length_take, Nat.min_eq_left (Nat.le_trans hab hb)]
  have lb : (slice line a b).length = b - a := by
    rw [slice_length, Nat.min_eq_left (Nat.sub_le_sub_right hb a)]
  have := singles_middle p (line.take a) (slice line a b) (line.drop b)
  rw [e, la, lb] at this
  have e2 : a + (b - a) = b := by omega
  rw [e2] at this
  exact this.symm

/-- **the bag of a one-byte expression is `SliceStable` on every record** (for the Lean matcher
    this is a theorem; for the real engine it remains the tested hypothesis) -/
theorem OneByte.sliceStable {r : Re} {p : UInt8 → Bool} (h : OneByte r p) (line : Bytes) :
    SliceStable (Re.bag r) line := by
  intro a b _ hb hab
  have hble : b ≤ line.length := by
    rcases hb with rfl | ⟨m, hm, rfl⟩
    · exact Nat.le_refl _
    · rcases List.mem_append.mp hm with hm | hm
      · have := (Re.findIter_ok r line).mem m hm
        omega
      · have := (Re.findIter_ok (.plus r) line).mem m hm
        omega
  show Re.findIterAux r 0 0 (slice line a b) = insideShift (Re.findIterAux r 0 0 line) a b
  rw [h.findIterAux_eq, h.findIterAux_eq]
  exact singles_slice p line a b hab hble

/-- **C16, `-g -r R`, one-byte expressions, no hypothesis left on the matcher**: with the
    executable matcher of `Tuc.Model.Regex` and an expression matching one byte out of a set
    (`-e '-'`, `-e '[-,]'`, `-e ' |\t'` …), `cut_str` with `-g -r R` is the specification — on
    every record, with any of `-t -s -m -j`, fallbacks, fillers. -/
theorem regexCut_replace_greedy_oneByte (opt : Opt) (r : Re) (p : UInt8 → Bool) (h1 : OneByte r p)
    (line : Bytes) (R : Bytes)
    (hre : opt.regexBag = Option.some (Re.bag r))
    (hr : opt.replaceDelimiter = Option.some R) (hp : opt.compressDelimiter = false)
    (hg : opt.greedyDelimiter = true)
    (hjson : opt.json = false) (hty : opt.boundsType = .fields ∨ opt.boundsType = .lines)
    (hz : AllNonzero opt.bounds.list) (hL : LastMarked opt.bounds.list) :
    (cutStrCore line opt [opt.eol.byte]).1 = specRecordRe (cfgOf opt) (Re.bag r) line :=
  regexCut_replace_greedy_eq_spec opt (Re.bag r) line R hre (Re.bag_ok r) hr hp hg hjson hty hz hL
    (Re.findIter_ok r _) (h1.sliceStable _) (h1.greedyTiled _)

theorem reDashComma_oneByte :
    OneByte reDashComma (fun x => decide (x = 45) || decide (x = 44)) :=
  (OneByte.byte 45).alt (OneByte.byte 44)

/-- the example of `Tuc.Props.C16` (`-e '[-,]' -g -r R -f 2:3`) on EVERY record and for every
    replacement `R` -/
theorem exOpt_greedy_replace_eq_spec (line R : Bytes) :
    (cutStrCore line (exOptRe true (Option.some R)) [10]).1 =
      specRecordRe (cfgOf (exOptRe true (Option.some R))) (Re.bag reDashComma) line :=
  regexCut_replace_greedy_oneByte (exOptRe true (Option.some R)) reDashComma _ reDashComma_oneByte
    line R rfl rfl rfl rfl rfl (Or.inl rfl)
    (by
      intro b hb
      simp only [exOptRe, List.mem_singleton, BoF.bound.injEq] at hb
      subst hb
      exact ⟨by simp [Side.Nonzero], by simp [Side.Nonzero]⟩)
    (by simp [exOptRe, LastMarked, countBounds])

/-! ## non-vacuity: `-e '-' -g -r '::' -f 1:3` on `a--b-c`

All the hypotheses of the theorem hold for the executable matcher of `Tuc.Model.Regex` on a record
with a run of two matches, and the conclusion is the expected text `a::::b::c`. -/

/-- `a--b-c` -/
def gLine : Bytes := [97, 45, 45, 98, 45, 99]

/-- `-e '-' -g -r '::' -f 1:3` -/
def gOpt : Opt :=
  { delimiter := [], bounds := ⟨[.bound { l := .some 1, r := .some 3, isLast := true }], .some 3⟩,
    greedyDelimiter := true, replaceDelimiter := Option.some [58, 58],
    regexBag := Option.some (Re.bag (.byte 45)) }

#guard reprStr (Re.parse "-".toList) == reprStr (Option.some (Re.byte 45))

/-- the hypotheses of `regexCut_replace_greedy_eq_spec` are satisfiable: here they all hold -/
theorem gExample_eq_spec :
    (cutStrCore gLine gOpt [10]).1 = specRecordRe (cfgOf gOpt) (Re.bag (.byte 45)) gLine :=
  regexCut_replace_greedy_eq_spec gOpt (Re.bag (.byte 45)) gLine [58, 58] rfl (Re.bag_ok _) rfl rfl
    rfl rfl (Or.inl rfl)
    (by
      intro b hb
      simp only [gOpt, List.mem_singleton, BoF.bound.injEq] at hb
      subst hb
      exact ⟨by simp [Side.Nonzero], by simp [Side.Nonzero]⟩)
    (by simp [gOpt, LastMarked, countBounds])
    (Re.findIter_ok _ _) ((OneByte.byte 45).sliceStable gLine)
    ((OneByte.byte 45).greedyTiled gLine)

/-- … and both sides are `a::::b::c` + eol: the separator `--` counts for two matches -/
example : (cutStrCore gLine gOpt [10]).1 =
    Run.ok [97, 58, 58, 58, 58, 98, 58, 58, 99, 10] := by
  simp [cutStrCore, gOpt, gLine, Re.bag, Re.findIter, Re.findIterAux, Re.matchLen,
    Re.run_byte_cons, Re.run_plus_cons,
    fillWithFieldsLocationsUsingRegex, rangesBetweenMatches, emitRecord, outputLoop,
    outputBof, UserBounds.tryIntoRange, rangeStart, rangeEnd, writeMaybeAsJson,
    maybeReplaceDelimiter, replaceMatches, slice, Run.seq, Run.ok, Run.empty]

/-! ## `GreedyTiled`: tested beyond one-byte expressions, and necessary

`greedyTiledB` is the Boolean form of the hypothesis for one matcher and one record.  The Lean matcher passes on
every record tried also for expressions whose matches have different lengths (alternations whose
branches are prefixes of one another, a `+` inside): with leftmost-first semantics `(RE)+` repeats
the match `RE` alone would find. -/

#guard (allLines [97, 45, 44] 5).all (greedyTiledB (bagOfString "[-,]"))
#guard (allLines [97, 98, 99] 5).all (greedyTiledB (bagOfString "ab|a"))
#guard (allLines [97, 98, 99] 5).all (greedyTiledB (bagOfString "a|ab"))
#guard (allLines [97, 98] 6).all (greedyTiledB (bagOfString "aa|a"))
#guard (allLines [97, 98, 99] 5).all (greedyTiledB (bagOfString "a(b|bc)|c"))
#guard (allLines [97, 98, 99] 6).all (greedyTiledB (bagOfString "a+b|a"))
#guard (allLines [97, 98, 99] 6).all (greedyTiledB (bagOfString "(a|ab)(c|bc)|b"))

/-- a bag that is NOT an `(RE, (RE)+)` pair: `normal` is `--`, `greedy` is `-+`.  Both matchers
    honour the contract of `find_iter` (`Re.findIter_ok`) and the bag is slice-stable on the record `a-b`
    used below, but there the run `-` is not tiled by matches of `--` -/
def oddBag : RegexBag :=
  { normal := (Re.seq (.byte 45) (.byte 45)).findIter, greedy := (Re.plus (.byte 45)).findIter }

/-- `-g -r '::' -f 1:` with that bag -/
def oddOpt : Opt :=
  { gOpt with regexBag := Option.some oddBag,
              bounds := ⟨[.bound { l := .some 1, r := .cont, isLast := true }], .cont⟩ }

/- `GreedyTiled` cannot be dropped from `regexCut_replace_greedy_eq_spec`: here every other
   hypothesis holds (`SliceStable` by `sliceStableB_sound` and the `#guard` below; the contract holds
   for every `Re`, `Re.findIter_ok`), the engine prints
   `a-b` (the printed range is matched again with `normal`, which finds nothing) and the
   specification `ab` (a separator made of zero matches). -/
#guard !greedyTiledB oddBag [97, 45, 98]
#guard sliceStableB oddBag [97, 45, 98]
#guard (cutStrCore [97, 45, 98] oddOpt [10]).1 == Run.ok [97, 45, 98, 10]
#guard specRecordRe (cfgOf oddOpt) oddBag [97, 45, 98] == Run.ok [97, 98, 10]

end Tuc
