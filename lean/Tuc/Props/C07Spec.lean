import Tuc.Lemmas.CutStrSpec
import Tuc.Props.C07
/-!
# C07, the engine — with the options of `-c`, character mode is `specRecord` on every valid UTF-8 record

With the `\b|\B` bag (`charsBag`) the field vector that `cut_str` builds for a non-empty record of
valid UTF-8 is `rangesOfChars 0 cs` — one range per scalar value, in order; `--trim` is the identity
in this mode.  These ranges are a `GSep` whose separators are empty (`rangesOfChars_gsep`), so what
holds of the ranges of the field splitters holds of them.  The output stage (`-m`, range expansion,
fallbacks, fillers, `--json`) then prints what `Tuc.Spec.specRecord` says, whose tokens in character
mode are the scalar values themselves (`tokenizeChars`) — for `--json` or a replacement of the
(empty) separators (`parse_args` sets `-r ''` for `-c`), `-p` / `-j` only with a replacement, and a
bounds list with no index 0 and `is_last` on its last bound (`chars_record_eq_spec_gen`).  Hence,
without `--json`, the run writes valid UTF-8 whenever the input and the texts of the request are
(`chars_output_valid`).

That `charMatches` is what the real regex engine returns for `\b|\B` is validated by the
correspondence check of C07, not proved here (the regex engine is in the trusted base).
-/
namespace Tuc
open Tuc.Spec

/-- consecutive ranges of the characters, starting at `pos` -/
def rangesOfChars : Nat → List Bytes → List Range
  | _, [] => []
  | pos, c :: t => ⟨pos, pos + c.length⟩ :: rangesOfChars (pos + c.length) t

theorem rangesOfChars_length (pos : Nat) (cs : List Bytes) :
    (rangesOfChars pos cs).length = cs.length := by
  induction cs generalizing pos with
  | nil => rfl
  | cons c t ih => simp [rangesOfChars, ih]

theorem rangesBetweenMatches_boundaries (L : Nat) (cs : List Bytes) : ∀ (prev pos : Nat),
    rangesBetweenMatches L prev ((boundariesFrom pos cs).map fun p => (p, p)) =
      ⟨prev, pos⟩ :: (rangesOfChars pos cs ++ [⟨pos + cs.flatten.length, L⟩]) := by
  induction cs with
  | nil => intro prev pos; simp [boundariesFrom, rangesBetweenMatches, rangesOfChars]
  | cons c t ih =>
    intro prev pos
    simp only [boundariesFrom, List.map_cons, rangesBetweenMatches, ih, rangesOfChars,
      List.flatten_cons, List.length_append, List.cons_append, Nat.add_assoc]

theorem fill_charMatches (line : Bytes) (cs : List Bytes) (hne : line ≠ [])
    (hcs : utf8Chars line = some cs) :
    fillWithFieldsLocationsUsingRegex [] line (charMatches line) =
      ⟨0, 0⟩ :: (rangesOfChars 0 cs ++ [⟨line.length, line.length⟩]) := by
  have hf := utf8Chars_flatten line cs hcs
  unfold fillWithFieldsLocationsUsingRegex charMatches
  rw [hcs]
  simp only [List.isEmpty_iff, hne, if_false]
  rw [rangesBetweenMatches_boundaries, hf, Nat.zero_add]

/-- **the fields of character mode are exactly the scalar values of the record, in order**: `cut_str`
    drops the first and the last entry of the vector of `fill_with_fields_locations_using_regex` -/
theorem charFields (line : Bytes) (cs : List Bytes) (hne : line ≠ [])
    (hcs : utf8Chars line = some cs) :
    (fillWithFieldsLocationsUsingRegex [] line (charMatches line)).length > 2 ∧
    (fillWithFieldsLocationsUsingRegex [] line (charMatches line)).dropLast.drop 1 =
      rangesOfChars 0 cs := by
  rw [fill_charMatches line cs hne hcs]
  have hcs' : cs ≠ [] := by
    rintro rfl
    exact hne (utf8Chars_flatten line [] hcs).symm
  constructor
  · have : cs.length > 0 := List.length_pos_iff.2 hcs'
    simp [rangesOfChars_length]; omega
  · rw [← List.cons_append, List.dropLast_concat]; rfl

theorem rangesOfChars_gsep (d : Bytes) : ∀ (cs : List Bytes) (pre : Bytes),
    GSep d (pre ++ cs.flatten) pre.length (rangesOfChars pre.length cs) (cs.map fun c => (0, c))
  | [], pre => by simp [GSep, rangesOfChars]
  | c :: t, pre => by
    have ih := rangesOfChars_gsep d t (pre ++ c)
    rw [List.length_append, List.append_assoc] at ih
    exact ⟨by simp, by simp [slice_self, repeatBytes], Nat.le_add_right _ _, by simp [slice], ih⟩

theorem chars_gsep (d line : Bytes) (cs : List Bytes) (hcs : utf8Chars line = some cs) :
    GSep d line 0 (rangesOfChars 0 cs) (cs.map fun c => (0, c)) := by
  have := rangesOfChars_gsep d cs []
  rwa [List.length_nil, List.nil_append, utf8Chars_flatten line cs hcs] at this

/-- every range of the field vector cuts out exactly its character -/
theorem slice_rangesOfChars (line : Bytes) (cs : List Bytes) (hcs : utf8Chars line = some cs) :
    (rangesOfChars 0 cs).map (fun r => slice line r.start r.stop) = cs := by
  have := (chars_gsep [] line cs hcs).contents_eq
  simpa [contents, Function.comp_def] using this

theorem piece_of_chars (sf : Nat × Bytes → Bytes) (h : ∀ g, sf (0, g) = g) (xs : List Bytes) :
    (match xs.map (fun x => ((0 : Nat), x)) with
      | [] => []
      | (_, f) :: more => f ++ more.flatMap sf) = xs.flatten := by
  cases xs with
  | nil => rfl
  | cons x t =>
    simp only [List.map_cons, List.flatten_cons]
    congr 1
    induction t with
    | nil => rfl
    | cons y t ih => simp only [List.map_cons, List.flatMap_cons, List.flatten_cons, h, ih]

/-- **character mode never splits a scalar value**: the bytes that the output loop writes for
    the characters `a+1 ..= b+1` (`fields[a].start .. fields[b].end`, `outputBof`) are exactly
    the whole characters `a+1 ..= b+1` of the record, and the slice is in range (no panic) -/
theorem charRange_slice (line : Bytes) (cs : List Bytes) (hcs : utf8Chars line = some cs)
    (a b : Nat) (hab : a ≤ b) (hb : b < (rangesOfChars 0 cs).length) :
    ((rangesOfChars 0 cs)[a]'(by omega)).start ≤ (rangesOfChars 0 cs)[b].stop ∧
      (rangesOfChars 0 cs)[b].stop ≤ line.length ∧
      slice line ((rangesOfChars 0 cs)[a]'(by omega)).start (rangesOfChars 0 cs)[b].stop =
        (slice cs a (b + 1)).flatten := by
  obtain ⟨h1, h2, h3⟩ := (chars_gsep [] line cs hcs).range a b hab hb
  refine ⟨h1, h2, ?_⟩
  rw [h3, ← List.map_drop, ← List.map_take]
  refine (piece_of_chars (sepField []) (fun _ => rfl) _).trans ?_
  unfold slice
  rw [show b + 1 - a = b - a + 1 by omega]

/-- what is written for a range of characters is valid UTF-8 and decodes to exactly the selected
    characters -/
theorem charRange_valid (line : Bytes) (cs : List Bytes) (hcs : utf8Chars line = some cs)
    (s e : Nat) (hse : s < e) (he : e ≤ cs.length) (fs fe : Range)
    (hs : (rangesOfChars 0 cs)[s]? = some fs) (hfe : (rangesOfChars 0 cs)[e - 1]? = some fe) :
    utf8Chars (slice line fs.start fe.stop) = some (slice cs s e) := by
  have hlen := rangesOfChars_length 0 cs
  obtain ⟨_, rfl⟩ := List.getElem?_eq_some_iff.1 hs
  obtain ⟨_, rfl⟩ := List.getElem?_eq_some_iff.1 hfe
  rw [(charRange_slice line cs hcs s (e - 1) (by omega) (by omega)).2.2,
    show e - 1 + 1 = e by omega]
  apply utf8Chars_of_chars
  intro c hc
  exact utf8Chars_each line cs hcs c (List.mem_of_mem_drop (List.mem_of_mem_take hc))

/-- "aé€😎": the field vector of character mode, and the text of characters 2–3 -/
example :
    (fillWithFieldsLocationsUsingRegex [] [0x61,0xC3,0xA9,0xE2,0x82,0xAC,0xF0,0x9F,0x98,0x8E]
      (charMatches [0x61,0xC3,0xA9,0xE2,0x82,0xAC,0xF0,0x9F,0x98,0x8E])).dropLast.drop 1 =
      [⟨0, 1⟩, ⟨1, 3⟩, ⟨3, 6⟩, ⟨6, 10⟩] ∧
    slice [0x61,0xC3,0xA9,0xE2,0x82,0xAC,0xF0,0x9F,0x98,0x8E] 1 6 = [0xC3,0xA9,0xE2,0x82,0xAC] := by
  decide

theorem boundariesFrom_head? (cs : List Bytes) (pos : Nat) :
    (boundariesFrom pos cs).head? = some pos := by
  cases cs <;> rfl

theorem boundariesFrom_getLast? (cs : List Bytes) : ∀ pos : Nat,
    (boundariesFrom pos cs).getLast? = some (pos + cs.flatten.length) := by
  induction cs with
  | nil => intro pos; simp [boundariesFrom]
  | cons c t ih =>
    intro pos
    have hne : boundariesFrom (pos + c.length) t ≠ [] := by cases t <;> simp [boundariesFrom]
    obtain ⟨x, l, hl⟩ := List.exists_cons_of_ne_nil hne
    have := ih (pos + c.length)
    rw [boundariesFrom, hl, List.getLast?_cons_cons, ← hl, this]
    simp [Nat.add_assoc]

/-- `--trim` is the identity in character mode: the matches touching the ends are empty -/
theorem trimRegex_charMatches (line : Bytes) (cs : List Bytes) (k : TrimKind)
    (hcs : utf8Chars line = some cs) : trimRegex line k (charMatches line) = line := by
  have hf := utf8Chars_flatten line cs hcs
  have hh : (charMatches line).head? = some (0, 0) := by
    simp [charMatches, hcs, List.head?_map, boundariesFrom_head?]
  have hl : (charMatches line).getLast? = some (line.length, line.length) := by
    simp [charMatches, hcs, List.getLast?_map, boundariesFrom_getLast?, hf]
  unfold trimRegex
  rw [hh, hl]
  simp [slice]

/-- the stages of `cut_str` (`cutStrCore_eq`) in character mode, on a record of valid UTF-8: the two
    guards against `-p` / `-j` without a replacement do not fire (`hguard`), `-t` removes nothing,
    there is no `-p` step outside field / line mode, and the field vector handed to the output stage
    is the list of the scalar values of the record -/
theorem cutStrCore_chars (line : Bytes) (opt : Opt) (eol : Bytes) (cs : List Bytes)
    (hbt : opt.boundsType = .characters) (hbag : opt.regexBag = some charsBag)
    (hguard : (opt.compressDelimiter || opt.join) = true → opt.replaceDelimiter.isSome = true)
    (hcs : utf8Chars line = some cs) :
    (cutStrCore line opt eol).1 =
      if line.isEmpty then (if !opt.onlyDelimited then Run.ok eol else Run.empty)
      else emitRecord line (rangesOfChars 0 cs) opt false eol := by
  have ht : trimOf opt line = line := by
    unfold trimOf
    rw [hbag]
    cases opt.trim with
    | none => rfl
    | some k => exact trimRegex_charMatches line cs k hcs
  have hg1 : (opt.regexBag.isSome && opt.compressDelimiter && opt.replaceDelimiter.isNone) = false := by
    cases hp : opt.compressDelimiter <;> cases hr : opt.replaceDelimiter <;> simp [hp, hr] at hguard ⊢
  have hg2 : (opt.regexBag.isSome && opt.join && opt.replaceDelimiter.isNone) = false := by
    cases hj : opt.join <;> cases hr : opt.replaceDelimiter <;> simp [hj, hr] at hguard ⊢
  rw [cutStrCore_eq, hg1, hg2, ht]
  simp only [Bool.false_eq_true, if_false]
  unfold afterTrim
  by_cases he : line.isEmpty = true
  · rw [if_pos he, if_pos he]
  · obtain ⟨hlen, hfields⟩ := charFields line cs (by simpa using he) hcs
    have hf : engineFields opt line opt.delimiter true = rangesOfChars 0 cs := by
      unfold engineFields
      simp only [hbag, show charsBag.greedy = charMatches from rfl, show charsBag.normal = charMatches from rfl,
        ite_self, hbt, decide_true, Bool.true_and, decide_eq_true hlen, if_true, hfields]
    rw [if_neg he, if_neg he]
    simp only [compressOf, hbt, reduceCtorEq, decide_false, Bool.or_self, Bool.and_false, Bool.false_eq_true,
      if_false, hbag, Option.isSome_some, hf]

def charTok (c : Bytes) (cs : List Bytes) : Tok := ⟨c, cs.map fun x => (0, x)⟩

theorem tokenizeChars_eq (line c : Bytes) (cs : List Bytes) (h : utf8Chars line = some (c :: cs)) :
    tokenizeChars line = some (charTok c cs) := by
  simp only [tokenizeChars, h, charTok]

theorem pieceText_chars (c : Bytes) (cs : List Bytes) (a b : Nat) (hab : a ≤ b) :
    pieceText (fun _ => []) (charTok c cs) (a + 1) (b + 1) = (slice (c :: cs) a (b + 1)).flatten := by
  unfold pieceText charTok slice
  have e1 : ((0, c) :: cs.map fun x => ((0 : Nat), x)) = (c :: cs).map fun x => ((0 : Nat), x) := rfl
  have e2 : b + 1 - (a + 1) + 1 = b + 1 - a := by omega
  simp only [Nat.add_sub_cancel, e1, e2]
  rw [← List.map_drop, ← List.map_take]
  exact piece_of_chars _ (fun _ => rfl) _

theorem refinesText_chars (opt : Opt) (line c : Bytes) (cs : List Bytes)
    (hbt : opt.boundsType = .characters) (hcs : utf8Chars line = some (c :: cs)) :
    RefinesText opt line (rangesOfChars 0 (c :: cs)) (pieceText (fun _ => []) (charTok c cs)) := by
  have key := charRange_slice line (c :: cs) hcs
  refine ⟨fun a b hab hb => ⟨(key a b hab hb).1, (key a b hab hb).2.1⟩, fun a b hab hb => ?_⟩
  unfold maybeReplaceDelimiter
  rw [if_pos hbt, (key a b hab hb).2.2, pieceText_chars c cs a b hab]

theorem specSep_chars (opt : Opt) (hbt : opt.boundsType = .characters) :
    Spec.specSep (cfgOf opt) = fun _ => [] := by
  funext k
  simp only [Spec.specSep, cfgOf, hbt, decide_true, if_true]

theorem specLine_chars (opt : Opt) (hbt : opt.boundsType = .characters) (line : Bytes) :
    specLine (cfgOf opt) line = line := by
  simp only [specLine, cfgOf, hbt, decide_true, if_true]
  cases opt.trim <;> rfl

theorem specRecord_chars (opt : Opt) (line c : Bytes) (cs : List Bytes)
    (hbt : opt.boundsType = .characters) (hcs : utf8Chars line = some (c :: cs)) :
    specRecord (cfgOf opt) line = specBody (cfgOf opt) (charTok c cs) := by
  have hne : line.isEmpty = false := by
    cases line with
    | nil => cases utf8Chars_nil.symm.trans hcs
    | cons _ _ => rfl
  rw [Spec.specRecord_eq, specLine_chars opt hbt, hne,
    show lineTok (cfgOf opt) line = tokenizeChars line from if_pos (decide_eq_true hbt),
    tokenizeChars_eq line c cs hcs]
  rfl

theorem specRecord_chars_empty (opt : Opt) (hbt : opt.boundsType = .characters) :
    specRecord (cfgOf opt) [] = if opt.onlyDelimited then Run.empty else Run.ok [opt.eol.byte] := by
  rw [Spec.specRecord_eq, specLine_chars opt hbt]
  rfl

/-- **C07, one record, general form.**  Character mode (`-c`: the `\b|\B` bag), every valid UTF-8
    record, any bounds the parser can deliver (ranges, negative indexes, fillers, fallbacks),
    `-m`, `-s`, `-t`, with `--json` or with a replacement for the (empty) separators — which is
    when the engine expands ranges; `parse_args` always sets `-r ''` for `-c` — and `-p`/`-j` only
    with a replacement (`hguard`, so that the guard of `cut_str` does not fire): the engine writes
    what the per-record specification says and ends as it says (never a panic). -/
theorem chars_record_eq_spec_gen (opt : Opt) (line : Bytes)
    (hbt : opt.boundsType = .characters) (hbag : opt.regexBag = some charsBag)
    (hguard : (opt.compressDelimiter || opt.join) = true → opt.replaceDelimiter.isSome = true)
    (hunp : (opt.json || opt.replaceDelimiter.isSome) = true)
    (hz : AllNonzero opt.bounds.list) (hL : LastMarked opt.bounds.list)
    (hv : validUtf8 line = true) :
    (cutStrCore line opt [opt.eol.byte]).1 = specRecord (cfgOf opt) line := by
  obtain ⟨cs, hcs⟩ := (validUtf8_iff line).1 hv
  rw [cutStrCore_chars line opt _ cs hbt hbag hguard hcs]
  cases cs with
  | nil =>
    obtain rfl : line = [] := (utf8Chars_flatten line [] hcs).symm
    rw [specRecord_chars_empty opt hbt]
    cases opt.onlyDelimited <;> rfl
  | cons c cs =>
    have hne : line.isEmpty = false := by
      cases line with
      | nil => cases utf8Chars_nil.symm.trans hcs
      | cons _ _ => rfl
    rw [hne, specRecord_chars opt line c cs hbt hcs]
    exact emitRecord_eq_specBody opt line _ (charTok c cs)
      (specSep_chars opt hbt ▸ refinesText_chars opt line c cs hbt hcs)
      (by simp [rangesOfChars_length, charTok, Tok.numFields]) (fun _ => hunp) hz hL

/-- **C07, one record** (the options `parse_args` builds for `-c`: `-r ''`, `-j`, no `--json`; the
    proof needs only `-r ''`, see `chars_record_eq_spec_gen`). -/
theorem chars_record_eq_spec (opt : Opt) (line : Bytes)
    (hbt : opt.boundsType = .characters) (hbag : opt.regexBag = some charsBag)
    (hrep : opt.replaceDelimiter = some []) (_hjoin : opt.join = true) (_hjson : opt.json = false)
    (hz : AllNonzero opt.bounds.list) (hL : LastMarked opt.bounds.list)
    (hv : validUtf8 line = true) :
    (cutStrCore line opt [opt.eol.byte]).1 = specRecord (cfgOf opt) line :=
  chars_record_eq_spec_gen opt line hbt hbag (by simp [hrep]) (by simp [hrep]) hz hL hv

/-- **C07 ∧ C08, one record**: character mode with `--json` (`-r ,`, `-j`). -/
theorem chars_json_record_eq_spec (opt : Opt) (line : Bytes)
    (hbt : opt.boundsType = .characters) (hbag : opt.regexBag = some charsBag)
    (hrep : opt.replaceDelimiter = some [0x2C]) (_hjoin : opt.join = true) (hjson : opt.json = true)
    (hz : AllNonzero opt.bounds.list) (hL : LastMarked opt.bounds.list)
    (hv : validUtf8 line = true) :
    (cutStrCore line opt [opt.eol.byte]).1 = specRecord (cfgOf opt) line :=
  chars_record_eq_spec_gen opt line hbt hbag (by simp [hrep]) (by simp [hjson]) hz hL hv

/-- **C07, the run, general form**: on every valid UTF-8 input, records in order, each by
    `specRecord`, stop at the first failure. -/
theorem chars_run_eq_spec_gen (opt : Opt) (input : Bytes)
    (hbt : opt.boundsType = .characters) (hbag : opt.regexBag = some charsBag)
    (hguard : (opt.compressDelimiter || opt.join) = true → opt.replaceDelimiter.isSome = true)
    (hunp : (opt.json || opt.replaceDelimiter.isSome) = true)
    (hz : AllNonzero opt.bounds.list) (hL : LastMarked opt.bounds.list)
    (hv : validUtf8 input = true) :
    readAndCutStr opt input = specRun (cfgOf opt) input :=
  cutRecords_eq_specRunRecords opt _ [] [] fun r hr =>
    chars_record_eq_spec_gen opt r hbt hbag hguard hunp hz hL
      (validUtf8_records opt.eol.byte (EOL.byte_ascii opt.eol) input hv r hr)

/-- **C07, the run** (the options `parse_args` builds for `-c`: `-r ''`, `-j`, no `--json`): on every
    valid UTF-8 input `read_and_cut_str` is `specRun` (output and status). -/
theorem chars_run_eq_spec (opt : Opt) (input : Bytes)
    (hbt : opt.boundsType = .characters) (hbag : opt.regexBag = some charsBag)
    (hrep : opt.replaceDelimiter = some []) (_hjoin : opt.join = true) (_hjson : opt.json = false)
    (hz : AllNonzero opt.bounds.list) (hL : LastMarked opt.bounds.list)
    (hv : validUtf8 input = true) :
    readAndCutStr opt input = specRun (cfgOf opt) input :=
  chars_run_eq_spec_gen opt input hbt hbag (by simp [hrep]) (by simp [hrep]) hz hL hv

/-- **C07 ∧ C08, the run**: character mode with `--json`. -/
theorem chars_json_run_eq_spec (opt : Opt) (input : Bytes)
    (hbt : opt.boundsType = .characters) (hbag : opt.regexBag = some charsBag)
    (hrep : opt.replaceDelimiter = some [0x2C]) (_hjoin : opt.join = true) (hjson : opt.json = true)
    (hz : AllNonzero opt.bounds.list) (hL : LastMarked opt.bounds.list)
    (hv : validUtf8 input = true) :
    readAndCutStr opt input = specRun (cfgOf opt) input :=
  chars_run_eq_spec_gen opt input hbt hbag (by simp [hrep]) (by simp [hjson]) hz hL hv

/-- for every accepted `--characters` argument -/
theorem chars_run_eq_spec_of_parsed (opt : Opt) (input : Bytes) (s : List Char)
    (hparse : boundsListOfString s = .ok opt.bounds)
    (hbt : opt.boundsType = .characters) (hbag : opt.regexBag = some charsBag)
    (hrep : opt.replaceDelimiter = some []) (hjoin : opt.join = true) (hjson : opt.json = false)
    (hv : validUtf8 input = true) :
    readAndCutStr opt input = specRun (cfgOf opt) input :=
  have h := boundsListOfString_good s opt.bounds hparse
  chars_run_eq_spec opt input hbt hbag hrep hjoin hjson h.1 h.2 hv

theorem validUtf8_nil : validUtf8 [] = true := by decide

theorem Run.valid_pre {w : Bytes} {r : Run} (hw : validUtf8 w = true) (hr : validUtf8 r.out = true) :
    validUtf8 (Run.pre w r).out = true := validUtf8_append _ _ hw hr

theorem Run.valid_seq {a b : Run} (ha : validUtf8 a.out = true) (hb : validUtf8 b.out = true) :
    validUtf8 (a.seq b).out = true := by
  obtain ⟨ao, as⟩ := a
  cases as
  · exact validUtf8_append _ _ ha hb
  all_goals exact ha

theorem emit_valid (cfg : Cfg) (tok : Tok) (sep : Nat → Bytes) (j : Bytes) (hjson : cfg.json = false)
    (hj : validUtf8 j = true) :
    ∀ (l : List BoF), (∀ f, BoF.filler f ∈ l → validUtf8 f = true) →
      (∀ b, BoF.bound b ∈ l → ∀ x, Spec.boundText cfg tok sep b = some x → validUtf8 x = true) →
      validUtf8 (emit cfg tok sep j l).out = true
  | [], _, _ => validUtf8_nil
  | .filler f :: t, hf, hb => by
    simp only [emit]
    exact Run.valid_pre (hf f (List.mem_cons_self ..))
      (emit_valid cfg tok sep j hjson hj t (fun f h => hf f (List.mem_cons_of_mem _ h))
        (fun b h => hb b (List.mem_cons_of_mem _ h)))
  | .bound b :: t, hf, hb => by
    have ih := emit_valid cfg tok sep j hjson hj t (fun f h => hf f (List.mem_cons_of_mem _ h))
        (fun b h => hb b (List.mem_cons_of_mem _ h))
    rw [emit_bound]
    cases hx : Spec.boundText cfg tok sep b with
    | none => exact validUtf8_nil
    | some x =>
      have hvx := hb b (List.mem_cons_self ..) x hx
      simp only [Option.bind_some, rendered_plain hjson]
      refine Run.valid_pre (validUtf8_append _ _ hvx ?_) ih
      split
      · exact hj
      · decide

theorem pieceText_chars_valid (line c : Bytes) (cs : List Bytes)
    (hcs : utf8Chars line = some (c :: cs)) (lo hi : Nat) (h1 : 1 ≤ lo) (h2 : lo ≤ hi) :
    validUtf8 (pieceText (fun _ => []) (charTok c cs) lo hi) = true := by
  obtain ⟨a, rfl⟩ : ∃ a, lo = a + 1 := ⟨lo - 1, by omega⟩
  obtain ⟨b, rfl⟩ : ∃ b, hi = b + 1 := ⟨hi - 1, by omega⟩
  rw [pieceText_chars c cs a b (by omega)]
  apply validUtf8_flatten_of_chars
  intro x hx
  exact utf8Chars_each line _ hcs x (List.mem_of_mem_drop (List.mem_of_mem_take hx))

theorem validUtf8_eol (e : EOL) : validUtf8 [e.byte] = true := by cases e <;> decide

/-- what the user wrote next to the bounds: format text, fallbacks, the generic fallback -/
structure TextsValid (opt : Opt) : Prop where
  fillers : ∀ f, BoF.filler f ∈ opt.bounds.list → validUtf8 f = true
  fallbacks : ∀ b f, BoF.bound b ∈ opt.bounds.list → b.fallback = some f → validUtf8 f = true
  generic : ∀ f, opt.fallbackOob = some f → validUtf8 f = true
  joiner : validUtf8 (opt.replaceDelimiter.getD opt.delimiter) = true

theorem specRecord_chars_valid (opt : Opt) (line : Bytes)
    (hbt : opt.boundsType = .characters) (hjson : opt.json = false) (ht : TextsValid opt)
    (hv : validUtf8 line = true) :
    validUtf8 (specRecord (cfgOf opt) line).out = true := by
  obtain ⟨cs, hcs⟩ := (validUtf8_iff line).1 hv
  cases cs with
  | nil =>
    obtain rfl : line = [] := (utf8Chars_flatten line [] hcs).symm
    rw [specRecord_chars_empty opt hbt]
    split
    · decide
    · exact validUtf8_eol opt.eol
  | cons c cs =>
    have hopen : openBracket (cfgOf opt) = [] := if_neg (by rw [show (cfgOf opt).json = false from hjson]; decide)
    have hclose : closeBracket (cfgOf opt) = [] := if_neg (by rw [show (cfgOf opt).json = false from hjson]; decide)
    rw [specRecord_chars opt line c cs hbt hcs]
    unfold specBody
    rw [hopen, hclose, specSep_chars opt hbt]
    split
    · decide
    split
    · decide
    · refine Run.valid_pre (by decide) (Run.valid_seq (emit_valid _ _ _ _ hjson ht.joiner _ ?_ ?_)
        (validUtf8_eol opt.eol))
      · intro f hf
        exact ht.fillers f (filler_of_rewritten _ _ f hf)
      · intro b hb x hx
        cases hres : resolve b (charTok c cs).numFields with
        | some p =>
          cases (boundText_of_resolve hres).symm.trans hx
          obtain ⟨h2, h1, _⟩ := resolve_range hres
          exact pieceText_chars_valid line c cs hcs p.1 p.2 h2 h1
        | none =>
          rw [boundText_of_unresolved _ _ hres] at hx
          cases hfb : b.fallback with
          | some f =>
            rw [hfb] at hx
            cases hx
            obtain ⟨b0, hb0, hf0⟩ := fallback_of_rewritten _ _ b x hb hfb
            exact ht.fallbacks b0 x hb0 hf0
          | none =>
            rw [hfb] at hx
            exact ht.generic x hx

/-- **C07: character mode turns valid UTF-8 into valid UTF-8** — for every valid UTF-8 input, if
    the format text and the fallbacks the user wrote are valid UTF-8 (argv always is) then
    everything the run writes is valid UTF-8, also when it stops at a record that fails: no
    scalar value is ever split, whatever the bounds, `-m` included. -/
theorem chars_output_valid (opt : Opt) (input : Bytes)
    (hbt : opt.boundsType = .characters) (hbag : opt.regexBag = some charsBag)
    (hrep : opt.replaceDelimiter = some []) (hjoin : opt.join = true) (hjson : opt.json = false)
    (hz : AllNonzero opt.bounds.list) (hL : LastMarked opt.bounds.list)
    (hfill : ∀ f, BoF.filler f ∈ opt.bounds.list → validUtf8 f = true)
    (hfb : ∀ b f, BoF.bound b ∈ opt.bounds.list → b.fallback = some f → validUtf8 f = true)
    (hgen : ∀ f, opt.fallbackOob = some f → validUtf8 f = true)
    (hv : validUtf8 input = true) :
    validUtf8 (readAndCutStr opt input).out = true := by
  rw [chars_run_eq_spec opt input hbt hbag hrep hjoin hjson hz hL hv, specRun, specRunRecords_eq_seqMap]
  exact Run.seqMap_ind (P := fun r => validUtf8 r.out = true) validUtf8_nil (fun _ _ => Run.valid_seq)
    fun r hr => specRecord_chars_valid opt r hbt hjson ⟨hfill, hfb, hgen, by rw [hrep]; exact validUtf8_nil⟩
      (validUtf8_records opt.eol.byte (EOL.byte_ascii opt.eol) input hv r hr)

/-- `-c 2:3,-1` -/
def c07Bounds : UserBoundsList :=
  ⟨[.bound { l := .some 2, r := .some 3 },
    .bound { l := .some (-1), r := .some (-1), isLast := true }], .cont⟩

/-- `-c x{2:3}y{7=z}` : fillers, a fallback -/
def c07BoundsFmt : UserBoundsList :=
  ⟨[.filler [0x78], .bound { l := .some 2, r := .some 3 }, .filler [0x79],
    .bound { l := .some 7, r := .some 7, isLast := true, fallback := some [0x7A] }], .cont⟩

/-- what `parse_args` builds for `-c` (`-r ''`, `-j`), with `--json` (`-r ,`) or not, `-m` or not -/
def c07Opt (bounds : UserBoundsList) (json m : Bool) : Opt :=
  { delimiter := [0x09], bounds := bounds, boundsType := .characters, regexBag := some charsBag,
    replaceDelimiter := some (if json then [0x2C] else []), join := true, json := json,
    complement := m }

/-- "aé€😎" -/
def c07Line : Bytes := [0x61,0xC3,0xA9,0xE2,0x82,0xAC,0xF0,0x9F,0x98,0x8E]

-- é€😎
example : (cutStrCore c07Line (c07Opt c07Bounds false false) [10]).1 =
    Run.ok [0xC3,0xA9,0xE2,0x82,0xAC,0xF0,0x9F,0x98,0x8E,10] := by decide +kernel
example : specRecord (cfgOf (c07Opt c07Bounds false false)) c07Line =
    Run.ok [0xC3,0xA9,0xE2,0x82,0xAC,0xF0,0x9F,0x98,0x8E,10] := by decide +kernel
-- ["é","€","😎"]
example : (cutStrCore c07Line (c07Opt c07Bounds true false) [10]).1 =
    Run.ok [0x5B,0x22,0xC3,0xA9,0x22,0x2C,0x22,0xE2,0x82,0xAC,0x22,0x2C,0x22,0xF0,0x9F,0x98,0x8E,0x22,0x5D,10] := by
  decide +kernel
example : specRecord (cfgOf (c07Opt c07Bounds true false)) c07Line =
    Run.ok [0x5B,0x22,0xC3,0xA9,0x22,0x2C,0x22,0xE2,0x82,0xAC,0x22,0x2C,0x22,0xF0,0x9F,0x98,0x8E,0x22,0x5D,10] := by
  decide +kernel
-- `-m`: a😎 (what 2:3 leaves out) aé€ (what -1 leaves out)
example : (cutStrCore c07Line (c07Opt c07Bounds false true) [10]).1 =
    Run.ok [0x61,0xF0,0x9F,0x98,0x8E,0x61,0xC3,0xA9,0xE2,0x82,0xAC,10] := by decide +kernel
example : specRecord (cfgOf (c07Opt c07Bounds false true)) c07Line =
    Run.ok [0x61,0xF0,0x9F,0x98,0x8E,0x61,0xC3,0xA9,0xE2,0x82,0xAC,10] := by decide +kernel
-- format text and a fallback: xé€yz
example : (cutStrCore c07Line (c07Opt c07BoundsFmt false false) [10]).1 =
    Run.ok [0x78,0xC3,0xA9,0xE2,0x82,0xAC,0x79,0x7A,10] := by decide +kernel
example : specRecord (cfgOf (c07Opt c07BoundsFmt false false)) c07Line =
    Run.ok [0x78,0xC3,0xA9,0xE2,0x82,0xAC,0x79,0x7A,10] := by decide +kernel
-- the hypotheses of the theorems hold for these requests
example : AllNonzero c07Bounds.list ∧ LastMarked c07Bounds.list := by
  refine ⟨?_, by simp [c07Bounds, LastMarked, countBounds]⟩
  intro b hb
  simp only [c07Bounds, List.mem_cons, BoF.bound.injEq, List.not_mem_nil, or_false] at hb
  rcases hb with rfl | rfl <;> exact ⟨by simp [Side.Nonzero], by simp [Side.Nonzero]⟩

end Tuc
