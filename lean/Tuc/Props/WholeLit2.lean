import Tuc.Model.WholeLit2
import Tuc.Props.WholeLit
import Tuc.Props.TextLoops
import Tuc.Props.RegexLit
import Tuc.Props.LibLit
import Tuc.Props.BoundsListLit

/-!
# Tuc.Props.WholeLit2 — the program with the callees of the literal pieces at statement level IS `tucMain`

`Tuc.Model.WholeLit2.tucProgramLit2 align regexOk argv segs` is `Tuc.Model.WholeLit.tucProgramLit` in
which the callees that `tucProgramLit` still reaches through a normal-form model — the text helpers
of `cut_str.rs` and their regex twins, the `--json` writer and the UTF-8 validation, the bounds
parser, `try_into_range` / `matches` / `complement` / `unpack` / `is_forward_only`, `print_bof` — are
replaced by their statement-level transcriptions (table in the header of the model file).

* **`tucProgramLit2_eq_tucProgramLit`**, **`tucProgramLit2_eq : InDomain2 regexOk argv segs →
  tucProgramLit2 align regexOk argv segs = tucMain regexOk argv segs`** — every alignment oracle `align`
  (the value of `v.as_ptr().align_offset(..)` in `run_utf8_validation`, for each slice: `Tuc.Model.LibLit`),
  every argument vector, every input, every segmentation.  `InDomain2` (`programFits2B … = true`,
  decidable) is `WholeLit.InDomain` and, when an engine runs, `inputFits2B opt input`: a bound of 2³¹ on
  the input of `-b` and on the parts of a fast-lane record; its docstring says what the proofs use of it.
  For `-b` the last section has a run of the program outside the clause
  (`tucProgramLit2_eq_tucMain_on_2GiB_input`: `tuc -b 1:` on 2³¹ bytes prints its input).
* no hypothesis on the regex bag at program level: the bag `main` stores honours the contract of
  `find_iter` (`compileBag_ok`, `Tuc.Props.MainLevel`).  Engine by engine the contract is the explicit
  hypothesis `BagOK opt`; it cannot be dropped there (`badBag`: `trim_regex` slices out of range, the last section).
* no hypothesis on `align` (`tucProgramLit2_align_irrelevant`), none for the bounds parser, the loops
  over `memmem::FindIter`, `is_forward_only`; what `matches` in `-l` and `print_bof` need (`line_idx` is an
  `i32`: `LineIdxOk`; `curr_field ≥ 1` and the slice indexes in range) are invariants of the loops.

What remains in normal form: see the end of the header of `Tuc.Model.WholeLit2`.
-/

namespace Tuc
namespace WholeLit2

open TextLoops
open CutStrLitProps (BoundsOk BoundOk FieldsFit fieldsFitB DarOk)
open BoundsLit (resMap)

theorem ofRes_ok {α : Type} (a : α) : Res4.ofRes (Res.ok a) = .ok a := rfl
theorem ofOutcome_ok {α : Type} (a : α) : Res4.ofOutcome (Outcome.ok a) = .ok a := rfl
theorem bind4_ok {α β : Type} (a : α) (f : α → Res4 β) : (Res4.ok a).bind f = f a := rfl

theorem ofRes_bind {α β : Type} (x : Res α) (f : α → Res β) :
    (Res4.ofRes x).bind (fun a => Res4.ofRes (f a)) = Res4.ofRes (x.bind f) := by
  cases x <;> rfl

theorem orStop4_ofRes {α : Type} (x : Res α) (k : α → Run) :
    orStop4 (Res4.ofRes x) k = CutStrLit.orStop x k := by
  cases x <;> rfl

/-- `memmem::FindIter::next` collected is the model's `find_iter` (every needle, the empty one
    included) -/
theorem findIterLit_eq (d line : Bytes) : findIterLit d line = findIter d line :=
  findIterLoop_eq_findIter d line

theorem fillWithFieldsLocationsLoop2_refines (buffer : List Range) (line d : Bytes) :
    fillWithFieldsLocationsLoop2 buffer line d = .ok (fillWithFieldsLocations buffer line d) := by
  unfold fillWithFieldsLocationsLoop2
  rw [findIterLit_eq]
  exact fillWithFieldsLocationsLoop_refines buffer line d

theorem fillWithFieldsLocationsGreedyLoop2_refines (buffer : List Range) (line d : Bytes) :
    fillWithFieldsLocationsGreedyLoop2 buffer line d = .ok (fillWithFieldsLocationsGreedy buffer line d) := by
  unfold fillWithFieldsLocationsGreedyLoop2
  rw [fillWithFieldsLocationsLoop2_refines, ← fillWithFieldsLocationsLoop_refines]
  exact fillWithFieldsLocationsGreedyLoop_refines buffer line d

theorem compressDelimiterLoop2_refines (line d output : Bytes) :
    compressDelimiterLoop2 line d output = .ok (compressDelimiter line d output) := by
  unfold compressDelimiterLoop2
  rw [findIterLit_eq]
  exact compressDelimiterLoop_refines line d output

/-- the contract of `find_iter` for the regex bag of the option record (if any): `RegexBag.OK` of that
    bag.  It is the hypothesis `hbag` that the safety theorems (`Lemmas/Total`, C12, `cutStrLit_safe`,
    `readAndCutStrLoop_safe`) and `RegexLit.maybeReplaceDelimiterLit_refines` write out, under a name.
    `Space2.BagOK` is another predicate: on a bag, and it bounds the number of matches as well; its
    form on an option record is `Space2.OptBagOK`. -/
def BagOK (opt : Opt) : Prop := ∀ bag, opt.regexBag = Option.some bag → bag.OK

/-- `write_maybe_as_json!` over the library text = the macro of `Tuc.Model.CutStrLit`, whatever the
    alignment of the slice -/
theorem writeMaybeAsJsonLit2_eq (align : Bytes → Nat) (t : Bytes) (j : Bool) :
    writeMaybeAsJsonLit2 align t j = CutStrLit.writeMaybeAsJsonLit t j := by
  unfold writeMaybeAsJsonLit2 CutStrLit.writeMaybeAsJsonLit
  rw [LibLit.writeAsJsonLit_eq]

/-- a callee of `Tuc.Model.RegexLit` is known through `omap` (a `Cow` and what it dereferences to):
    binding it in `Res4` and looking at `f` of the value only -/
theorem bind_ofOutcome_of_omap {α β γ : Type} {x : Outcome α} {f : α → β} {v : β}
    (h : RegexLit.omap f x = .ok v) (k : β → Res4 γ) :
    (Res4.ofOutcome x).bind (fun a => k (f a)) = k v := by
  cases x with
  | ok a => cases h; rfl
  | panic => cases h
  | hang => cases h

theorem maybeReplace2_eq (s : Bytes) (opt : Opt) (hok : BagOK opt) :
    (Res4.ofOutcome (RegexLit.maybeReplaceDelimiterLit s opt)).bind (fun cow => .ok cow.deref) =
      .ok (CutStrLit.maybeReplaceDelimiterLit s opt) :=
  bind_ofOutcome_of_omap (RegexLit.maybeReplaceDelimiterLit_refines s opt hok) Res4.ok

theorem fieldOfRange2_eq (line : Bytes) (fields : List Range) (opt : Opt) (dar : Bool)
    (r : Nat × Nat) (hok : BagOK opt) :
    fieldOfRange2 line fields opt dar r =
      Res4.ofRes
        ((CutStrLit.indexRange fields r.1).bind fun fStart =>
         (BoundsLit.usizeSub r.2 1).bind fun rEndM1 =>
         (CutStrLit.indexRange fields rEndM1).bind fun fEnd =>
         (CutStrLit.sliceBytes line fStart.start fEnd.stop).bind fun s =>
         if dar then .ok s else .ok (CutStrLit.maybeReplaceDelimiterLit s opt)) := by
  have key : ∀ s : Bytes, (if dar then Res4.ok s else
      (Res4.ofOutcome (RegexLit.maybeReplaceDelimiterLit s opt)).bind fun cow => .ok cow.deref) =
      Res4.ofRes (if dar then .ok s else .ok (CutStrLit.maybeReplaceDelimiterLit s opt)) := by
    intro s
    cases dar with
    | true => rfl
    | false => exact maybeReplace2_eq s opt hok
  simp only [fieldOfRange2, key, ofRes_bind]

theorem fieldToPrint2_eq (line : Bytes) (fields : List Range) (n : Nat) (opt : Opt) (dar : Bool)
    (b : UserBounds) (hok : BagOK opt) :
    fieldToPrint2 line fields n opt dar b = Res4.ofRes (CutStrLit.fieldToPrint line fields n opt dar b) := by
  unfold fieldToPrint2 CutStrLit.fieldToPrint
  generalize CutStrLit.resolve b n = x
  cases x with
  | panic => rfl
  | ok r => exact fieldOfRange2_eq line fields opt dar r hok
  | fail =>
    simp only []
    cases b.fallback with
    | some f => rfl
    | none => cases opt.fallbackOob <;> rfl

theorem outputClosure2_eq (align : Bytes → Nat) (line : Bytes) (fields : List Range) (n : Nat)
    (opt : Opt) (dar : Bool) (bof : BoF) (hok : BagOK opt) :
    outputClosure2 align line fields n opt dar bof = CutStrLit.outputClosure line fields n opt dar bof := by
  cases bof with
  | filler f => rfl
  | bound b =>
    unfold outputClosure2 CutStrLit.outputClosure
    simp only [fieldToPrint2_eq line fields n opt dar b hok, orStop4_ofRes, writeMaybeAsJsonLit2_eq]

theorem tryForEach2_eq (align : Bytes → Nat) (line : Bytes) (fields : List Range) (n : Nat)
    (opt : Opt) (dar : Bool) (hok : BagOK opt) : ∀ (l : List BoF),
    tryForEach2 align line fields n opt dar l = CutStrLit.tryForEach line fields n opt dar l
  | [] => rfl
  | bof :: t => by
    simp only [tryForEach2, CutStrLit.tryForEach, outputClosure2_eq align line fields n opt dar bof hok,
      tryForEach2_eq align line fields n opt dar hok t]

/-- l.280-291: `trimLoop` / `trimRegexLit` for `trimLiteral` / `trimRegex` -/
theorem trimStage2_eq (line : Bytes) (opt : Opt) (hok : BagOK opt) :
    trimStage2 line opt = Res4.ofRes (CutStrLit.trimStage line opt) := by
  unfold trimStage2 CutStrLit.trimStage
  cases opt.trim with
  | none => rfl
  | some k =>
    simp only []
    cases hb : opt.regexBag with
    | none =>
      simp only [Option.isSome_none, Bool.false_eq_true, if_false, trimLoop_refines]
      rfl
    | some bag =>
      simp only [Option.isSome_some, if_true, CutStrLit.unwrap, ofRes_ok, bind4_ok, BoundsLit.bind_ok,
        (RegexLit.bag_refines bag (hok bag hb) line).1 k]
      rfl

/-- l.300-330: `compressDelimiterLoop2` / `RegexLit.compressDelimiterWithRegexLit` for
    `compressDelimiter` / `replaceMatches` -/
theorem compressStage2_eq (line : Bytes) (opt : Opt) (buf : Bytes) (hok : BagOK opt) :
    compressStage2 line opt buf = Res4.ofRes (CutStrLit.compressStage line opt buf) := by
  unfold compressStage2 CutStrLit.compressStage
  simp only [Bool.and_true]
  by_cases hsc : (opt.compressDelimiter &&
      (decide (opt.boundsType = .fields) || decide (opt.boundsType = .lines))) = true
  · rw [if_pos hsc, if_pos hsc]
    cases hb : opt.regexBag with
    | none =>
      simp only [Option.isSome_none, Bool.false_eq_true, if_false, compressDelimiterLoop2_refines]
      rfl
    | some bag =>
      simp only [Option.isSome_some, if_true]
      cases opt.replaceDelimiter with
      | none => rfl
      | some nd =>
        simp only [CutStrLit.unwrap, ofRes_ok, bind4_ok, BoundsLit.bind_ok]
        exact bind_ofOutcome_of_omap ((RegexLit.bag_refines bag (hok bag hb) line).2.1 nd)
          fun l => .ok (⟨l, nd, false, true, buf⟩ : CutStrLit.Locals)
  · rw [if_neg hsc, if_neg hsc]
    rfl

/-- l.332-355 (no hypothesis: `fill_with_fields_locations_using_regex` slices nothing) -/
theorem fieldsStage2_eq (loc : CutStrLit.Locals) (opt : Opt) (fields : List Range) :
    fieldsStage2 loc opt fields = Res4.ofRes (CutStrLit.fieldsStage loc opt fields) := by
  simp only [fieldsStage2, CutStrLit.fieldsStage, ← ofRes_bind, apply_ite Res4.ofRes, ofRes_ok, ofOutcome_ok,
    RegexLit.fillWithFieldsLocationsUsingRegexLit_refines, fillWithFieldsLocationsGreedyLoop2_refines,
    fillWithFieldsLocationsLoop2_refines]

theorem boundsOk_allInI32 {l : List BoF} (h : BoundsOk l) : BoundsListLit.AllInI32 l :=
  fun b hb => ⟨(h b hb).1, (h b hb).2.1⟩

/-- l.373: `UserBoundsList::complement` of `Tuc.Model.BoundsListLit` -/
theorem complementLit_eq (bounds : UserBoundsList) (n : Nat) (hb : BoundsOk bounds.list)
    (hn : n < 2147483648) : complementLit bounds n = complementList bounds.list n :=
  BoundsListLit.complement_model bounds.list (boundsOk_allInI32 hb) hb.lnz _ n hn

/-- l.402: `UserBoundsList::unpack` likewise -/
theorem unpackLit_eq (bounds : UserBoundsList) (n : Nat) (hb : BoundsOk bounds.list)
    (hn : n < 2147483648) : unpackLit bounds n = unpackList bounds.list n :=
  BoundsListLit.unpack_model bounds.list (boundsOk_allInI32 hb) hb.lnz _ n hn

/-- l.357-455 -/
theorem emitStage2_eq (align : Bytes → Nat) (line : Bytes) (fields : List Range) (opt : Opt)
    (dar : Bool) (eol : Bytes) (hb : BoundsOk opt.bounds.list) (hn : fields.length < 2147483648)
    (hok : BagOK opt) :
    emitStage2 align line fields opt dar eol = CutStrLit.emitStage line fields opt dar eol := by
  unfold emitStage2 CutStrLit.emitStage
  simp only []
  by_cases h1 : (opt.onlyDelimited && fields.length == 1) = true
  · rw [if_pos h1, if_pos h1]
  · rw [if_neg h1, if_neg h1]
    congr 1
    rw [complementLit_eq opt.bounds fields.length hb hn]
    have hac := CutStrLitProps.complementStep_boundsOk opt fields.length (fun _ => hn) hb
    generalize (if opt.complement = true then complementList opt.bounds.list fields.length
        else Res.ok opt.bounds) = ac at hac
    cases ac with
    | fail => rfl
    | panic => rfl
    | ok bounds =>
      simp only [CutStrLit.orStop]
      rw [unpackLit_eq bounds fields.length (hac bounds rfl).1 hn]
      simp only [tryForEach2_eq align line fields fields.length opt dar hok]

/-- **`cut_str` with every callee at statement level** — `trim`, `trim_regex`,
    `compress_delimiter[_with_regex]`, the three `fill_with_fields_locations*` over the literal
    `memmem::FindIter` / the match list of the regex, `Regex::replace_all`, `UserBoundsList::complement` /
    `unpack` with `i32`s, `std::str::from_utf8` + `serde_json::to_string` — **is the transcription of
    `Tuc.Model.CutStrLit`**.  Stage by stage the callees agree; `FieldsFit` bounds the vector that reaches l.357
    (`engineFields` of what `compressOf` hands on: `CutStrLitProps.compressStage_eq`, `fieldsStage_eq`). -/
theorem cutStrLit2_eq_cutStrLit (align : Bytes → Nat) (line : Bytes) (opt : Opt) (fields : List Range)
    (compressedLineBuf eol : Bytes) (hb : BoundsOk opt.bounds.list) (hn : FieldsFit line opt)
    (hok : BagOK opt) :
    cutStrLit2 align line opt fields compressedLineBuf eol =
      CutStrLit.cutStrLit line opt fields compressedLineBuf eol := by
  unfold cutStrLit2 CutStrLit.cutStrLit
  by_cases h1 : (opt.regexBag.isSome && (opt.compressDelimiter && opt.replaceDelimiter.isNone)) = true
  · rw [if_pos h1, if_pos h1]
  · rw [if_neg h1, if_neg h1]
    by_cases h2 : (opt.regexBag.isSome && (opt.join && opt.replaceDelimiter.isNone)) = true
    · rw [if_pos h2, if_pos h2]
    · rw [if_neg h2, if_neg h2, trimStage2_eq line opt hok, CutStrLitProps.trimStage_eq]
      simp only [ofRes_ok]
      by_cases he : (trimOf opt line).isEmpty = true
      · rw [if_pos he, if_pos he]
      · rw [if_neg he, if_neg he, compressStage2_eq _ opt _ hok, CutStrLitProps.compressStage_eq]
        cases hco : compressOf opt (trimOf opt line) with
        | none => rfl
        | some x =>
          obtain ⟨l, d, u, bo, cwr⟩ := x
          have hlen := hn (engineFields opt l d u)
            (by rw [CutStrLitProps.fieldsOf_eq line opt h1 h2, afterTrim, if_neg he, hco])
          simp only [ofRes_ok]
          rw [fieldsStage2_eq, CutStrLitProps.fieldsStage_eq _ opt fields (CutStrLitProps.compressOf_some hco).1]
          simp only [ofRes_ok]
          rw [emitStage2_eq align _ _ opt _ eol hb hlen hok]

open StreamLoop (fillBuf consume memchr totalBytes fuelFor) in
open ReadLoops (Closure forByteRecordLoop readUntilLoop readToEndLoop stripSuffix foldRecords) in
/-- l.472-485 with `cutStrLit2` = the closure of `Tuc.Model.WholeLit`, on a record that
    `for_byte_record` hands out -/
theorem cutStrLitClosure2_eq (align : Bytes → Nat) (opt : Opt) (hb : BoundsOk opt.bounds.list)
    (hok : BagOK opt) (r : Bytes) (st : List Range × Bytes) (hr : opt.eol.byte ∉ r)
    (hn : FieldsFit r opt) :
    cutStrLitClosure2 align opt r st = WholeLit.cutStrLitClosure opt r st := by
  simp only [cutStrLitClosure2, WholeLit.cutStrLitClosure, ReadLoops.stripSuffix_not_mem r _ hr,
    Option.getD_none, cutStrLit2_eq_cutStrLit align r opt st.1 st.2 _ hb hn hok]

theorem readAndCutStrWhole2_eq (align : Bytes → Nat) (opt : Opt) (segs : List Bytes)
    (hb : BoundsOk opt.bounds.list) (hok : BagOK opt) (hsegs : ∀ s ∈ segs, s ≠ [])
    (hn : ∀ r ∈ records opt.eol.byte segs.flatten, FieldsFit r opt) :
    readAndCutStrWhole2 align opt segs = WholeLit.readAndCutStrWhole opt segs := by
  unfold readAndCutStrWhole2 WholeLit.readAndCutStrWhole
  simp only [ReadLoops.forByteRecordLoop_eq_records _ _ _ _ hsegs]
  rw [WholeLit.foldRecords_congr _ _ _ _ (fun r hr st =>
    cutStrLitClosure2_eq align opt hb hok r st (ReadLoops.records_not_mem _ _ r hr) (hn r hr))]

theorem cutLinesWhole2_eq (align : Bytes → Nat) (opt : Opt) (segs : List Bytes)
    (hb : BoundsOk opt.bounds.list) (hok : BagOK opt) (hsegs : ∀ s ∈ segs, s ≠ [])
    (hn : validUtf8 segs.flatten = true → FieldsFit (stripEol opt.eol.byte segs.flatten) opt) :
    cutLinesWhole2 align opt segs = WholeLit.cutLinesWhole opt segs := by
  unfold cutLinesWhole2 WholeLit.cutLinesWhole
  simp only [ReadLoops.readToEndLoop_spec _ _ _ _ hsegs (ReadLoops.totalBytes_lt_fuelFor segs),
    List.nil_append, LibLit.fromUtf8IsOk_eq]
  by_cases hv : validUtf8 segs.flatten = true
  · simp only [hv, Bool.not_true, Bool.false_eq_true, if_false,
      cutStrLit2_eq_cutStrLit align _ opt [] [] _ hb (hn hv) hok]
  · simp only [hv, Bool.not_false, if_true]

/-- `line_idx` is an `i32` -/
def LineIdxOk (v : LinesLoop.Vars) : Prop := -2147483648 ≤ v.lineIdx ∧ v.lineIdx ≤ 2147483647

/-- l.55: `UserBounds::matches` with `i32`s is the model's, for an `i32` line number -/
theorem matchesLit_eq (b : UserBounds) (idx : Int) (hb : BoundOk b)
    (h1 : -2147483648 ≤ idx) (h2 : idx ≤ 2147483647) :
    matchesLit b idx = BoundsLit.resOfOption (b.matches idx) :=
  BoundsLit.matches_model b idx hb.1 hb.2.1 h1 h2

theorem innerBody2_eq (opt : Opt) (line : Bytes) (v : LinesLoop.Vars) (hb : BoundsOk opt.bounds.list)
    (hv : LineIdxOk v) : innerBody2 opt line v = LinesLoop.innerBody opt line v := by
  unfold innerBody2 LinesLoop.innerBody
  cases hg : opt.bounds.list[v.boundsIdx]? with
  | none => rfl
  | some bof =>
    cases bof with
    | filler f => rfl
    | bound b =>
      have hbo : BoundOk b := hb b (List.mem_of_getElem? hg)
      simp only []
      cases hp : v.pastLastIndex with
      | true => rfl
      | false =>
        simp only [Bool.false_eq_true, if_false, matchesLit_eq b v.lineIdx hbo hv.1 hv.2]
        cases b.matches v.lineIdx with
        | none => rfl
        | some m => rfl

theorem innerBody_lineIdx (opt : Opt) (line : Bytes) (v : LinesLoop.Vars) :
    (LinesLoop.innerBody opt line v).2.1.lineIdx = v.lineIdx := by
  unfold LinesLoop.innerBody
  cases opt.bounds.list[v.boundsIdx]? with
  | none => rfl
  | some bof =>
    cases bof with
    | filler f => rfl
    | bound b =>
      let P : Run × LinesLoop.Vars × Bool → Prop := fun p => p.2.1.lineIdx = v.lineIdx
      exact ite_ind (P := P) (ite_ind (P := P) rfl rfl) rfl

theorem LineIdxOk.of_eq {v v' : LinesLoop.Vars} (h : v'.lineIdx = v.lineIdx) (hv : LineIdxOk v) :
    LineIdxOk v' := by
  unfold LineIdxOk
  rw [h]
  exact hv

theorem innerWhile2_eq (opt : Opt) (line : Bytes) (hb : BoundsOk opt.bounds.list) :
    ∀ (fuel : Nat) (v : LinesLoop.Vars), LineIdxOk v →
      innerWhile2 opt line fuel v = LinesLoop.innerWhile opt line fuel v
  | 0, _, _ => rfl
  | fuel + 1, v, hv => by
    simp only [innerWhile2, LinesLoop.innerWhile, innerBody2_eq opt line v hb hv,
      innerWhile2_eq opt line hb fuel _ (hv.of_eq (innerBody_lineIdx opt line v))]

theorem innerWhile_lineIdx (opt : Opt) (line : Bytes) : ∀ (fuel : Nat) (v : LinesLoop.Vars),
    (LinesLoop.innerWhile opt line fuel v).2.lineIdx = v.lineIdx
  | 0, _ => rfl
  | fuel + 1, v => by
    simp only [LinesLoop.innerWhile]
    split
    · split
      · simp only [innerWhile_lineIdx opt line fuel, innerBody_lineIdx]
      · exact innerBody_lineIdx opt line v
    · rfl

theorem nextLine_ok (v : LinesLoop.Vars) (hv : LineIdxOk v) : LineIdxOk (LinesLoop.nextLine v) := by
  unfold LinesLoop.nextLine LinesLoop.i32CheckedAdd
  by_cases hr : i32Min ≤ v.lineIdx + 1 ∧ v.lineIdx + 1 ≤ i32Max
  · rw [if_pos hr]; exact hr
  · rw [if_neg hr]; exact hv

theorem readLineWithEolSeg2_eq (align : Bytes → Nat) (reader : List Bytes) (eol : EOL) :
    readLineWithEolSeg2 align reader eol = WholeLit.readLineWithEolSeg reader eol := by
  simp only [readLineWithEolSeg2, WholeLit.readLineWithEolSeg, LibLit.fromUtf8IsOk_eq]
  rfl

theorem readWhileSeg2_eq (align : Bytes → Nat) (opt : Opt) (hb : BoundsOk opt.bounds.list) :
    ∀ (fuel : Nat) (segs : List Bytes) (v : LinesLoop.Vars), LineIdxOk v →
      readWhileSeg2 align opt fuel segs v = WholeLit.readWhileSeg opt fuel segs v
  | 0, _, _, _ => rfl
  | fuel + 1, segs, v, hv => by
    have hn := nextLine_ok v hv
    unfold readWhileSeg2 WholeLit.readWhileSeg
    rw [readLineWithEolSeg2_eq]
    cases WholeLit.readLineWithEolSeg segs opt.eol with
    | hang => rfl
    | panic => rfl
    | ok p =>
      obtain ⟨line, rest⟩ := p
      cases line with
      | none => rfl
      | someErr => rfl
      | someOk l =>
        simp only [innerWhile2_eq opt _ hb _ _ hn,
          readWhileSeg2_eq align opt hb fuel rest _ (hn.of_eq (innerWhile_lineIdx opt _ _ _))]

theorem cutLinesForwardOnlyWhole2_eq (align : Bytes → Nat) (opt : Opt) (segs : List Bytes)
    (hb : BoundsOk opt.bounds.list) :
    cutLinesForwardOnlyWhole2 align opt segs = WholeLit.cutLinesForwardOnlyWhole opt segs := by
  unfold cutLinesForwardOnlyWhole2 WholeLit.cutLinesForwardOnlyWhole
  have h0 : LineIdxOk { lineIdx := 0, pastLastIndex := false, boundsIdx := 0, addNewlineNext := false } := by
    unfold LineIdxOk; decide
  simp only [readWhileSeg2_eq align opt hb _ segs _ h0]

theorem isForwardOnlyLit_eq (bounds : UserBoundsList) (hb : BoundsOk bounds.list) :
    isForwardOnlyLit bounds = .ok (isForwardOnly bounds.list) :=
  BoundsListLit.isForwardOnly_model bounds.list (boundsOk_allInI32 hb) _

theorem readAndCutLinesWhole2_eq (align : Bytes → Nat) (opt : Opt) (segs : List Bytes)
    (hb : BoundsOk opt.bounds.list) (hok : BagOK opt) (hsegs : ∀ s ∈ segs, s ≠ [])
    (hn : (!opt.complement && !opt.compressDelimiter && isForwardOnly opt.bounds.list) = false →
      validUtf8 segs.flatten = true → FieldsFit (stripEol opt.eol.byte segs.flatten) opt) :
    readAndCutLinesWhole2 align opt segs = WholeLit.readAndCutLinesWhole opt segs := by
  unfold readAndCutLinesWhole2 WholeLit.readAndCutLinesWhole
  rw [isForwardOnlyLit_eq opt.bounds hb]
  have hcb : (if (!opt.complement && !opt.compressDelimiter) = true then Res.ok (isForwardOnly opt.bounds.list)
      else Res.ok false) = .ok (!opt.complement && !opt.compressDelimiter && isForwardOnly opt.bounds.list) := by
    cases (!opt.complement && !opt.compressDelimiter) <;> rfl
  rw [hcb]
  simp only [CutStrLit.orStop]
  by_cases hs : (!opt.complement && !opt.compressDelimiter && isForwardOnly opt.bounds.list) = true
  · simp only [hs, if_true, cutLinesForwardOnlyWhole2_eq align opt segs hb]
  · simp only [hs, Bool.false_eq_true, if_false]
    rw [cutLinesWhole2_eq align opt segs hb hok hsegs (hn (by simpa using hs))]

/-- one call of the closure of cut_bytes.rs:13-33: the machine-integer `try_into_range` is the model's
    (it computes in `i64`: for every input shorter than 2⁶³ bytes, i.e. every `Vec`) -/
theorem cutBytesBody2_eq_i64 (data : Bytes) (opt : Opt) (bof : BoF)
    (hb : ∀ b, bof = .bound b → BoundOk b) (hn : data.length < 9223372036854775808) :
    cutBytesBody2 data opt bof = ReadLoops.cutBytesBody data opt bof := by
  cases bof with
  | filler f => rfl
  | bound b =>
    obtain ⟨hl, hr, h0⟩ := hb b rfl
    unfold cutBytesBody2 ReadLoops.cutBytesBody
    simp only []
    rw [BoundsLit.tryIntoRange_model_i64 b data.length hl hr hn h0]
    cases b.tryIntoRange data.length with
    | none => rfl
    | some r => rfl

theorem cutBytesBody2_eq (data : Bytes) (opt : Opt) (bof : BoF)
    (hb : ∀ b, bof = .bound b → BoundOk b) (hn : data.length < 2147483648) :
    cutBytesBody2 data opt bof = ReadLoops.cutBytesBody data opt bof :=
  cutBytesBody2_eq_i64 data opt bof hb (by omega)

theorem tryForEach_eq_seqMap (f : BoF → Run) (l : List BoF) : ReadLoops.tryForEach f l = Run.seqMap f l := by
  induction l with
  | nil => rfl
  | cons x t ih => simp only [ReadLoops.tryForEach, Run.seqMap, ih]

theorem cutBytesLit2_eq_i64 (data : Bytes) (opt : Opt) (hb : BoundsOk opt.bounds.list)
    (hn : data.length < 9223372036854775808) :
    cutBytesLit2 data opt = ReadLoops.cutBytesLit data opt := by
  unfold cutBytesLit2 ReadLoops.cutBytesLit
  rw [tryForEach_eq_seqMap, tryForEach_eq_seqMap,
    Run.seqMap_congr fun x hx => cutBytesBody2_eq_i64 data opt x (fun b hbx => hb b (hbx ▸ hx)) hn]

theorem cutBytesLit2_eq (data : Bytes) (opt : Opt) (hb : BoundsOk opt.bounds.list)
    (hn : data.length < 2147483648) :
    cutBytesLit2 data opt = ReadLoops.cutBytesLit data opt :=
  cutBytesLit2_eq_i64 data opt hb (by omega)

/-- **`-b`**: `read_and_cut_bytes` with the machine-integer `try_into_range`, on an input shorter
    than 2⁶³ bytes (every input that fits the `Vec` it is read into) -/
theorem readAndCutBytesLoop2_eq_i64 (opt : Opt) (segs : List Bytes) (hb : BoundsOk opt.bounds.list)
    (hsegs : ∀ s ∈ segs, s ≠ []) (hn : segs.flatten.length < 9223372036854775808) :
    readAndCutBytesLoop2 opt segs = ReadLoops.readAndCutBytesLoop opt segs := by
  unfold readAndCutBytesLoop2 ReadLoops.readAndCutBytesLoop
  simp only [ReadLoops.readBytesToEndLit_eq segs [] hsegs, cutBytesLit2_eq_i64 _ opt hb hn]

/-- the fast-lane clause of `inputFits2B`: the record has at most 2³¹ − 2 delimiters (`n` of them), or
    the scan stops early at a positive `i32` field -/
def partsFitB (lif : Side) (n : Nat) : Bool :=
  decide (n + 1 < 2147483648) ||
    match lif with
    | .some k => decide (0 < k) && decide (k ≤ i32Max)
    | .cont => false

theorem outputOf2_eq (line : Bytes) (b : UserBounds) (fields : List Nat) (opt : FastOpt)
    (r : Option (Nat × Nat)) :
    outputOf2 line b fields opt (BoundsLit.resOfOption r) = FastLoop.outputOf line b fields opt r := by
  cases r with
  | none => rfl
  | some p => rfl

/-- `output_parts` (fast_lane.rs:94-126) with the machine-integer `try_into_range` is
    `FastLoop.outputPartsLit`, for a `BoundOk` bound and any number of parts below 2⁶³ -/
theorem outputPartsLit2_eq_i64 (line : Bytes) (b : UserBounds) (fields : List Nat) (opt : FastOpt)
    (hb : BoundOk b) (hn : fields.length - 1 < 9223372036854775808) :
    outputPartsLit2 line b fields opt = FastLoop.outputPartsLit line b fields opt := by
  obtain ⟨hl, hr, h0⟩ := hb
  unfold outputPartsLit2 FastLoop.outputPartsLit
  unfold checkedSub
  by_cases h1 : 1 ≤ fields.length
  · rw [if_pos h1]
    simp only [FastLoop.orPanic]
    rw [BoundsLit.tryIntoRange_model_i64 b _ hl hr hn h0, outputOf2_eq]
    generalize FastLoop.outputOf line b fields opt _ = o
    cases o with
    | ok a => cases a <;> rfl
    | panic => rfl
    | hang => rfl
  · rw [if_neg h1]
    rfl

theorem fastTryForEach2_eq (buffer : Bytes) (fields : List Nat) (opt : FastOpt)
    (hn : fields.length - 1 < 9223372036854775808) : ∀ (l : List BoF), BoundsOk l →
    fastTryForEach2 buffer fields opt l = FastLoop.tryForEach buffer fields opt l
  | [], _ => rfl
  | bof :: t, hb => by
    have ht := fastTryForEach2_eq buffer fields opt hn t (fun b h => hb b (List.mem_cons_of_mem _ h))
    cases bof with
    | filler f => simp only [fastTryForEach2, FastLoop.tryForEach, fastTryForEachBody2, FastLoop.tryForEachBody, ht]
    | bound b =>
      simp only [fastTryForEach2, FastLoop.tryForEach, fastTryForEachBody2, FastLoop.tryForEachBody, ht,
        outputPartsLit2_eq_i64 buffer b fields opt (hb b List.mem_cons_self) hn]

/-- l.62-90 (what follows the scan: the `-s` test, the last entry of `fields`, `try_for_each` over
    the bounds), when the vector that reaches `output_parts` has at most 2⁶³ entries -/
theorem afterScan2_eq (buffer : Bytes) (opt : FastOpt) (lif : Side) (st : Int × List Nat)
    (hb : BoundsOk opt.bounds.list)
    (hn : (if Side.some st.1 ≠ lif then st.2.length + 1 else st.2.length) - 1 < 9223372036854775808) :
    afterScan2 buffer opt lif st = FastLoop.afterScan buffer opt lif st := by
  unfold afterScan2 FastLoop.afterScan
  simp only []
  by_cases h1 : (st.1 == 0 && opt.onlyDelimited) = true
  · rw [if_pos h1, if_pos h1]
  · rw [if_neg h1, if_neg h1]
    rw [fastTryForEach2_eq buffer _ opt ?_ _ hb]
    by_cases hs : Side.some st.1 ≠ lif
    · rw [if_pos hs] at hn ⊢
      simpa only [push, List.length_append, List.length_cons, List.length_nil] using hn
    · rw [if_neg hs] at hn ⊢
      exact hn

/-- **`cut_str_fast_lane` with the machine-integer `try_into_range`**, under the hypothesis of
    `cutStrFastLaneLoop_eq` (`CounterFits`: it keeps the number of parts handed to `try_into_range`
    below 2³¹ + 2, and any number below 2⁶³ would do) -/
theorem cutStrFastLaneLoop2_eq (initialBuffer : Bytes) (opt : FastOpt) (fields : List Nat) (lif : Side)
    (hb : BoundsOk opt.bounds.list) (hfit : FastLoop.CounterFits lif initialBuffer.length) :
    cutStrFastLaneLoop2 initialBuffer opt fields lif = cutStrFastLaneLoop initialBuffer opt fields lif := by
  -- the two texts differ only in what follows the scan: the decomposition of `Lemmas/FastLoop`
  have h2 : cutStrFastLaneLoop2 initialBuffer opt fields lif =
      ((FastLoop.afterTrimWith afterScan2 (fastTrimmed initialBuffer opt) opt lif).1,
       (FastLoop.afterTrimWith afterScan2 (fastTrimmed initialBuffer opt) opt lif).2.getD fields) := by
    unfold cutStrFastLaneLoop2 FastLoop.afterTrimWith fastTrimmed
    -- as in `FastLoop.loop_of_trimmed`, on the other definition: empty test, then the three outcomes of the scan
    cases opt.trim <;> simp only [FastLoop.trim_eq, push, clear, List.nil_append] <;> split <;>
      first | rfl | (generalize FastLoop.scanFor lif _ 0 [0] = x; cases x <;> rfl)
  rw [h2, FastLoop.loop_of_trimmed, FastLoop.afterTrim, FastLoop.afterTrimWith_congr fun st hsc => ?_]
  apply afterScan2_eq _ opt lif st hb
  obtain ⟨h1, h2⟩ := FastLoop.handed_length_le hsc
  rw [FastLoop.memchrIter_length] at h1
  have hc := (List.count_le_length (a := opt.delimiter) (l := fastTrimmed initialBuffer opt))
  have hl := (FastLoop.fastTrimmed_sublist initialBuffer opt).length_le
  rcases hfit with hf | ⟨k, hk, hk0, hk1⟩
  · unfold i32Max at hf
    omega
  · have := h2 k hk hk0
    unfold i32Max at hk1
    omega

open ReadLoops (foldRecords) in
theorem readAndCutTextAsBytesWhole2_eq (opt : FastOpt) (segs : List Bytes) (hb : BoundsOk opt.bounds.list)
    (hsegs : ∀ s ∈ segs, s ≠ [])
    (hfit : ∀ r ∈ records opt.eol.byte segs.flatten,
      FastLoop.CounterFits opt.bounds.lastInteresting r.length) :
    readAndCutTextAsBytesWhole2 opt segs = WholeLit.readAndCutTextAsBytesWhole opt segs := by
  unfold readAndCutTextAsBytesWhole2 WholeLit.readAndCutTextAsBytesWhole
  simp only [ReadLoops.forByteRecordLoop_eq_records _ _ _ _ hsegs]
  rw [WholeLit.foldRecords_congr (fastLaneClosure2 opt opt.bounds.lastInteresting)
    (WholeLit.fastLaneClosure opt opt.bounds.lastInteresting) _ _ (fun r hr st => by
      simp only [fastLaneClosure2, WholeLit.fastLaneClosure,
        cutStrFastLaneLoop2_eq r opt st _ hb (hfit r hr)])]
  cases opt.eol <;> rfl

section Stream
open StreamLoop OptLit

/-- the positions an ascending iterator still has to yield, all at or after `lo` -/
def Asc : Nat → List Nat → Prop
  | _, [] => True
  | lo, x :: t => lo ≤ x ∧ Asc (x + 1) t

theorem Asc.weaken : ∀ {iter : List Nat} {lo lo' : Nat}, lo' ≤ lo → Asc lo iter → Asc lo' iter
  | [], _, _, _, _ => trivial
  | _ :: _, _, _, h, ⟨h1, h2⟩ => ⟨Nat.le_trans h h1, h2⟩

theorem memchr2IterFrom_asc (n1 n2 : UInt8) : ∀ (l : Bytes) (i : Nat), Asc i (memchr2IterFrom n1 n2 i l)
  | [], _ => trivial
  | c :: t, i => by
    unfold memchr2IterFrom
    split
    · exact ⟨Nat.le_refl _, memchr2IterFrom_asc n1 n2 t (i + 1)⟩
    · exact (memchr2IterFrom_asc n1 n2 t (i + 1)).weaken (Nat.le_succ _)

variable (s : StreamOptLit) (lif : Side) (hneg : hasNegativeIndices s.bounds.list.list = false)

include hneg in
/-- l.312-365 (the body of the `for` over `memchr2_iter`): the statement-level `print_bof` is the
    model's when `curr_field ≥ 1` and `chunk_part_start_idx ≤ chunk_idx` -/
theorem forBody2_eq (chunk : Bytes) (idx : Nat) (v : Vars) (hk : 1 ≤ v.currField)
    (hc : v.chunkPartStartIdx ≤ idx) :
    forBody2 s lif chunk idx v = forBody (s.toModel lif) chunk idx v := by
  unfold forBody2 forBody
  cases hg : chunk[idx]? with
  | none => rfl
  | some c =>
    have hlt : idx < chunk.length := (List.getElem?_eq_some_iff.mp hg).1
    simp only []
    rw [printBofLit_eq_of_noNeg s lif v.bofIdx v.currField chunk v.chunkPartStartIdx idx
      v.prevChunkMayBeTruncated true ⟨hc, Nat.le_of_lt hlt⟩ hneg hk]
    simp only [printFillerOrFallbacksOf_eq s lif]
    rfl

include hneg in
theorem forLoop2_eq (chunk : Bytes) : ∀ (iter : List Nat) (v : Vars), 1 ≤ v.currField →
    v.chunkPartStartIdx ≤ chunk.length → Asc v.chunkPartStartIdx iter →
    forLoop2 s lif chunk iter v = forLoop (s.toModel lif) chunk iter v
  | [], _, _, _, _ => rfl
  | idx :: iter, v, hk, hl, ⟨h1, h2⟩ => by
    unfold forLoop2 forLoop
    rw [forBody2_eq s lif hneg chunk idx v hk h1]
    simp only []
    by_cases hb : (forBody (s.toModel lif) chunk idx v).2.2 = true
    · rw [if_pos hb, if_pos hb]
    · rw [if_neg hb, if_neg hb]
      have hc := forBody_vars (s.toModel lif) chunk idx v
      rw [forLoop2_eq chunk iter _ (Int.le_trans hk hc.1.currField) (hc.1.cps hl)
        (by rw [hc.2 (by simpa using hb)]; exact h2)]

include hneg in
/-- l.367-388 ("Handle remaining data in chunk"), when `curr_field ≥ 1` and
    `chunk_part_start_idx ≤ chunk.len()` -/
theorem remainingData2_eq (chunk : Bytes) (v : Vars) (hk : 1 ≤ v.currField)
    (hc : v.chunkPartStartIdx ≤ chunk.length) :
    remainingData2 s chunk v = remainingData (s.toModel lif) chunk v := by
  unfold remainingData2 remainingData
  simp only []
  rw [printBofLit_eq_of_noNeg s lif v.bofIdx v.currField chunk v.chunkPartStartIdx chunk.length
    v.prevChunkMayBeTruncated false ⟨hc, Nat.le_refl _⟩ hneg hk]

include hneg in
/-- l.305-388 (one chunk: the `for` loop, then the remaining data), when `curr_field ≥ 1` -/
theorem chunkBody2_eq (chunk : Bytes) (v : Vars) (hk : 1 ≤ v.currField) :
    chunkBody2 s lif chunk v = chunkBody (s.toModel lif) chunk v := by
  unfold chunkBody2 chunkBody
  simp only []
  have hl := forLoop2_eq s lif hneg chunk (memchr2Iter s.delimiter s.eol.byte chunk)
    { v with emptyLine := false, chunkPartStartIdx := 0, bytesToConsume := 0 } hk (Nat.zero_le _)
    (memchr2IterFrom_asc _ _ chunk 0)
  have hm : memchr2Iter (s.toModel lif).delimiter (s.toModel lif).eol.byte chunk =
    memchr2Iter s.delimiter s.eol.byte chunk := rfl
  rw [hm, hl]
  rw [remainingData2_eq s lif hneg chunk
    (forLoop (s.toModel lif) chunk (memchr2Iter s.delimiter s.eol.byte chunk)
      { v with emptyLine := false, chunkPartStartIdx := 0, bytesToConsume := 0 }).2
    (Int.le_trans hk (forLoop_currField (s.toModel lif) chunk _
      { v with emptyLine := false, chunkPartStartIdx := 0, bytesToConsume := 0 }))
    ((forLoop_vars (s.toModel lif) chunk _
      { v with emptyLine := false, chunkPartStartIdx := 0, bytesToConsume := 0 }).cps (Nat.zero_le _))]

include hneg in
theorem whileStep2_eq (stdin : List Bytes) (v : Vars) (hk : 1 ≤ v.currField) :
    whileStep2 s lif stdin v = whileStep (s.toModel lif) stdin v := by
  unfold whileStep2 whileStep
  simp only [chunkBody2_eq s lif hneg _ v hk]

include hneg in
/-- l.395-417 (after `'new_chunk`: EOF at the end of a line, the end of the record), when
    `curr_field ≥ 1` -/
theorem afterNewChunk2_eq (v : Vars) (hk : 1 ≤ v.currField) :
    afterNewChunk2 s v = afterNewChunk (s.toModel lif) v := by
  unfold afterNewChunk2 afterNewChunk
  simp only []
  rw [printBofLit_eq_of_noNeg s lif v.bofIdx v.currField [] 0 0 v.prevChunkMayBeTruncated true
    ⟨Nat.le_refl _, Nat.le_refl _⟩ hneg hk]
  simp only [printFillerOrFallbacksOf_eq s lif]
  rfl

include hneg in
/-- the two loops (l.287-418), from any state with `curr_field ≥ 1` and with any fuel -/
theorem newChunk2_eq : ∀ (fuel : Nat) (stdin : List Bytes) (v : Vars), 1 ≤ v.currField →
    newChunk2 s lif fuel stdin v = newChunk (s.toModel lif) fuel stdin v
  | 0, _, _, _ => rfl
  | fuel + 1, stdin, v, hk => by
    unfold newChunk2 newChunk
    rw [whileStep2_eq s lif hneg stdin v hk]
    rcases whileStep_cases (s.toModel lif) stdin v with ⟨_, hw⟩ | ⟨v', hw, _, hcf⟩
    · rw [hw]
      simp only []
      rw [newChunk2_eq fuel _ _ (Int.le_trans hk (chunkBody_currField _ _ v))]
    · rw [hw]
      simp only []
      rw [afterNewChunk2_eq s lif hneg v' (hcf ▸ hk),
        newChunk2_eq fuel stdin (newLineVars v'.eof) (show (1 : Int) ≤ 1 from Int.le_refl _)]

include hneg in
/-- **`cut_bytes_stream` with the statement-level `print_bof`** is the transcription of
    `Tuc.Model.StreamLoop`, for every option record without negative indexes, every reader -/
theorem cutBytesStreamLoop2_eq (segs : List Bytes) :
    cutBytesStreamLoop2 s lif segs = cutBytesStreamLoop (s.toModel lif) segs := by
  unfold cutBytesStreamLoop2 cutBytesStreamLoop
  exact newChunk2_eq s lif hneg _ segs _ (show (1 : Int) ≤ 1 from Int.le_refl _)

end Stream

theorem readAndCutBytesStreamWhole2_eq (o : Opt) (s : OptLit.StreamOptLit)
    (h : OptLit.StreamOptLit.tryFrom o = .ok s) (segs : List Bytes) :
    readAndCutBytesStreamWhole2 s segs = WholeLit.readAndCutBytesStreamWhole s segs := by
  obtain ⟨_, _, _, b, _, hso⟩ := OptLit.StreamOptLit.tryFrom_ok o s h
  have hneg : hasNegativeIndices s.bounds.list.list = false := StreamLoop.streamOptOf_noNeg o _ hso
  unfold readAndCutBytesStreamWhole2 WholeLit.readAndCutBytesStreamWhole
  cases s.bounds.getLastBound with
  | none => rfl
  | some b => simp only [cutBytesStreamLoop2_eq s b.r hneg segs]

theorem boundsArg2_eq : boundsArg2 = boundsArg := by
  funext a
  exact BoundsListLit.fromStrLit_toModel a

theorem parseWith2_eq {σ : Type} (ops : Ops σ) (regexOk : Arg → Bool) :
    parseWith2 ops regexOk = parseWith ops regexOk := by
  unfold parseWith2 parseWith
  rw [boundsArg2_eq]
  rfl

theorem parseArgv2_eq (regexOk : Arg → Bool) (argv : List Arg) :
    parseArgv2 regexOk argv = parseArgv regexOk argv := by
  unfold parseArgv2 parseArgv
  rw [parseWith2_eq]

open WholeLit (engineFitsB inputFitsB programFitsB InDomain engineFitsB_reads engineFitsB_input)

/-- **what `tucProgramLit2_eq` asks of the input in addition to `WholeLit.inputFitsB`**, for the
    machine-integer `try_into_range` of `cut_bytes` and of the fast lane:

    * `-b`: the input is shorter than 2³¹ bytes (`cut_bytes` calls `try_into_range(data.len())`);
    * fast lane: on every record the number of parts fits (`partsFitB`);
    * `-M`, `-l`, the general engine: nothing more.

    Both clauses are sufficient, not necessary: `try_into_range` computes in `i64`
    (`BoundsLit.tryIntoRange_eq_i64`), so `readAndCutBytesLoop2_eq_i64` and `outputPartsLit2_eq_i64` hold up
    to 2⁶³, and `dispatchWhole2_eq` reads the `-b` clause only as "below 2⁶³" and the fast-lane clause not at
    all: `cutStrFastLaneLoop2_eq` has the hypothesis of `cutStrFastLaneLoop_eq`, `FastLoop.CounterFits`, which
    `WholeLit.InDomain` contains (where the `i32` counter `curr_field` overflows both programs panic alike)
    and which keeps the number of parts below 2³¹ + 2. -/
def inputFits2B (opt : Opt) (input : Bytes) : Bool :=
  if opt.fixedMemory.isSome then true
  else if opt.boundsType = .bytes then decide (input.length < 2147483648)
  else if opt.boundsType = .lines then true
  else
    match OptLit.FastOptLit.tryFrom opt with
    | .ok fastOpt =>
      (records fastOpt.eol.byte input).all fun r =>
        partsFitB fastOpt.bounds.lastInteresting (r.count fastOpt.delimiter)
    | .fail => true
    | .panic => true

/-- **the domain of `tucProgramLit2_eq`**: `WholeLit.programFitsB`, and `inputFits2B` when an engine runs -/
def programFits2B (regexOk : Arg → Bool) (argv : List Arg) (segs : List Bytes) : Bool :=
  programFitsB regexOk argv segs &&
    match parseArgv regexOk argv with
    | .run o _ regexText =>
      match compileBag o regexText with
      | Option.some bag =>
        (o.boundsType = .characters && !validUtf8 segs.flatten)
          || inputFits2B { o with regexBag := bag } segs.flatten
      | Option.none => true
    | _ => true

/-- `programFits2B … = true`, the hypothesis of `tucProgramLit2_eq` -/
def InDomain2 (regexOk : Arg → Bool) (argv : List Arg) (segs : List Bytes) : Prop :=
  programFits2B regexOk argv segs = true

instance (regexOk : Arg → Bool) (argv : List Arg) (segs : List Bytes) : Decidable (InDomain2 regexOk argv segs) :=
  inferInstanceAs (Decidable (_ = true))

theorem InDomain2.inDomain {regexOk : Arg → Bool} {argv : List Arg} {segs : List Bytes}
    (h : InDomain2 regexOk argv segs) : InDomain regexOk argv segs := by
  unfold InDomain2 programFits2B at h
  rw [Bool.and_eq_true] at h
  exact h.1

theorem fastOptLit_bounds {o : Opt} {fo : FastOpt} (h : OptLit.FastOptLit.tryFrom o = .ok fo) :
    fo.bounds = o.bounds := by
  rw [OptLit.FastOptLit.tryFrom_eq] at h
  cases hf : fastOptOf o with
  | none => rw [hf] at h; cases h
  | some fo' =>
    rw [hf] at h
    simp only [BoundsLit.resOfOption, Res.ok.injEq] at h
    subst h
    exact (fastOptOf_facts hf).bounds

theorem dispatchWhole2_eq (align : Bytes → Nat) (opt : Opt) (segs : List Bytes)
    (hb : BoundsOk opt.bounds.list) (hok : BagOK opt) (hfit : engineFitsB opt segs = true)
    (hin2 : inputFits2B opt segs.flatten = true) :
    dispatchWhole2 align opt segs = WholeLit.dispatchWhole opt segs := by
  have hsegs := engineFitsB_reads hfit
  have hin := engineFitsB_input hfit
  unfold dispatchWhole2 WholeLit.dispatchWhole
  unfold inputFitsB at hin
  unfold inputFits2B at hin2
  by_cases hfm : opt.fixedMemory.isSome = true
  · simp only [hfm, if_true]
    cases ht : OptLit.StreamOptLit.tryFrom opt with
    | ok s => simp only [readAndCutBytesStreamWhole2_eq opt s ht segs]
    | fail => rfl
    | panic => rfl
  · simp only [hfm, Bool.false_eq_true, if_false] at hin hin2 ⊢
    by_cases h1 : opt.boundsType = .bytes
    · simp only [h1, if_true, decide_eq_true_eq] at hin2 ⊢
      rw [readAndCutBytesLoop2_eq_i64 opt segs hb hsegs (by omega)]
    · simp only [h1, if_false] at hin hin2 ⊢
      by_cases h2 : opt.boundsType = .lines
      · simp only [h2, if_true] at hin ⊢
        rw [readAndCutLinesWhole2_eq align opt segs hb hok hsegs]
        intro hs hv
        simp only [hs, hv, Bool.not_true, Bool.false_or] at hin
        exact (CutStrLitProps.fieldsFit_iff _ _).mp hin
      · simp only [h2, if_false] at hin hin2 ⊢
        cases ht : OptLit.FastOptLit.tryFrom opt with
        | ok fo =>
          simp only [ht, List.all_eq_true, WholeLit.counterFitsB_iff] at hin
          simp only []
          rw [readAndCutTextAsBytesWhole2_eq fo segs (by rw [fastOptLit_bounds ht]; exact hb) hsegs hin]
        | fail =>
          simp only [ht, List.all_eq_true, CutStrLitProps.fieldsFit_iff] at hin
          simp only [readAndCutStrWhole2_eq align opt segs hb hok hsegs hin]
        | panic => rfl

theorem inDomain2_iff_of_run {regexOk : Arg → Bool} {argv : List Arg} {o : Opt} {fm : Bool} {rt : Option Arg}
    {bag : Option RegexBag} (hp : parseArgv regexOk argv = .run o fm rt)
    (hc : compileBag o rt = Option.some bag) (segs : List Bytes)
    (hu : (o.boundsType = .characters && !validUtf8 segs.flatten) = false) :
    InDomain2 regexOk argv segs ↔
      InDomain regexOk argv segs ∧ inputFits2B { o with regexBag := bag } segs.flatten = true := by
  unfold InDomain2 programFits2B InDomain
  simp only [hp, hc, hu, Bool.false_or, Bool.and_eq_true]

theorem tucProgramLit2_eq_programWith (align : Bytes → Nat) (regexOk : Arg → Bool) (argv : List Arg)
    (segs : List Bytes) :
    tucProgramLit2 align regexOk argv segs = programWith (fun o _ => dispatchWhole2 align o) regexOk argv segs := by
  unfold tucProgramLit2
  rw [parseArgv2_eq]
  rfl

/-- **`tucProgramLit2` is `tucProgramLit`** on `InDomain2`, whatever the alignment oracle: the regex
    bag that `main` stores honours the contract of `find_iter` (`compileBag_ok`), so no hypothesis on
    it is left -/
theorem tucProgramLit2_eq_tucProgramLit (align : Bytes → Nat) (regexOk : Arg → Bool) (argv : List Arg)
    (segs : List Bytes) (h : InDomain2 regexOk argv segs) :
    tucProgramLit2 align regexOk argv segs = WholeLit.tucProgramLit regexOk argv segs :=
  (tucProgramLit2_eq_programWith align regexOk argv segs).trans <|
    programWith_congr (d₂ := fun o _ => WholeLit.dispatchWhole o) rfl fun o fm rt bag hp hc hu =>
      dispatchWhole2_eq align _ segs (CutStrLitProps.boundsOk_of_parseArgv regexOk argv o fm rt hp)
        (compileBag_ok o rt bag hc)
        (WholeLit.engineFitsB_iff.mpr ((WholeLit.inDomain_iff_of_run hp hc segs hu).mp h.inDomain))
        ((inDomain2_iff_of_run hp hc segs hu).mp h).2

/-- **the program with the callees of the literal pieces at statement level is `tucMain`**, on
    `InDomain2`, whatever the alignment oracle (`tucProgramLit2_eq_tucProgramLit`, then
    `WholeLit.tucProgramLit_eq`) -/
theorem tucProgramLit2_eq (align : Bytes → Nat) (regexOk : Arg → Bool) (argv : List Arg)
    (segs : List Bytes) (h : InDomain2 regexOk argv segs) :
    tucProgramLit2 align regexOk argv segs = tucMain regexOk argv segs := by
  rw [tucProgramLit2_eq_tucProgramLit align regexOk argv segs h,
    WholeLit.tucProgramLit_eq regexOk argv segs h.inDomain]

/-- help, version, a rejected command line: no condition at all -/
theorem inDomain2_of_not_run {regexOk : Arg → Bool} {argv : List Arg}
    (h : ∀ o fm rt, parseArgv regexOk argv ≠ .run o fm rt) (segs : List Bytes) :
    InDomain2 regexOk argv segs := by
  have h1 := WholeLit.inDomain_of_not_run h segs
  unfold InDomain at h1
  unfold InDomain2 programFits2B
  rw [h1, Bool.true_and]
  cases hp : parseArgv regexOk argv with
  | run o fm rt => exact absurd hp (h o fm rt)
  | _ => rfl

theorem inDomain2_of_flatten {regexOk : Arg → Bool} {argv : List Arg} {segs segs' : List Bytes}
    (h : InDomain2 regexOk argv segs) (hsegs' : ∀ s ∈ segs', s ≠ []) (he : segs.flatten = segs'.flatten) :
    InDomain2 regexOk argv segs' := by
  have h1 : InDomain regexOk argv segs' := WholeLit.inDomain_of_flatten h.inDomain hsegs' he
  unfold InDomain at h1
  unfold InDomain2 programFits2B at h ⊢
  rw [Bool.and_eq_true] at h
  rw [h1, Bool.true_and, ← he]
  exact h.2

/-- **(1) no panic, no endless loop**: on its domain the program made of the Rust statements — here
    including the loops of `trim` / `fill_with_fields_locations*` / `compress_delimiter` over
    `memmem::FindIter::next`, `trim_regex`, `Regex::replace_all`, `serde_json::to_string`, core's
    `run_utf8_validation`, `UserBoundsList::from_str` / `complement` / `unpack` / `is_forward_only`,
    `try_into_range` and `matches` with `i32`s everywhere — reaches no panic site (no slice, no index,
    no `unwrap`, no `i32` overflow, no `unreachable!`, no `from_utf8_unchecked` on bytes that are not
    UTF-8), runs out of fuel in no loop, and ends with exit status 0 or 1 -/
theorem tucProgramLit2_never_panics (align : Bytes → Nat) (regexOk : Arg → Bool) (argv : List Arg)
    (segs : List Bytes) (h : InDomain2 regexOk argv segs) :
    tucProgramLit2 align regexOk argv segs ≠ .panic ∧
      ∀ r, tucProgramLit2 align regexOk argv segs = .run r → r.status = .ok ∨ r.status = .fail := by
  rw [tucProgramLit2_eq align regexOk argv segs h]
  exact tucMain_never_panics regexOk argv segs

theorem tucProgramLit2_run_status (align : Bytes → Nat) (regexOk : Arg → Bool) (argv : List Arg)
    (segs : List Bytes) (h : InDomain2 regexOk argv segs) (r : Run)
    (hr : tucProgramLit2 align regexOk argv segs = .run r) :
    r.status ≠ .panic ∧ r.status ≠ .hang := by
  rw [tucProgramLit2_eq align regexOk argv segs h] at hr
  exact tucMain_run_status regexOk argv segs r hr

/-- **(2) chunk independence** — and independence of the addresses of the validated slices (two
    alignment oracles) -/
theorem tucProgramLit2_chunk_independent (align₁ align₂ : Bytes → Nat) (regexOk : Arg → Bool)
    (argv : List Arg) (segs₁ segs₂ : List Bytes)
    (h₁ : InDomain2 regexOk argv segs₁) (h₂ : InDomain2 regexOk argv segs₂)
    (he : segs₁.flatten = segs₂.flatten) :
    tucProgramLit2 align₁ regexOk argv segs₁ = tucProgramLit2 align₂ regexOk argv segs₂ := by
  rw [tucProgramLit2_eq align₁ regexOk argv segs₁ h₁, tucProgramLit2_eq align₂ regexOk argv segs₂ h₂]
  exact tucMain_chunk_independent regexOk argv segs₁ segs₂ he

/-- chunk independence with the domain condition of the second segmentation reduced to "no empty
    read" (`inDomain2_of_flatten`) -/
theorem tucProgramLit2_chunk_independent' (align₁ align₂ : Bytes → Nat) (regexOk : Arg → Bool)
    (argv : List Arg) (segs₁ segs₂ : List Bytes)
    (h₁ : InDomain2 regexOk argv segs₁) (h₂ : ∀ s ∈ segs₂, s ≠ [])
    (he : segs₁.flatten = segs₂.flatten) :
    tucProgramLit2 align₁ regexOk argv segs₁ = tucProgramLit2 align₂ regexOk argv segs₂ :=
  tucProgramLit2_chunk_independent align₁ align₂ regexOk argv segs₁ segs₂ h₁
    (inDomain2_of_flatten h₁ h₂ he) he

/-- the result does not depend on the alignment of the slices handed to `from_utf8` -/
theorem tucProgramLit2_align_irrelevant (align₁ align₂ : Bytes → Nat) (regexOk : Arg → Bool)
    (argv : List Arg) (segs : List Bytes) (h : InDomain2 regexOk argv segs) :
    tucProgramLit2 align₁ regexOk argv segs = tucProgramLit2 align₂ regexOk argv segs :=
  tucProgramLit2_chunk_independent align₁ align₂ regexOk argv segs segs h h rfl

/-! ## non-vacuity: the `#guard`s of the non-vacuity section of `Tuc.Props.WholeLit`, against `tucProgramLit2` -/

open WholeLit (argvOf readsOf okS yes)
open ReadLoops (bytesOf)

/-- the oracle "always aligned".  The second one, `align1`, depends on the slice: `usize::MAX` —
    what `align_offset` may answer — for slices of even length. -/
def align0 : Bytes → Nat := fun _ => 0
def align1 : Bytes → Nat := fun b => if b.length % 2 = 0 then LibLit.usizeMax else (b.length * 5 + 3) % 8

def agreeB (argv : List Arg) (reads : List Bytes) (expected : MainResult) : Bool :=
  programFits2B yes argv reads
    && tucProgramLit2 align0 yes argv reads == expected
    && tucProgramLit2 align1 yes argv reads == expected
    && WholeLit.tucProgramLit yes argv reads == expected && tucMain yes argv reads == expected

def agree (argv : List String) (reads : List String) (expected : MainResult) : Bool :=
  agreeB (argvOf argv) (readsOf reads) expected

#guard agree ["-d", ":", "-f", "2,1", "-r", "-"] ["a:b", ":c\nx", ":y:z\n"] (okS "b-a\ny-x\n")
#guard agree ["-z", "-d", ":", "-f", "2", "-g"] ["a::b\x00c:", ":d"] (okS "b\x00d\x00")
#guard agree ["-d", ":", "-f", "3", "-r", "-"] ["a:b\nc:d:e\n"] (.run Run.fail)
#guard agree ["-d", ":", "-f", "1,3"] ["a:b", ":c\nx", ":y:z\n"] (okS "ac\nxz\n")
#guard agree ["-d", ":", "-f", "2", "-s"] ["a:b\nc", "\nd:e"] (okS "b\ne\n")
#guard agree ["-M", "1", "-d", ":", "-f", "1,3"] ["a:b", ":c\nx", ":y:z\n"] (okS "ac\nxz\n")
#guard agree ["-M", "1", "-f", "2", "-g"] ["a\n"] .reject
#guard agree ["-l", "2:3"] ["a\nb", "b\nc\n", "d\n"] (okS "bb\nc\n")
#guard agree ["-l", "2:3", "-z"] ["a\x00b", "b\x00c\x00", "d\x00"] (okS "bb\x00c\x00")
#guard agreeB (argvOf ["-l", "2:"]) [[97, 10, 255], [98, 10]] (.run Run.fail)
#guard agree ["-l", "3,1"] ["a\nb", "b\nc\n", "d\n"] (okS "c\na\n")
#guard agreeB (argvOf ["-l", "2,1"]) [[97, 10, 255], [98, 10]] (.run Run.fail)
#guard agree ["-b", "2:3"] ["ab", "cd", "e"] (okS "bc")
#guard agreeB (argvOf ["-c", "2:3"]) [[104, 195], [169, 108, 108, 111, 10, 119, 111, 114], [108, 100, 10]]
  (okS "él\nor\n")
#guard agree ["-d", ":", "-f", "2:3", "--json"] ["a:b", ":c\nx", ":y:z\n"] (okS "[\"b\",\"c\"]\n[\"y\",\"z\"]\n")
#guard agree ["-e", "[:;]+", "-f", "2"] ["a:;b;", "c\nx", ";y\n"] (okS "b\ny\n")
#guard agree ["-e", "[0-9]*", "-f", "2"] ["a1b\n"] .unmodelled
#guard agree ["-f", "0"] ["a\n", ""] .reject
#guard agree ["--help"] ["", "a\n"] .help
#guard agree [] [] .help
#guard agree ["-V"] ["a\n"] .version
#guard agreeB (argvOf ["-c", "1"]) [[255], [], [10]] .unmodelled

-- more of the substituted callees: `-t` / `-p` / `-g` (the loops of `trim`, `compress_delimiter`,
-- `fill_with_fields_locations_greedy`), `-m` (`complement`), `--json` with an escape and a range to
-- unpack, `-e` with `-t -p -r` (`trim_regex`, `compress_delimiter_with_regex`, `replace_all`), a
-- format string (the scanner `parse_bounds_list`), `-l -m` (`is_forward_only` is not asked)
#guard agree ["-d", "ab", "-f", "2", "-t", "b", "-p"] ["ababxab", "abyababab\n"] (okS "y\n")
#guard agree ["-d", ":", "-f", "2", "-g", "-m"] ["a::b:c\n"] (okS "ac\n")
#guard agree ["-d", ":", "-f", "-2:", "--json"] ["a:\"b", ":c\tz\n"] (okS "[\"\\\"b\",\"c\\tz\"]\n")
#guard agree ["-e", "[ ]+", "-f", "2,1", "-t", "b", "-p", "-r", "_"] ["  a   b", " c \n"] (okS "b_a\n")
#guard agree ["-d", ":", "-f", "<{2}>-{1=x}\\n"] ["a:b\n"] (okS "<b>-a\n\n")
#guard agree ["-l", "2", "-m"] ["a\nb\n", "c\n"] (okS "a\nc\n")

/-- an instance of the capstone theorem (general engine, three reads, the second oracle) -/
example :
    tucProgramLit2 align1 yes (argvOf ["-d", ":", "-f", "2,1", "-r", "-"]) (readsOf ["a:b", ":c\nx", ":y:z\n"]) =
      tucMain yes (argvOf ["-d", ":", "-f", "2,1", "-r", "-"]) (readsOf ["a:b", ":c\nx", ":y:z\n"]) :=
  tucProgramLit2_eq _ _ _ _ (by decide +kernel)

/-! … and the `differ` lines of `Tuc.Props.WholeLit` (its last section; an empty read in the middle: outside the
domain, the program made of the Rust statements stops early, `tucMain` does not), with the same
results for `tucProgramLit2` -/

def differ (argv : List String) (reads : List String) (lit model : MainResult) : Bool :=
  !programFits2B yes (argvOf argv) (readsOf reads)
    && tucProgramLit2 align0 yes (argvOf argv) (readsOf reads) == lit
    && tucProgramLit2 align1 yes (argvOf argv) (readsOf reads) == lit
    && tucMain yes (argvOf argv) (readsOf reads) == model

#guard differ ["-d", ":", "-f", "2,1", "-r", "-"] ["a:b\nc:", "", "d\n"]
  (.run ⟨bytesOf "b-a\n-c\n", .fail⟩) (okS "b-a\nd-c\n")
#guard differ ["-d", ":", "-f", "2"] ["a:b\nc:", "", "d\n"] (.run ⟨bytesOf "b\n\n", .fail⟩) (okS "b\nd\n")
#guard differ ["-M", "1", "-d", ":", "-f", "2"] ["a:b\nc:", "", "d\n"] (okS "b\n\n") (okS "b\nd\n")
#guard differ ["-l", "2:3"] ["a\nb", "", "b\nc\n", "d\n"] (okS "b\nb\n") (okS "bb\nc\n")
#guard differ ["-l", "3,1"] ["a\nb", "", "b\nc\n", "d\n"] (.run Run.fail) (okS "c\na\n")
#guard differ ["-b", "2:3"] ["ab", "", "cd", "e"] (.run Run.fail) (okS "bc")

/-! ## `inputFits2B` is only sufficient; `BagOK` cannot be dropped

### `inputFits2B`, `-b`: an input of 2³¹ bytes or more

`cut_bytes` (cut_bytes.rs:15) calls `b.try_into_range(data.len())`, which computes in `i64`
(`BoundsLit.tryIntoRange_eq_i64`): `readAndCutBytesLoop2_eq_i64` holds for every option record and every
input shorter than 2⁶³ bytes, and on `tuc -b 1:` with 2³¹ bytes of input the program made of the Rust
statements prints the input, as `tucProgramLit` and `tucMain` do
(`tucProgramLit2_eq_tucMain_on_2GiB_input`). -/

open CutStrLitProps (oneOpen) in
/-- the `Opt` that `parse_args` builds for `tuc -b 1:` -/
def optB1 : Opt :=
  { delimiter := [], boundsType := .bytes,
    bounds := { list := [.bound oneOpen], lastInteresting := .cont } }

open CutStrLitProps (oneOpen) in
/-- **`-b 1:` on ANY non-empty input** (one read; shorter than 2⁶³ bytes, as every `Vec` is) — 2³¹ bytes
    and more included: the engine made of the Rust statements with the machine-integer `try_into_range`
    prints the input, as the engine of `Tuc.Model.WholeLit` (hence `tucMain`) does -/
theorem readAndCutBytesLoop2_on_large (data : Bytes) (hne : data ≠ [])
    (h : data.length < 9223372036854775808) :
    readAndCutBytesLoop2 optB1 [data] = Run.ok data ∧
      ReadLoops.readAndCutBytesLoop optB1 [data] = Run.ok data := by
  have hsegs : ∀ s ∈ [data], s ≠ [] := List.forall_mem_singleton.mpr hne
  have hf : [data].flatten = data := by simp
  -- the literal engine is the model (`readAndCutBytesLoop_eq`); the model on the one bound `1:`
  have h2 : ReadLoops.readAndCutBytesLoop optB1 [data] = Run.ok data := by
    rw [ReadLoops.readAndCutBytesLoop_eq _ _ hsegs, hf, readAndCutBytes, if_neg (by simpa using hne)]
    show cutBytesLoop data optB1 [.bound oneOpen] = _
    rw [cutBytesLoop, CutStrLitProps.tryIntoRange_oneOpen _ (List.length_pos_iff.mpr hne)]
    simp [slice, cutBytesLoop, Run.pre, Run.ok, Run.empty]
  exact ⟨by rw [readAndCutBytesLoop2_eq_i64 optB1 [data] CutStrLitProps.boundsOk_oneOpen hsegs (by rw [hf]; exact h), h2], h2⟩

/-- `tuc -b 1:` on ONE read `data`, non-empty, of any length below 2⁶³: `InDomain` holds, and the program
    with the machine-integer `try_into_range` prints `data`, as `tucProgramLit` does -/
theorem tucProgramLit2_bytes_on_large (align : Bytes → Nat) (data : Bytes) (hne : data ≠ [])
    (h : data.length < 9223372036854775808) :
    InDomain yes [['-', 'b'], ['1', ':']] [data] ∧
      tucProgramLit2 align yes [['-', 'b'], ['1', ':']] [data] = .run (Run.ok data) ∧
      WholeLit.tucProgramLit yes [['-', 'b'], ['1', ':']] [data] = .run (Run.ok data) := by
  obtain ⟨h1, h2⟩ := readAndCutBytesLoop2_on_large data hne h
  have hp : parseArgv yes [['-', 'b'], ['1', ':']] = .run optB1 false Option.none := by rfl
  have hc : compileBag optB1 Option.none = Option.some Option.none := by rfl
  have hbt : (optB1.boundsType = .characters && !validUtf8 [data].flatten) = false := by
    simp [optB1]
  have hdom : InDomain yes [['-', 'b'], ['1', ':']] [data] := by
    rw [WholeLit.inDomain_iff_of_run hp hc [data] hbt]
    exact ⟨List.forall_mem_singleton.mpr hne, WholeLit.inputFitsB_of_bytes _ _ rfl⟩
  refine ⟨hdom, ?_, ?_⟩
  · rw [tucProgramLit2_eq_programWith, programWith_of_run _ hp hc hbt]
    show MainResult.ofDispatch (Option.some (readAndCutBytesLoop2 optB1 [data])) = _
    rw [h1]
    rfl
  · rw [show WholeLit.tucProgramLit yes _ [data] = _ from programWith_of_run (fun o _ => WholeLit.dispatchWhole o) hp hc hbt]
    show MainResult.ofDispatch (Option.some (ReadLoops.readAndCutBytesLoop optB1 [data])) = _
    rw [h2]
    rfl

/-- **`tuc -b 1:` on 2³¹ bytes (one read): the program made of the Rust statements prints the 2³¹
    bytes**, as `tucMain` does; the input is in `InDomain`.  The `-b` clause of `inputFits2B` asks
    fewer than 2³¹ bytes, so `tucProgramLit2_eq` does not cover this input: the clause is not
    necessary. -/
theorem tucProgramLit2_eq_tucMain_on_2GiB_input (align : Bytes → Nat) :
    ∃ data : Bytes, data.length = 2147483648 ∧
      InDomain yes [['-', 'b'], ['1', ':']] [data] ∧
      tucProgramLit2 align yes [['-', 'b'], ['1', ':']] [data] = .run (Run.ok data) ∧
      tucMain yes [['-', 'b'], ['1', ':']] [data] = .run (Run.ok data) := by
  obtain ⟨hdom, h1, h2⟩ := tucProgramLit2_bytes_on_large align (List.replicate 2147483648 0)
    (by intro e; have := congrArg List.length e
        rw [List.length_replicate, List.length_nil] at this; omega)
    (by rw [List.length_replicate]; omega)
  exact ⟨_, List.length_replicate, hdom, h1, by rw [← WholeLit.tucProgramLit_eq yes _ _ hdom, h2]⟩

/-! ### `inputFits2B`, fast lane: the callee that uses the bound, on 2³¹ parts or more

`output_parts` (fast_lane.rs:103) calls `b.try_into_range(fields.len() - 1)`: it agrees with
`Tuc.Model.FastLoop` for every bound the parser builds and every number of parts below 2⁶³
(`outputPartsLit2_eq_i64`). -/

open CutStrLitProps (oneOpen) in
/-- one call of `output_parts` on `1:`, any number of entries in `fields` up to 2⁶³ (2³¹ + 1 and more
    included): equal -/
theorem outputPartsLit2_eq_on_large (line : Bytes) (fields : List Nat) (opt : FastOpt)
    (h : fields.length - 1 < 9223372036854775808) :
    outputPartsLit2 line oneOpen fields opt = FastLoop.outputPartsLit line oneOpen fields opt :=
  outputPartsLit2_eq_i64 line oneOpen fields opt CutStrLitProps.boundOk_oneOpen h

/-! ### the contract of `find_iter` (`BagOK`), for `cut_str` taken alone

At program level there is nothing to assume: `main` stores a bag that honours the contract
(`compileBag_ok`).  For `cutStrLit2` on an arbitrary `Opt` the hypothesis is needed: a regex whose
`find_iter` yields a match that ends beyond the line makes `trim_regex` slice out of range
(cut_str.rs:244, a panic), where the normal-form `trimRegex` inside `CutStrLit.cutStrLit` truncates. -/

def badBag : RegexBag := { normal := fun _ => [(0, 9)], greedy := fun _ => [(0, 9)] }

def optBadBag : Opt :=
  { delimiter := [9], trim := Option.some .left, regexBag := Option.some badBag, replaceDelimiter := Option.some [45],
    bounds := { list := [.bound CutStrLitProps.oneOpen], lastInteresting := .cont } }

#guard (cutStrLit2 align0 [97, 98] optBadBag [] [] [10]).1 == Run.panic
#guard (CutStrLit.cutStrLit [97, 98] optBadBag [] [] [10]).1 != Run.panic
#guard (cutStr [97, 98] optBadBag [] [] [10]).1 != Run.panic

/-- the `Opt` of `tuc -e ' ' -t b -p -r _` (`-f 1:`), the bag being the one `main` compiles -/
def optSpaceBag : Opt :=
  { delimiter := [32], trim := Option.some .both, compressDelimiter := true,
    replaceDelimiter := Option.some [95], join := true, regexBag := Option.some (Re.bag (.byte 32)),
    bounds := { list := [.bound CutStrLitProps.oneOpen], lastInteresting := .cont } }

/-- the hypotheses of `cutStrLit2_eq_cutStrLit` hold on it … -/
example : BoundsOk optSpaceBag.bounds.list ∧ BagOK optSpaceBag :=
  ⟨(CutStrLitProps.boundsOkB_iff _).mp (by decide), by intro bag hb; cases hb; exact Re.bag_ok _⟩

#guard fieldsFitB [32, 97, 32, 32, 98, 32] optSpaceBag

-- … and both sides are the expected bytes (`trim_regex`, `compress_delimiter_with_regex`,
-- `replace_all`, `fill_with_fields_locations` at statement level)
#guard (cutStrLit2 align1 [32, 97, 32, 32, 98, 32] optSpaceBag [] [] [10]).1 == Run.ok [97, 95, 98, 10]
#guard (CutStrLit.cutStrLit [32, 97, 32, 32, 98, 32] optSpaceBag [] [] [10]).1 == Run.ok [97, 95, 98, 10]

end WholeLit2
end Tuc
