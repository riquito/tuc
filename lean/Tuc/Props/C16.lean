import Tuc.Model.CutStr
import Tuc.Model.Regex
import Tuc.Lemmas.Run
import Tuc.Spec.RegexSpec
import Tuc.Lemmas.RegexSpec
/-!
# C16 — a regex delimiter splits at its matches and is replaced literally

First, facts for ANY matcher (the engine only looks at the match lists).  Then, with the lemmas of
`Tuc.Lemmas.RegexSpec`: `cut_str` with `-e RE` refines `Spec.specRecordRe`, a specification parametric in
the matcher — without `-r` / `-p` for any matcher honouring the contract of `find_iter`
(`regexCut_eq_spec`; `bag.OK` is a hypothesis here: that the executable matcher of `Tuc.Model.Regex`
honours the contract is `Re.bag_ok` of `Tuc.Lemmas.RegexSpec`, used in `Tuc.Props.C16Greedy`); with
`-r R` under `SliceStable` (the matcher is context-free on the slices that are printed) and
non-empty matches (`regexCut_replace_eq_spec`; with `-g`: `Tuc.Props.C16Greedy`); with `-p -r R`, `R ≠ []`, the
record is rewritten once and handed to the LITERAL engine with delimiter `R`
(`regexCompress_eq_spec`); `-t` is `trimRegex_spec`.  The statements here ask for `opt.json = false`
and no proof uses it: `cutStr_regex_eq_spec_gen` and `cutStr_regex_replace_eq_spec_of`
(`Tuc.Lemmas.RegexSpec`) are the theorems with `--json` allowed.
-/
namespace Tuc
open Tuc.Spec

/-- the fields are exactly the gaps between successive matches: the k-th field stops where the
    k-th match starts and the next one starts where it ends -/
theorem regexFields_are_gaps (L prev : Nat) (s e : Nat) (t : List (Nat × Nat)) :
    rangesBetweenMatches L prev ((s, e) :: t) = ⟨prev, s⟩ :: rangesBetweenMatches L e t := rfl

theorem regexFields_last (L prev : Nat) : rangesBetweenMatches L prev [] = [⟨prev, L⟩] := rfl

/-- one field more than there are matches -/
theorem regexFields_length (L prev : Nat) (ms : List (Nat × Nat)) :
    (rangesBetweenMatches L prev ms).length = ms.length + 1 :=
  rangesBetweenMatches_length L prev ms

/-- `-r R` writes the literal text `R` for every match — never an expansion of it: the replacement
    is copied, whatever bytes (`$0`, `\1`, …) it contains -/
theorem regexReplace_literal (text r : Bytes) (prev s e : Nat) (t : List (Nat × Nat)) :
    replaceMatches text r prev ((s, e) :: t) = slice text prev s ++ r ++ replaceMatches text r e t := rfl

/-- `-t` with a regex removes only a match touching the chosen end: without a match at offset 0
    nothing is removed on the left -/
theorem trimRegex_left_untouched (line : Bytes) (ms : List (Nat × Nat))
    (h : ∀ s e, ms.head? = some (s, e) → s ≠ 0) : trimRegex line .left ms = line := by
  unfold trimRegex
  cases hm : ms.head? with
  | none => simp [slice]
  | some p =>
    obtain ⟨s, e⟩ := p
    have := h s e hm
    simp [this, slice]

/-- after `-p` rewrote every run to `R`, the printed slices are not matched again (the
    replacement is inserted once, even if it matches the regex itself) -/
theorem compressed_not_replaced_again (text : Bytes) (opt : Opt) :
    maybeReplaceDelimiter text opt true =
      if opt.boundsType = .characters then text
      else match opt.replaceDelimiter, opt.regexBag with
        | some _, some _ => text
        | some nd, none => replaceAll text opt.delimiter nd
        | none, _ => text := by
  unfold maybeReplaceDelimiter
  split
  · rfl
  · cases opt.replaceDelimiter <;> cases opt.regexBag <;> simp

/-- a match consumes a prefix of the haystack -/
theorem regexMatchLen_le (r : Re) (s : Bytes) (n : Nat) (h : r.matchLen s = some n) :
    n ≤ s.length := Re.matchLen_le r s n h

/-- `-t` with a regex, for ANY list of matches: a run that starts at offset 0 is cut off on the
    left (`-t l|b`), a run that ends at the end of the record on the right (`-t r|b`), nothing
    else is removed — `trim_regex` is the specification's `trimRe` -/
theorem trimRegex_spec (line : Bytes) (k : TrimKind) (ms : List (Nat × Nat)) :
    trimRegex line k ms = trimRe line k ms := trimRegex_eq_trimRe line k ms

/-- `-t l`: exactly the run touching the start is removed -/
theorem trimRegex_left (line : Bytes) (e : Nat) (t : List (Nat × Nat)) :
    trimRegex line .left ((0, e) :: t) = line.drop e := by
  rw [trimRegex_spec]
  simp [trimRe]

/-- `-t r`: exactly the run touching the end is removed; without such a run nothing is -/
theorem trimRegex_right (line : Bytes) (ms : List (Nat × Nat)) :
    trimRegex line .right ms =
      match ms.getLast? with
      | some (s, e) => if e = line.length then line.take s else line
      | none => line := by
  rw [trimRegex_spec]
  unfold trimRe
  cases ms.getLast? with
  | none => simp
  | some p =>
    obtain ⟨s, e⟩ := p
    by_cases he : e = line.length <;> simp [he]

/-- `-t b`: both, independently (a run covering the whole record leaves nothing) -/
theorem trimRegex_both (line : Bytes) (ms : List (Nat × Nat)) :
    trimRegex line .both ms =
      (line.take (match ms.getLast? with
          | some (s, e) => if e = line.length then s else line.length
          | none => line.length)).drop
        (match ms.head? with
          | some (0, e) => e
          | _ => 0) := by
  rw [trimRegex_spec]
  rfl

/-- **C16, no `-r`.**  `-e RE` with any matcher honouring the contract of `find_iter`, field or
    line mode, none of `-r -p` (`-j` is refused on both sides; `hjson` is not used:
    `cutStr_regex_eq_spec_gen` is this theorem with `--json` allowed): the fields are the gaps
    between successive matches (`-g`: between runs of matches), a printed range is the bytes of
    the record from the start of its first gap to the end of its last gap, separators verbatim;
    `-t -s -m`, fallbacks and fillers as with a literal delimiter. -/
theorem regexCut_eq_spec (opt : Opt) (bag : RegexBag) (line : Bytes)
    (hre : opt.regexBag = some bag) (hok : bag.OK)
    (hr : opt.replaceDelimiter = none) (hp : opt.compressDelimiter = false)
    (hjson : opt.json = false) (hty : opt.boundsType = .fields ∨ opt.boundsType = .lines)
    (hz : AllNonzero opt.bounds.list) (hL : LastMarked opt.bounds.list) :
    (cutStrCore line opt [opt.eol.byte]).1 = specRecordRe (cfgOf opt) bag line :=
  cutStr_regex_eq_spec_gen opt bag line hre hok hr hp hty hz hL

/-- **C16, the run, no `-r`.** -/
theorem regexRun_eq_spec (opt : Opt) (bag : RegexBag) (input : Bytes)
    (hre : opt.regexBag = some bag) (hok : bag.OK)
    (hr : opt.replaceDelimiter = none) (hp : opt.compressDelimiter = false)
    (hjson : opt.json = false) (hty : opt.boundsType = .fields ∨ opt.boundsType = .lines)
    (hz : AllNonzero opt.bounds.list) (hL : LastMarked opt.bounds.list) :
    readAndCutStr opt input = specRunRecordsRe (cfgOf opt) bag (records opt.eol.byte input) := by
  unfold readAndCutStr
  rw [cutRecords_eq_seqMap, Spec.specRunRecordsRe_eq_seqMap]
  exact Run.seqMap_congr fun r _ => regexCut_eq_spec opt bag r hre hok hr hp hjson hty hz hL

/-- **C16, `-r R` (no `-p`, no `-g`).**  Every printed range is matched again and every match is
    replaced by the literal bytes `R`.  If the matches are never empty and the matcher is
    context-free on the printed slices (`SliceStable`, a property of the real engine for
    expressions without anchors, validated by testing), this is the specification: the gaps of
    the range with `R` — verbatim, whatever `$0`, `\1` it contains — once between two of them;
    with `-j` the joiner is `R` too. -/
theorem regexCut_replace_eq_spec (opt : Opt) (bag : RegexBag) (line : Bytes) (R : Bytes)
    (hre : opt.regexBag = some bag) (hok : bag.OK)
    (hr : opt.replaceDelimiter = some R) (hp : opt.compressDelimiter = false)
    (hg : opt.greedyDelimiter = false)
    (hjson : opt.json = false) (hty : opt.boundsType = .fields ∨ opt.boundsType = .lines)
    (hz : AllNonzero opt.bounds.list) (hL : LastMarked opt.bounds.list)
    (hstrict : StrictMatches (trimmedRe opt bag line).length 0 (bag.normal (trimmedRe opt bag line)))
    (hstable : SliceStable bag (trimmedRe opt bag line)) :
    (cutStrCore line opt [opt.eol.byte]).1 = specRecordRe (cfgOf opt) bag line := by
  refine cutStr_regex_replace_eq_spec_of opt bag line R _ _ rfl rfl hre hok hr hp hty hz hL hstrict
    hstable ?_
  -- the fields are the gaps of `RE` itself
  rw [hg]
  exact hstrict.tiledSelf

/-- the literal text: a separator made of one match is rendered as `R` itself -/
theorem regexReplace_sep_literal (R x : Bytes) : sepRe (some R) x 1 = R := by
  simp [sepRe, repeatBytes]

/-- … and the text of two adjacent gaps with `-r R` is `gap ++ R ++ gap` -/
theorem regexReplace_piece_literal (R f x g : Bytes) (rest : List (Bytes × Nat × Bytes)) :
    pieceTextRe (sepRe (some R)) ⟨f, (x, 1, g) :: rest⟩ 1 2 = f ++ R ++ g := by
  simp [pieceTextRe, sepRe, repeatBytes]

/-- **C16, `-p -r R`.**  The record (after `-t`) is rewritten once — every run of matches becomes
    the literal bytes `R` — and cut by the LITERAL engine with delimiter `R`
    (`literalAfterCompress`: no regex, no `-p`, no `-t`, no `-r`; `-j` joins with the delimiter,
    which is `R`).  `hne`: the rewritten record is not empty, which `R ≠ []` guarantees
    (`replaceMatches_ne_nil`). -/
theorem regexCompress_eq_literal (line : Bytes) (opt : Opt) (eol : Bytes) (bag : RegexBag)
    (R : Bytes) (hre : opt.regexBag = some bag) (hr : opt.replaceDelimiter = some R)
    (hp : opt.compressDelimiter = true)
    (hty : opt.boundsType = .fields ∨ opt.boundsType = .lines)
    (hne : trimmedRe opt bag line ≠ [] →
      replaceMatches (trimmedRe opt bag line) R 0 (bag.greedy (trimmedRe opt bag line)) ≠ []) :
    (cutStrCore line opt eol).1 =
      if (trimmedRe opt bag line).isEmpty then
        (if !opt.onlyDelimited then Run.ok eol else Run.empty)
      else
        (cutStrCore (replaceMatches (trimmedRe opt bag line) R 0 (bag.greedy (trimmedRe opt bag line)))
          (literalAfterCompress opt R) eol).1 := by
  rw [cutStrCore_eq, trimOf_regex line hre]
  generalize trimmedRe opt bag line = line' at hne ⊢
  -- the two up-front refusals of `cutStrCore` (a regex with `-p` or `-j` and no `-r`) do not apply
  simp only [hre, hr, hp, Option.isSome_some, Option.isNone_some, Bool.and_false,
    Bool.false_eq_true, if_false]
  by_cases he : line'.isEmpty = true
  · rw [if_pos he]
    unfold afterTrim
    rw [if_pos he]
  · rw [if_neg he]
    have hne := hne (fun h => he (by rw [h]; rfl))
    generalize hl2 : replaceMatches line' R 0 (bag.greedy line') = line2 at hne ⊢
    have he2 : ¬ line2.isEmpty = true := fun h => hne (List.isEmpty_iff.mp h)
    have hnc := BoundsType.ne_characters hty
    rw [cutStrCore_fields line2 (literalAfterCompress opt R) eol rfl hty]
    show _ = if line2.isEmpty = true then _
      else emitRecord line2 (engineFields (literalAfterCompress opt R) line2 R false)
        (literalAfterCompress opt R) false eol
    rw [if_neg he2]
    unfold afterTrim
    -- left side: the compress branch for a regex with `-r R` rewrites `line'` to `line2` and splits
    -- that at the literal `R`
    simp only [compressOf, he, hp, (decide_fieldsMode hty).1, hre, hr, hl2, Bool.and_self, if_true,
      Bool.false_eq_true, if_false]
    -- after the rewriting nothing is replaced any more, on either side
    have hm : ∀ text, maybeReplaceDelimiter text opt true =
        maybeReplaceDelimiter text (literalAfterCompress opt R) false := by
      intro text
      rw [maybeReplaceDelimiter_none text (literalAfterCompress opt R) false rfl]
      unfold maybeReplaceDelimiter
      rw [if_neg hnc, hr, hre]
      rfl
    exact emitRecord_congr opt _ true false line2 _ eol rfl (by rw [hr]; rfl) rfl rfl hm rfl rfl rfl
      hnc hnc

/-- **C16, `-p -r R`, against the specification** (`R ≠ []`; ANY matcher, no contract needed):
    rewrite, then the literal specification `Spec.specRecord` with delimiter `R` — via
    `fields_record_eq_spec` of `Tuc.Lemmas.CutStrSpec`. -/
theorem regexCompress_eq_spec (opt : Opt) (bag : RegexBag) (line : Bytes) (R : Bytes)
    (hre : opt.regexBag = some bag) (hr : opt.replaceDelimiter = some R) (hR : R ≠ [])
    (hp : opt.compressDelimiter = true) (hjson : opt.json = false)
    (hty : opt.boundsType = .fields ∨ opt.boundsType = .lines)
    (hz : AllNonzero opt.bounds.list) (hL : LastMarked opt.bounds.list) :
    (cutStrCore line opt [opt.eol.byte]).1 = specRecordRe (cfgOf opt) bag line := by
  have hspec : specRecordRe (cfgOf opt) bag line =
      if (trimmedRe opt bag line).isEmpty then
        (if opt.onlyDelimited then Run.empty else Run.ok [opt.eol.byte])
      else specRecord (cfgOf (literalAfterCompress opt R))
        (replaceMatches (trimmedRe opt bag line) R 0 (bag.greedy (trimmedRe opt bag line))) := by
    have hcfg : cfgOf (literalAfterCompress opt R) =
        { cfgOf opt with delimiter := R, compress := false, replace := none, trim := none,
                         chars := false } := by
      rcases hty with hty | hty <;> simp [cfgOf, literalAfterCompress, hty]
    rw [hcfg]
    unfold specRecordRe trimmedRe
    -- `specRecordRe` with `compress = true` and `replace = some R` takes its first `match` arm
    rcases hty with hty | hty <;>
      simp only [cfgOf, hp, hr, hty, Option.isNone_some, Bool.and_false, Bool.false_eq_true,
        if_false, decide_true, Bool.or_true, Bool.true_or, Bool.and_self] <;> rfl
  rw [hspec, regexCompress_eq_literal line opt _ bag R hre hr hp hty
    (fun hne => replaceMatches_ne_nil _ R hR _ hne)]
  by_cases he : (trimmedRe opt bag line).isEmpty = true
  · rw [if_pos he, if_pos he]
    cases opt.onlyDelimited <;> simp
  · rw [if_neg he, if_neg he]
    exact fields_record_eq_spec (literalAfterCompress opt R) _ hR rfl hty hz hL

/-- `-p` or `-j` with a regex and no `-r` is refused by the engine (the specification refuses by
    definition: the first test of `specRecordRe`) -/
theorem regexCut_needs_replace (opt : Opt) (bag : RegexBag) (line : Bytes) (eol : Bytes)
    (hre : opt.regexBag = some bag) (hr : opt.replaceDelimiter = none)
    (h : opt.compressDelimiter = true ∨ opt.join = true) :
    (cutStrCore line opt eol).1 = Run.fail := by
  rw [cutStrCore_eq]
  rcases h with h | h
  · simp [hre, hr, h]
  · by_cases hp : opt.compressDelimiter = true
    · simp [hre, hr, hp]
    · simp [hre, hr, h, hp]

/-! ## examples: `-e '[-,]'` on `a-b,,c`, fields `2:3`

(`decide` cannot run the matcher — `Re.run` is defined by well-founded recursion — so the
examples are closed by `simp` with the defining equations; for `Re.run` those of
`Tuc.Lemmas.RegexSpec`.) -/

/-- what `Re.parse "[-,]"` returns (`Re.parse` runs the `partial def`s `Re.parseAlt`, `Re.parseSeq`,
    `Re.parseAtom`, so it cannot be unfolded: checked by evaluation) -/
def reDashComma : Re := .alt (.byte 45) (.byte 44)

#guard reprStr (Re.parse "[-,]".toList) == reprStr (some reDashComma)

/-- `a-b,,c` -/
def exLine : Bytes := [97, 45, 98, 44, 44, 99]

/-- `-e '[-,]' -f 2:3`, with `-g` and `-r` as given -/
def exOptRe (g : Bool) (r : Option Bytes) : Opt :=
  { delimiter := [], bounds := ⟨[.bound { l := .some 2, r := .some 3, isLast := true }], .some 3⟩,
    greedyDelimiter := g, replaceDelimiter := r, regexBag := some (Re.bag reDashComma) }

section
attribute [local simp] cutStrCore exOptRe exLine Re.bag Re.findIter Re.findIterAux Re.matchLen
  Re.run_byte_cons Re.run_alt Re.run_plus_cons reDashComma fillWithFieldsLocationsUsingRegex
  rangesBetweenMatches emitRecord outputLoop outputBof UserBounds.tryIntoRange rangeStart rangeEnd
  writeMaybeAsJson maybeReplaceDelimiter replaceMatches slice Run.seq Run.ok Run.empty

example : (Re.bag reDashComma).normal exLine = [(1, 2), (3, 4), (4, 5)] := by
  simp

example : (Re.bag reDashComma).greedy exLine = [(1, 2), (3, 5)] := by
  simp

/-- fields `a | b | "" | c`: `2:3` is `b,` -/
example : (cutStrCore exLine (exOptRe false none) [10]).1 = Run.ok [98, 44, 10] := by
  simp

/-- `-g`: fields `a | b | c`: `2:3` is `b,,c` -/
example : (cutStrCore exLine (exOptRe true none) [10]).1 = Run.ok [98, 44, 44, 99, 10] := by
  simp

/-- `-r '$0x'`: `b$0x` — the replacement is copied, `$0` is not expanded -/
example : (cutStrCore exLine (exOptRe false (some [36, 48, 120])) [10]).1 =
    Run.ok [98, 36, 48, 120, 10] := by
  simp

/-- `-g -r '$0x'`: `b$0x$0xc` — once per match of `RE` in the run -/
example : (cutStrCore exLine (exOptRe true (some [36, 48, 120])) [10]).1 =
    Run.ok [98, 36, 48, 120, 36, 48, 120, 99, 10] := by
  simp
end

/-! ## `SliceStable`: an executable test, and what it says about the Lean matcher

`SliceStable` is a hypothesis about the real engine.  For the Lean matcher it is proved only for
one-byte expressions (`OneByte.sliceStable` in `Tuc.Props.C16Greedy`); beyond them it can be
*tested*: `sliceStableB` is its Boolean form for one matcher and one record (`true` implies
`SliceStable`: `sliceStableB_sound`; the converse is not proved).  The Lean matcher passes on
every record tried (below: all records up to 5 bytes over a 3-letter alphabet, for `[-,]` and for
alternations whose branches are prefixes of one another, `ab|a`, `a|ab`, `a(b|bc)|c`; up to 6 bytes over
2 letters for `aa|a`); a matcher
with an anchor (`^a`) fails the test. -/

/-- `SliceStable bag line` as a Boolean: the same condition over the finitely many `a` (0 or the end
    of a match) and `b` (the length or the start of a match) -/
def sliceStableB (bag : RegexBag) (line : Bytes) : Bool :=
  (0 :: (bag.normal line ++ bag.greedy line).map (·.2)).all fun a =>
    (line.length :: (bag.normal line ++ bag.greedy line).map (·.1)).all fun b =>
      decide (a ≤ b → bag.normal (slice line a b) = insideShift (bag.normal line) a b)

theorem sliceStableB_sound (bag : RegexBag) (line : Bytes) (h : sliceStableB bag line = true) :
    SliceStable bag line := by
  intro a b ha hb hab
  have ha' : a ∈ 0 :: (bag.normal line ++ bag.greedy line).map (·.2) := by
    rcases ha with rfl | ⟨m, hm, rfl⟩
    · exact List.mem_cons_self ..
    · exact List.mem_cons_of_mem _ (List.mem_map_of_mem hm)
  have hb' : b ∈ line.length :: (bag.normal line ++ bag.greedy line).map (·.1) := by
    rcases hb with rfl | ⟨m, hm, rfl⟩
    · exact List.mem_cons_self ..
    · exact List.mem_cons_of_mem _ (List.mem_map_of_mem hm)
  have h1 := List.all_eq_true.mp h a ha'
  have h2 := List.all_eq_true.mp h1 b hb'
  exact (of_decide_eq_true h2) hab

def allLines (alphabet : List UInt8) : Nat → List Bytes
  | 0 => [[]]
  | n + 1 => allLines alphabet n ++
      ((allLines alphabet n).filter (·.length == n)).flatMap fun l => alphabet.map fun c => l ++ [c]

def bagOfString (re : String) : RegexBag :=
  match Re.parse re.toList with
  | some r => Re.bag r
  | none => Re.bag .never

#guard (allLines [97, 45, 44] 5).all (sliceStableB (bagOfString "[-,]"))
#guard (allLines [97, 98, 99] 5).all (sliceStableB (bagOfString "ab|a"))
#guard (allLines [97, 98, 99] 5).all (sliceStableB (bagOfString "a|ab"))
#guard (allLines [97, 98] 6).all (sliceStableB (bagOfString "aa|a"))
#guard (allLines [97, 98, 99] 5).all (sliceStableB (bagOfString "a(b|bc)|c"))

/-- a matcher like `^a` (context-sensitive) is not slice-stable: on `aa` the slice after the first
    match starts with an `a` again -/
def anchoredBag : RegexBag :=
  { normal := fun l => if l.head? = some 97 then [(0, 1)] else [],
    greedy := fun l => if l.head? = some 97 then [(0, 1)] else [] }

#guard !sliceStableB anchoredBag [97, 97]

/-! ## the specification against the engine, by exhaustive evaluation

Also over what this file does not prove (`-g -r`: proved in `Tuc.Props.C16Greedy` under
`GreedyTiled`; `--json`: the theorems of `Tuc.Lemmas.RegexSpec` hold with it, the statements here are
without): every record up to 3 bytes (up to 2 with `--json`) over
`{a, -, ,}`, two bounds lists, every combination of `-g -p -j -m -s`, `-r '$0'` or none, the four
`-t`, with and without a generic fallback: `cut_str` = `specRecordRe`. -/

def exhaustiveMismatches (bag : RegexBag) (alphabet : List UInt8) (n : Nat) (json : Bool) : Nat :=
  let bools := [false, true]
  let boundsA : List BoF := [.bound { l := .some 2, r := .some 3 }, .filler [58],
    .bound { l := .some (-1), r := .cont, isLast := true }]
  let boundsB : List BoF := [.bound { l := .some 1, r := .cont, isLast := true }]
  ((allLines alphabet n).flatMap fun line =>
    [boundsA, boundsB].flatMap fun bs => bools.flatMap fun g => bools.flatMap fun p =>
    bools.flatMap fun j => bools.flatMap fun m => bools.flatMap fun s =>
    [none, some [36, 48]].flatMap fun r =>
    [none, some TrimKind.left, some .right, some .both].flatMap fun t =>
    [none, some [63]].flatMap fun fb =>
      let o : Opt :=
        { delimiter := [], bounds := ⟨bs, .cont⟩, greedyDelimiter := g, compressDelimiter := p,
          join := j, json := json, complement := m, onlyDelimited := s, replaceDelimiter := r,
          trim := t, fallbackOob := fb, regexBag := some bag }
      if (cutStrCore line o [10]).1 == specRecordRe (cfgOf o) bag line then [] else [line]).length

#guard exhaustiveMismatches (Re.bag reDashComma) [97, 45, 44] 3 false == 0
#guard exhaustiveMismatches (Re.bag reDashComma) [97, 45, 44] 2 true == 0

end Tuc
