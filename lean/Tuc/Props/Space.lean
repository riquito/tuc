import Tuc.Model.Space
import Tuc.Lemmas.LinesLoop
import Tuc.Lemmas.FastLoop
import Tuc.Props.C10          -- `records_append`
import Tuc.Props.LinesLoop
import Tuc.Props.FastLoop
import Tuc.Props.StreamLoop
/-!
# Tuc.Props.Space — C17 by ghost instrumentation of the literal loops

C17: "With `-M`, peak memory is bounded by a constant that does not depend on the length of any
line or of the input; with `-f` or `-c` (no `-M`) it is bounded in terms of the longest record, not
the number of records; with `-l` and ascending positive bounds it is likewise bounded by the longest
line."

`Tuc.Model.Space` copies the loop functions of the statement-by-statement transcriptions
(`Tuc.Model.LinesLoop`, `Tuc.Model.FastLoop`, `Tuc.Model.StreamLoop`) and adds ghost state: the
peak of a SPACE MEASURE = the number of elements held in the owned, growable buffers (`Vec` /
`String` locals) that are live across loop iterations (`line_buf` for `-l`; `fields` and the record
lent by `for_byte_record` for the fast lane), resp. — for `-M`, whose function owns no such buffer —
the trace of the loop variables.  This file proves, with no hypothesis on the input or on the
option record:

(a) ERASURE — the instrumentation observes the same execution: dropping the ghost component gives
    exactly the frozen literal function, for all arguments, all fuel, every value of the accumulator
    (`…_erase`).

(b) BOUNDS
    * `-l`, forward only — the peak is the length of the longest of the EXECUTED lines (all up to
      and including the first one after which the read loop stops: `readWhileI_peak`);
      `cutLinesForwardOnlyLoopI_peak_le`: the peak length of `line_buf` is at most
      `longestLine eol input`, the length of the longest line WITH its terminator
      (`maxLen (rawLines eol input)`; `Space.rawLines`, the input cut into lines that keep their
      terminator, is defined in `Tuc.Lemmas.Records`, not in the model), hence at most
      `longestRecord + 1`.  A line that is not UTF-8 counts: it has been read into the buffer when
      the `Err` is raised.
    * fast lane — the two peaks are the largest per-record peak resp. the longest record among the
      EXECUTED records (all up to and including the first one whose call returns `Err`:
      `readAndCutTextAsBytesLoopI_peak`); `readAndCutTextAsBytesLoopI_fields_le`: `fields` never
      holds more than (delimiters of the record with the most delimiters) + 2 entries — the initial 0,
      one start per delimiter, the fake start of l.73 (reached: `-f -1` on `-----`, 7 entries).
      The vector is reused from record to record and is NOT cleared for a record that is empty after
      trimming (l.35-40): what it then still holds is what the previous record left, which is under
      the peak already — nothing accumulates.
    * `-M` — `StreamLoop.Vars`, the state that crosses a `fill_buf`, is four flags, three `usize` and
      one `i32`: no byte buffer is part of it.  That is read off the transcription, not proved:
      `ofScalars_scalars` / `scalars_ofScalars` hold by `rfl` and only spell the record out as a tuple.
      What is proved is `cutBytesStreamLoopI_ok` (for every reader = every segmentation of every input;
      from `newChunkI_ok`, which asks for `bof_idx ≤ bounds.len()` in the state it is started from —
      the function starts from 0, a `#guard` shows the lemma needs it).  The only number that is not
      bounded by a chunk or by the option record is the field counter `curr_field` (an `i32` in the
      code; it grows by one per delimiter, l.364).

(c) MORE RECORDS, SAME PEAK — `cutLinesForwardOnlyLoopI_replicate`,
    `readAndCutTextAsBytesLoopI_replicate`: `k + 1` copies of a block that ends with the terminator
    have exactly the peak(s) of one copy.
    HYPOTHESIS `block.getLast? = some eol` (decidable).  It cannot be dropped — two copies of `ab`
    are ONE line of four bytes, two copies of `a-b` one record with two delimiters (`#guard`s at the
    end of the file) — and it is no restriction of the program: it only says which inputs are "the same
    records, more often".

No buffer of these three paths grows across records: for `-l` and the fast lane that is the closed
form of the peak (a maximum over the executed records), for `-M` there is no buffer.

NOT covered: the allocator (fragmentation, `malloc` overhead); the growth policy of `Vec` — the
capacity is at most twice the peak length (amortised doubling) and at least the initial capacity
(1024 bytes for `line_buf`, 16 entries for `fields`), and an entry of `fields` is 8 bytes; the
`BufReader` / `BufWriter` that `main` creates (fixed capacities; the `-M` chunk and the complete
records of the fast lane are slices of the `BufReader`'s buffer); for the fast lane also bstr's
`for_byte_record`, which assembles a record that straddles two fills in one local `Vec<u8>` — the
fast-lane functions here take the records as given; `Space2.outerLoopI_spec` bounds that vector by
record + terminator for EVERY closure, this one included —; the caches of the regex crate; the stack; the buffered paths (`cut_lines`, non-ascending `-l`: the whole
input, by design).  Those stay with the measurements of C17 (counting allocator).  The general engine
`cut_str` (`-f`/`-c` off the fast lane) is treated the same way in `Tuc.Props.Space2`.

The bounds are statements about the loop functions run on the whole input.  `Tuc.Props.WholeLit`
relates those to the program that reads in segments (`readAndCutTextAsBytesWhole_loop`,
`cutLinesForwardOnlyWhole_loop`); no bound is stated at the level of `tucProgramLit`.
-/

namespace Tuc
namespace Space

section Lines
open LinesLoop

theorem readLineWithEolI_eq (reader : Bytes) (eol : EOL) :
    readLineWithEolI reader eol =
      ((readLineWithEol reader eol).1, (readLineWithEol reader eol).2,
        (readUntil eol.byte reader).1.length) := by
  -- the two arms of `match eol` (l.23) differ in how the bytes reach the buffer, not in what it holds
  cases eol
  all_goals
    simp only [readLineWithEolI, readLineWithEol, show EOL.newline.byte = 10 from rfl, List.nil_append,
      lineBufSpace, List.length_nil, Nat.zero_max]
    generalize readUntil _ reader = q
    by_cases hv : validUtf8 q.1 = true
    · simp only [hv, if_true]
      split <;> rfl
    · simp only [hv, Bool.false_eq_true, if_false]

/-- **erasure, `read_line_with_eol`**: without the ghost component `readLineWithEolI` is
    `readLineWithEol` -/
theorem readLineWithEolI_erase (reader : Bytes) (eol : EOL) :
    ((readLineWithEolI reader eol).1, (readLineWithEolI reader eol).2.1) =
      readLineWithEol reader eol := by
  rw [readLineWithEolI_eq]

theorem readWhileI_erase (opt : Opt) : ∀ (fuel : Nat) (stdin : Bytes) (v : Vars) (peak : Nat),
    ((readWhileI opt fuel stdin v peak).1, (readWhileI opt fuel stdin v peak).2.1) =
      readWhile opt fuel stdin v := by
  intro fuel
  induction fuel with
  | zero => intro stdin v peak; rfl
  | succ fuel ih =>
    intro stdin v peak
    simp only [readWhileI, readWhile, readLineWithEolI_eq]
    generalize readLineWithEol stdin opt.eol = x
    obtain ⟨line, rest⟩ := x
    cases line with
    | none | someErr => rfl
    | someOk l =>
      simp only []
      split
      · rfl
      · rw [← ih rest _ (max peak (readUntil opt.eol.byte stdin).1.length)]

/-- **erasure, `cut_lines_forward_only`**: without the peak `cutLinesForwardOnlyLoopI` is
    `cutLinesForwardOnlyLoop` -/
theorem cutLinesForwardOnlyLoopI_erase (opt : Opt) (stdin : Bytes) :
    (cutLinesForwardOnlyLoopI opt stdin).1 = cutLinesForwardOnlyLoop opt stdin := by
  unfold cutLinesForwardOnlyLoopI cutLinesForwardOnlyLoop
  simp only [← readWhileI_erase opt (stdin.length + 1) stdin _ (lineBufSpace [])]

def maxLen : List Bytes → Nat
  | [] => 0
  | l :: t => max l.length (maxLen t)

/-- **length of the longest line of the input, terminator included** -/
def longestLine (eol : UInt8) (input : Bytes) : Nat := maxLen (rawLines eol input)

/-- length of the longest record (terminator not included) -/
def longestRecord (eol : UInt8) (input : Bytes) : Nat := maxLen (records eol input)

theorem rawLines_nil (eol : UInt8) : rawLines eol [] = [] := rfl

theorem reader_cases (eol : UInt8) (stdin : Bytes) (hne : stdin ≠ []) :
    ∃ raw rest, readUntil eol stdin = (raw, rest) ∧ raw ≠ [] ∧ rest.length < stdin.length ∧
      rawLines eol stdin = raw :: rawLines eol rest :=
  ⟨_, _, rfl, rawLines_readUntil eol hne⟩

/-- the loop over the bounds for the line `raw` (l.30-81) -/
def lineW (opt : Opt) (raw : Bytes) (v : Vars) : Run × Vars :=
  innerWhile opt (stripEol opt.eol.byte raw) (opt.bounds.list.length + 1) (nextLine v)

/-- after the line `raw` the read loop goes on: the line is UTF-8 (l.28), there are bounds left
    (l.83), nothing panicked -/
def goesOn (opt : Opt) (raw : Bytes) (v : Vars) : Bool :=
  validUtf8 raw && !((lineW opt raw v).2.boundsIdx == opt.bounds.list.length) &&
    decide ((lineW opt raw v).1.status = .ok)

/-! the ghost of `readWhileI`, arm by arm: no fuel, no input, one more line -/

theorem peak_zero (opt : Opt) (stdin : Bytes) (v : Vars) (p : Nat) :
    (readWhileI opt 0 stdin v p).2.2 = p := rfl

theorem peak_nil (opt : Opt) (fuel : Nat) (v : Vars) (p : Nat) :
    (readWhileI opt (fuel + 1) [] v p).2.2 = p := by
  simp only [readWhileI, readLineWithEolI_eq, readLineWithEol_nil]
  simp [readUntil]

theorem peak_cons (opt : Opt) (fuel : Nat) (stdin : Bytes) (v : Vars) (p : Nat) (raw rest : Bytes)
    (h : readUntil opt.eol.byte stdin = (raw, rest)) (hne : raw ≠ []) :
    (readWhileI opt (fuel + 1) stdin v p).2.2 =
      if goesOn opt raw v then (readWhileI opt fuel rest (lineW opt raw v).2 (max p raw.length)).2.2
      else max p raw.length := by
  simp only [readWhileI, readLineWithEolI_eq, readLineWithEol_eq _ _ _ _ h hne, h, goesOn, lineW]
  by_cases hv : validUtf8 raw = true
  · simp only [hv, if_true, Bool.true_and]
    by_cases hb : ((innerWhile opt (stripEol opt.eol.byte raw) (opt.bounds.list.length + 1)
        (nextLine v)).2.boundsIdx == opt.bounds.list.length) = true
    · simp only [hb, if_true, Bool.not_true, Bool.false_and, Bool.false_eq_true, if_false]
    · simp only [hb, Bool.false_eq_true, if_false, Bool.not_false, Bool.true_and]
      by_cases hs : (innerWhile opt (stripEol opt.eol.byte raw) (opt.bounds.list.length + 1)
          (nextLine v)).1.status = Status.ok
      · simp only [hs, if_true, decide_true]
      · simp only [hs, if_false, decide_false, Bool.false_eq_true]
  · simp only [hv, Bool.false_eq_true, if_false, Bool.false_and]

/-- the length of the longest line among the EXECUTED ones: all up to and including the first one
    after which the read loop does not go on (the variables are threaded through the lines) -/
def execLines (opt : Opt) : List Bytes → Vars → Nat
  | [], _ => 0
  | raw :: t, v =>
    if goesOn opt raw v then max raw.length (execLines opt t (lineW opt raw v).2) else raw.length

/-- one turn adds the length of the line just read (`peak_cons`), whatever the loop over the bounds does
    with it; the variables only decide whether there is a next turn -/
theorem readWhileI_peak (opt : Opt) : ∀ (fuel : Nat) (stdin : Bytes) (v : Vars) (p : Nat),
    stdin.length < fuel →
    (readWhileI opt fuel stdin v p).2.2 = max p (execLines opt (rawLines opt.eol.byte stdin) v) := by
  intro fuel
  induction fuel with
  | zero => intro stdin v p h; exact absurd h (Nat.not_lt_zero _)
  | succ fuel ih =>
    intro stdin v p hf
    by_cases hs : stdin = []
    · subst hs; rw [peak_nil]; exact (Nat.max_zero p).symm
    · obtain ⟨raw, rest, h, hne, hlt, hl⟩ := reader_cases opt.eol.byte stdin hs
      rw [peak_cons opt fuel stdin v p raw rest h hne, hl, execLines]
      split
      · rw [ih rest _ _ (by omega), Nat.max_assoc]
      · rfl

/-- the peak of the read loop with the fuel `cut_lines_forward_only` gives it -/
def linesPeak (opt : Opt) (stdin : Bytes) (v : Vars) (p : Nat) : Nat :=
  (readWhileI opt (stdin.length + 1) stdin v p).2.2

theorem linesPeak_eq (opt : Opt) (stdin : Bytes) (v : Vars) (p : Nat) :
    linesPeak opt stdin v p = max p (execLines opt (rawLines opt.eol.byte stdin) v) :=
  readWhileI_peak opt _ stdin v p (Nat.lt_succ_self _)

theorem cutLinesForwardOnlyLoopI_peak (opt : Opt) (stdin : Bytes) :
    (cutLinesForwardOnlyLoopI opt stdin).2 = linesPeak opt stdin {} 0 := rfl

theorem execLines_le (opt : Opt) : ∀ (ls : List Bytes) (v : Vars), execLines opt ls v ≤ maxLen ls := by
  intro ls
  induction ls with
  | nil => intro _; exact Nat.le_refl _
  | cons raw t ih =>
    intro v
    rw [execLines, maxLen]
    split
    · exact Nat.max_le.2 ⟨Nat.le_max_left _ _, Nat.le_trans (ih _) (Nat.le_max_right _ _)⟩
    · exact Nat.le_max_left _ _

/-- **`-l`, forward only: the peak length of `line_buf` is at most the length of the longest line
    of the input, terminator included** — every input, every option record; the number of lines
    does not enter. -/
theorem cutLinesForwardOnlyLoopI_peak_le (opt : Opt) (stdin : Bytes) :
    (cutLinesForwardOnlyLoopI opt stdin).2 ≤ longestLine opt.eol.byte stdin := by
  rw [cutLinesForwardOnlyLoopI_peak, linesPeak_eq, Nat.zero_max]
  exact execLines_le opt _ _

theorem maxLen_le (b : Nat) : ∀ ls : List Bytes, (∀ l ∈ ls, l.length ≤ b) → maxLen ls ≤ b
  | [], _ => Nat.zero_le _
  | l :: t, h =>
    Nat.max_le.2 ⟨h l List.mem_cons_self, maxLen_le b t fun x hx => h x (List.mem_cons_of_mem _ hx)⟩

theorem maxLen_le_map (s : Bytes → Bytes) (c : Nat) : ∀ ls : List Bytes,
    (∀ l ∈ ls, l.length ≤ (s l).length + c) → maxLen ls ≤ maxLen (ls.map s) + c
  | [], _ => Nat.zero_le _
  | l :: t, h => by
    have h1 := h l List.mem_cons_self
    have h2 := maxLen_le_map s c t fun x hx => h x (List.mem_cons_of_mem _ hx)
    simp only [List.map_cons, maxLen]
    omega

theorem longestLine_le_longestRecord (eol : UInt8) (input : Bytes) :
    longestLine eol input ≤ longestRecord eol input + 1 := by
  unfold longestLine longestRecord
  rw [records_eq_map_stripEol]
  refine maxLen_le_map _ 1 _ fun l hl => ?_
  rcases rawLines_cases eol input l hl with ⟨a, _, rfl⟩ | ⟨h, _⟩
  · rw [stripEol_append_eol, List.length_append]
    exact Nat.le_refl _
  · rw [stripEol_noeol _ _ h]
    exact Nat.le_succ _

theorem longestLine_le_length (eol : UInt8) (input : Bytes) : longestLine eol input ≤ input.length :=
  maxLen_le _ _ (rawLines_length_le eol input)

/-- in terms of the project's record splitter -/
theorem cutLinesForwardOnlyLoopI_peak_le_record (opt : Opt) (stdin : Bytes) :
    (cutLinesForwardOnlyLoopI opt stdin).2 ≤ longestRecord opt.eol.byte stdin + 1 :=
  Nat.le_trans (cutLinesForwardOnlyLoopI_peak_le opt stdin) (longestLine_le_longestRecord _ _)

def EndsEol (eol : UInt8) (block : Bytes) : Prop := block = [] ∨ block.getLast? = some eol

instance (eol : UInt8) (block : Bytes) : Decidable (EndsEol eol block) := by
  unfold EndsEol; exact inferInstance

theorem getLast?_append_of_ne_nil {α : Type} (a : List α) {b : List α} (hb : b ≠ []) :
    (a ++ b).getLast? = b.getLast? := by
  rw [List.getLast?_append, List.getLast?_eq_some_getLast hb, Option.some_or]

theorem maxLen_append (a b : List Bytes) : maxLen (a ++ b) = max (maxLen a) (maxLen b) := by
  induction a with
  | nil => simp [maxLen]
  | cons x t ih => simp only [List.cons_append, maxLen, ih, Nat.max_assoc]

theorem execLines_append (opt : Opt) (b : List Bytes) : ∀ (a : List Bytes) (v : Vars),
    execLines opt (a ++ b) v = execLines opt a v ∨
    (execLines opt a v = maxLen a ∧
      ∃ v', execLines opt (a ++ b) v = max (maxLen a) (execLines opt b v')) := by
  intro a
  induction a with
  | nil => intro v; exact Or.inr ⟨rfl, v, (Nat.zero_max _).symm⟩
  | cons raw t ih =>
    intro v
    rw [List.cons_append, execLines, execLines, maxLen]
    split
    · rcases ih (lineW opt raw v).2 with h | ⟨h, v', h'⟩
      · exact Or.inl (by rw [h])
      · exact Or.inr ⟨by rw [h], v', by rw [h', Nat.max_assoc]⟩
    · exact Or.inl rfl

theorem rawLines_append (eol : UInt8) (block more : Bytes) (h : EndsEol eol block) :
    rawLines eol (block ++ more) = rawLines eol block ++ rawLines eol more := by
  rcases h with h | h
  · subst h; rfl
  · obtain ⟨a, rfl⟩ := List.getLast?_eq_some_iff.1 h
    rw [List.append_assoc, List.singleton_append, rawLines_append_eol]

theorem split_replicate {split : Bytes → List Bytes} {block : Bytes} (hnil : split [] = [])
    (happ : ∀ more, split (block ++ more) = split block ++ split more) : ∀ k : Nat,
    split (List.replicate k block).flatten = (List.replicate k (split block)).flatten := by
  intro k
  induction k with
  | zero => exact hnil
  | succ k ih => rw [List.replicate_succ, List.flatten_cons, List.replicate_succ, List.flatten_cons, happ, ih]

theorem maxLen_replicate_le (a : List Bytes) : ∀ k : Nat, maxLen (List.replicate k a).flatten ≤ maxLen a := by
  intro k
  induction k with
  | zero => exact Nat.zero_le _
  | succ k ih =>
    rw [List.replicate_succ, List.flatten_cons, maxLen_append]
    exact Nat.max_le.2 ⟨Nat.le_refl _, ih⟩

theorem longestLine_replicate_le (eol : UInt8) (block : Bytes) (h : EndsEol eol block) (k : Nat) :
    longestLine eol (List.replicate k block).flatten ≤ longestLine eol block := by
  unfold longestLine
  rw [split_replicate (rawLines_nil eol) (fun more => rawLines_append eol block more h)]
  exact maxLen_replicate_le _ k

theorem execLines_replicate (opt : Opt) (a : List Bytes) (k : Nat) (v : Vars) :
    execLines opt (List.replicate (k + 1) a).flatten v = execLines opt a v := by
  rw [List.replicate_succ, List.flatten_cons]
  rcases execLines_append opt (List.replicate k a).flatten a v with h | ⟨h, v', h'⟩
  · exact h
  · rw [h, h']
    exact Nat.max_eq_left (Nat.le_trans (execLines_le opt _ v') (maxLen_replicate_le a k))

/-- **`-l`, forward only: repeating the input does not move the peak** — `k + 1` copies of a
    block that ends with the terminator need exactly the `line_buf` that one copy needs. -/
theorem cutLinesForwardOnlyLoopI_replicate (opt : Opt) (block : Bytes)
    (h : block.getLast? = some opt.eol.byte) (k : Nat) :
    (cutLinesForwardOnlyLoopI opt (List.replicate (k + 1) block).flatten).2 =
      (cutLinesForwardOnlyLoopI opt block).2 := by
  rw [cutLinesForwardOnlyLoopI_peak, cutLinesForwardOnlyLoopI_peak, linesPeak_eq, linesPeak_eq,
    split_replicate (rawLines_nil _) (fun more => rawLines_append _ block more (Or.inr h)),
    execLines_replicate]

end Lines

section Fast
open FastLoop TextLoops

theorem scanForI_cons (lif : Side) (i : Nat) (iter : List Nat) (c : Int) (f : List Nat) (p : Nat) :
    scanForI lif (i :: iter) c f p =
      if i32Min ≤ c + 1 ∧ c + 1 ≤ i32Max then
        if Side.some (c + 1) = lif then (.ok (c + 1, f ++ [i + 1]), max p (f.length + 1))
        else scanForI lif iter (c + 1) (f ++ [i + 1]) (max p (f.length + 1))
      else (.panic, p) := by
  rw [scanForI, scanBodyI, checkedAddI32]
  by_cases h : i32Min ≤ c + 1 ∧ c + 1 ≤ i32Max
  · simp only [if_pos h, push, fieldsSpace, List.length_append, List.length_singleton]
    by_cases hs : Side.some (c + 1) = lif
    · simp only [if_pos hs, if_true]
    · simp only [if_neg hs, Bool.false_eq_true, if_false]
  · simp only [if_neg h]

/-- the accumulator has to cover the vector at the start, as it does where `cut_str_fast_lane` calls
    the loop: from there on the vector only grows, its peak is its last length — after one push per
    visited delimiter (`scanCount`), or as many as the `i32` counter allows before l.52 panics -/
theorem scanForI_spec (lif : Side) : ∀ (iter : List Nat) (c : Int) (f : List Nat) (p : Nat),
    (scanForI lif iter c f p).1 = scanFor lif iter c f ∧
      (0 ≤ c → f.length ≤ p → (scanForI lif iter c f p).2 =
        max p (f.length + min (scanCount lif c iter.length) (i32Max - c).toNat)) := by
  intro iter
  induction iter with
  | nil =>
    intro c f p
    have : scanCount lif c 0 = 0 := Nat.le_zero.1 (scanCount_le lif c 0)
    exact ⟨rfl, fun _ hp => by
      rw [List.length_nil, this, Nat.zero_min, Nat.add_zero]; exact (Nat.max_eq_left hp).symm⟩
  | cons i iter ih =>
    intro c f p
    rw [scanForI_cons, scanFor_cons, List.length_cons, scanCount_succ]
    by_cases h : i32Min ≤ c + 1 ∧ c + 1 ≤ i32Max
    · rw [if_pos h, if_pos h]
      by_cases hs : Side.some (c + 1) = lif
      · rw [if_pos hs, if_pos hs, if_pos hs]
        exact ⟨rfl, fun _ _ => by rw [Nat.min_eq_left (by omega)]⟩
      · rw [if_neg hs, if_neg hs, if_neg hs]
        obtain ⟨e, hacc⟩ := ih (c + 1) (f ++ [i + 1]) (max p (f.length + 1))
        refine ⟨e, fun h0 _ => ?_⟩
        have hmin : min (scanCount lif (c + 1) iter.length + 1) (i32Max - c).toNat =
            min (scanCount lif (c + 1) iter.length) (i32Max - (c + 1)).toNat + 1 := by
          generalize scanCount lif (c + 1) iter.length = n
          omega
        rw [hacc (by omega) (by rw [List.length_append]; exact Nat.le_max_right _ _), hmin,
          List.length_append, List.length_singleton, Nat.max_assoc,
          Nat.max_eq_right (Nat.le_add_right _ _), Nat.add_assoc, Nat.add_comm 1]
    · rw [if_neg h, if_neg h]
      refine ⟨rfl, fun h0 hp => ?_⟩
      have : (i32Max - c).toNat = 0 := by simp only [i32Min] at h; omega
      rw [this, Nat.min_zero, Nat.add_zero]
      exact (Nat.max_eq_left hp).symm

theorem scanForI_erase (lif : Side) (iter : List Nat) (c : Int) (f : List Nat) (p : Nat) :
    (scanForI lif iter c f p).1 = scanFor lif iter c f :=
  (scanForI_spec lif iter c f p).1

theorem afterScan_fields (buffer : Bytes) (opt : FastOpt) (lif : Side) (st : Int × List Nat) :
    (afterScan buffer opt lif st).2 =
      if (st.1 == 0 && opt.onlyDelimited) = true then st.2
      else if Side.some st.1 ≠ lif then st.2 ++ [buffer.length + 1] else st.2 := by
  unfold afterScan
  by_cases h : (st.1 == 0 && opt.onlyDelimited) = true
  · simp only [h, if_true]
  · simp only [h, Bool.false_eq_true, if_false, push]

theorem afterScanI_eq (buffer : Bytes) (opt : FastOpt) (lif : Side) (st : Int × List Nat) (q : Nat) :
    afterScanI buffer opt lif st q =
      ((afterScan buffer opt lif st).1, (afterScan buffer opt lif st).2,
        max q (if (st.1 == 0 && opt.onlyDelimited) = true then 0
          else (afterScan buffer opt lif st).2.length)) := by
  unfold afterScanI afterScan
  by_cases h : (st.1 == 0 && opt.onlyDelimited) = true
  · simp only [h, if_true, Nat.max_zero]
  · simp only [h, Bool.false_eq_true, if_false, fieldsSpace]

theorem afterScanI_erase (buffer : Bytes) (opt : FastOpt) (lif : Side) (st : Int × List Nat) (p : Nat) :
    ((afterScanI buffer opt lif st p).1, (afterScanI buffer opt lif st p).2.1) =
      afterScan buffer opt lif st := by
  rw [afterScanI_eq]

/-- l.44-90 on a non-empty buffer: the vector starts as `[0]` whatever it held -/
def coreI (buffer : Bytes) (opt : FastOpt) (lif : Side) (p : Nat) : Run × List Nat × Nat :=
  match scanForI lif (memchrIter opt.delimiter buffer) 0 [0] (max p 1) with
  | (.ok st, peak) => afterScanI buffer opt lif st peak
  | (.panic, peak) => (Run.panic, [0], peak)
  | (.hang, peak) => (Run.hang, [0], peak)

/-- `m`, what this buffer adds to the peak, is chosen before the accumulator `p`: it depends on the
    buffer, the option record and `lif`, not on what the vector held -/
theorem coreI_spec (buffer : Bytes) (opt : FastOpt) (lif : Side) (hne : ¬buffer.isEmpty = true) :
    ∃ m v, m ≤ buffer.count opt.delimiter + 2 ∧ (∀ k, lif = .some k → 1 ≤ k → m ≤ k.toNat + 1) ∧
      (FastLoop.afterTrim buffer opt lif).2 = some v ∧ v.length ≤ m ∧
      ∀ p, coreI buffer opt lif p = ((FastLoop.afterTrim buffer opt lif).1, v, max p m) := by
  -- `n` delimiters are visited; `g` of them pushed before the counter gives out (`g = n` on `Ok`)
  have hn := scanCount_le lif 0 (memchrIter opt.delimiter buffer).length
  have hstop' : ∀ k, lif = .some k → 1 ≤ k →
      scanCount lif 0 (memchrIter opt.delimiter buffer).length ≤ k.toNat := fun k hk h1 => by
    have := scanCount_stop hk (show (0 : Int) < k by omega) (memchrIter opt.delimiter buffer).length
    omega
  have hst : ∀ st, scanFor lif (memchrIter opt.delimiter buffer) 0 [0] = .ok st →
      st.1 = 0 + scanCount lif 0 (memchrIter opt.delimiter buffer).length ∧
      st.2.length = 1 + scanCount lif 0 (memchrIter opt.delimiter buffer).length ∧
      min (scanCount lif 0 (memchrIter opt.delimiter buffer).length) (i32Max - 0).toNat =
        scanCount lif 0 (memchrIter opt.delimiter buffer).length := fun st h => by
    obtain ⟨e1, e2, e3⟩ := scanFor_ok (Int.le_refl 0) (by decide) h
    exact ⟨e1, e2, Nat.min_eq_left (by omega)⟩
  have hI := scanForI_spec lif (memchrIter opt.delimiter buffer) 0 [0]
  have hgn := Nat.min_le_left (scanCount lif 0 (memchrIter opt.delimiter buffer).length) (i32Max - 0).toNat
  -- `g`, the pushes `scanForI_spec` counts: a variable, which `hst` identifies with `n` (by `rfl`) when
  -- the scan returns `Ok`; when it does not, all that is known and needed is `g ≤ n` (`hgn`)
  generalize min (scanCount lif 0 (memchrIter opt.delimiter buffer).length) (i32Max - 0).toNat = g
    at hst hI hgn
  -- `n`, the delimiters visited: a variable, so that `hn`, `hstop'` are plain inequalities for `omega`
  generalize scanCount lif 0 (memchrIter opt.delimiter buffer).length = n at hn hstop' hst hgn
  rw [memchrIter_length] at hn
  -- the vector starts as `[0]` under an accumulator that is at least 1
  have hI' : ∀ p, scanForI lif (memchrIter opt.delimiter buffer) 0 [0] (max p 1) =
      (scanFor lif (memchrIter opt.delimiter buffer) 0 [0], max p (1 + g)) := fun p =>
    Prod.ext (hI _).1 (((hI _).2 (Int.le_refl 0) (Nat.le_max_right p 1)).trans
      (by rw [Nat.max_assoc, List.length_singleton, Nat.max_eq_right (Nat.le_add_right 1 g)]))
  cases hs : scanFor lif (memchrIter opt.delimiter buffer) 0 [0] with
  | ok st =>
    have hA : FastLoop.afterTrim buffer opt lif = ((afterScan buffer opt lif st).1, some (afterScan buffer opt lif st).2) := by
      rw [FastLoop.afterTrim, afterTrimWith, if_neg hne, hs]
    obtain ⟨_, e2, rfl⟩ := hst st hs
    -- the vector handed to the output loop (`handed_length_le`) covers the one the scan left
    obtain ⟨h1, h2⟩ := handed_length_le hs
    rw [memchrIter_length] at h1
    have hm : max (1 + g) (if (st.1 == 0 && opt.onlyDelimited) = true then 0
        else (afterScan buffer opt lif st).2.length) ≤
        (if Side.some st.1 ≠ lif then st.2.length + 1 else st.2.length) := by
      rw [afterScan_fields, ← e2]
      split <;> split <;> (try rw [List.length_append, List.length_singleton]) <;> omega
    rw [hA]
    refine ⟨_, _, Nat.le_trans hm h1, fun k hk hk1 => Nat.le_trans hm (h2 k hk hk1), rfl, ?_, fun p => ?_⟩
    · split
      · -- l.64: the vector is the one the scan left
        rename_i hc
        rw [afterScan_fields, if_pos hc, e2]
        exact Nat.le_max_left _ _
      · exact Nat.le_max_right _ _
    · rw [coreI, hI', hs]
      dsimp only
      rw [afterScanI_eq, Nat.max_assoc]
  | panic | hang =>
    refine ⟨1 + g, [0], by omega, fun k hk h1 => ?_, by rw [FastLoop.afterTrim, afterTrimWith, if_neg hne, hs], Nat.le_add_right 1 g,
      fun p => by rw [coreI, FastLoop.afterTrim, afterTrimWith, if_neg hne, hI', hs]⟩
    have := hstop' k hk h1
    omega

theorem cutStrFastLaneLoopI_eq (line : Bytes) (opt : FastOpt) (f : List Nat) (lif : Side) (p : Nat) :
    cutStrFastLaneLoopI line opt f lif p =
      if (fastTrimmed line opt).isEmpty then
        ((if !opt.onlyDelimited then Run.ok [opt.eol.byte] else Run.empty), f, max p f.length)
      else coreI (fastTrimmed line opt) opt lif (max p f.length) := by
  -- `coreI` is `afterTrimWith afterScan` with the ghost threaded through, not an instance of it
  -- (`afterTrimWith_congr` does not apply): the text is unfolded for each value of `opt.trim`
  obtain ⟨d, j, e, b, s, tr, fb⟩ := opt
  cases tr <;>
    simp only [cutStrFastLaneLoopI, fastTrimmed, coreI, fieldsSpace, clear, push, List.length_nil, List.nil_append,
      List.length_singleton, Nat.max_zero, trim_eq] <;> rfl

def recFields (opt : FastOpt) (lif : Side) (line : Bytes) : Nat :=
  (cutStrFastLaneLoopI line opt [] lif 0).2.2

/-- what the vector held on arrival enters the accumulator only through its length; the rest,
    `recFields`, depends on the record alone -/
theorem cutStrFastLaneLoopI_spec (line : Bytes) (opt : FastOpt) (lif : Side) :
    recFields opt lif line ≤ line.count opt.delimiter + 2 ∧
    (∀ k, lif = .some k → 1 ≤ k → recFields opt lif line ≤ k.toNat + 1) ∧
    ∀ f p, cutStrFastLaneLoopI line opt f lif p =
        ((cutStrFastLaneLoop line opt f lif).1, (cutStrFastLaneLoop line opt f lif).2,
          max (max p f.length) (recFields opt lif line)) ∧
      (cutStrFastLaneLoop line opt f lif).2.length ≤ max f.length (recFields opt lif line) := by
  by_cases h : (fastTrimmed line opt).isEmpty = true
  · have hA : FastLoop.afterTrim (fastTrimmed line opt) opt lif =
        ((if !opt.onlyDelimited then Run.ok [opt.eol.byte] else Run.empty), none) := by rw [FastLoop.afterTrim, afterTrimWith, if_pos h]
    have e : ∀ f p, cutStrFastLaneLoopI line opt f lif p =
        ((cutStrFastLaneLoop line opt f lif).1, (cutStrFastLaneLoop line opt f lif).2, max p f.length) :=
      fun f p => by rw [cutStrFastLaneLoopI_eq, loop_of_trimmed, if_pos h, hA]; rfl
    have hr : recFields opt lif line = 0 := by rw [recFields, e]; rfl
    rw [hr]
    refine ⟨Nat.zero_le _, fun _ _ _ => Nat.zero_le _, fun f p => ⟨by rw [e, Nat.max_zero], ?_⟩⟩
    rw [loop_of_trimmed, hA]
    exact Nat.le_max_left _ _
  · obtain ⟨m, v, m1, m2, hv, m3, m4⟩ := coreI_spec (fastTrimmed line opt) opt lif h
    have e : ∀ f p, cutStrFastLaneLoopI line opt f lif p =
        ((cutStrFastLaneLoop line opt f lif).1, (cutStrFastLaneLoop line opt f lif).2,
          max (max p f.length) m) :=
      fun f p => by rw [cutStrFastLaneLoopI_eq, loop_of_trimmed, if_neg h, m4, hv]; rfl
    have hr : recFields opt lif line = m := by
      rw [recFields, e]
      exact (Nat.max_assoc ..).trans ((Nat.zero_max _).trans (Nat.zero_max _))
    rw [hr]
    refine ⟨Nat.le_trans m1 (Nat.add_le_add_right ((fastTrimmed_sublist line opt).count_le _) 2), m2, fun f p => ⟨e f p, ?_⟩⟩
    rw [loop_of_trimmed, hv]
    exact Nat.le_trans m3 (Nat.le_max_right _ _)

theorem cutStrFastLaneLoopI_erase (line : Bytes) (opt : FastOpt) (f : List Nat) (lif : Side) (p : Nat) :
    ((cutStrFastLaneLoopI line opt f lif p).1, (cutStrFastLaneLoopI line opt f lif p).2.1) =
      cutStrFastLaneLoop line opt f lif := by
  obtain ⟨_, _, hcall⟩ := cutStrFastLaneLoopI_spec line opt lif
  rw [(hcall f p).1]

theorem cutStrFastLaneLoopI_peak (line : Bytes) (opt : FastOpt) (f : List Nat) (lif : Side) (p : Nat) :
    (cutStrFastLaneLoopI line opt f lif p).2.2 = max (max p f.length) (recFields opt lif line) := by
  obtain ⟨_, _, hcall⟩ := cutStrFastLaneLoopI_spec line opt lif
  rw [(hcall f p).1]

theorem recFields_le (opt : FastOpt) (lif : Side) (line : Bytes) :
    recFields opt lif line ≤ line.count opt.delimiter + 2 :=
  (cutStrFastLaneLoopI_spec line opt lif).1

theorem recFields_le_stop (opt : FastOpt) (k : Int) (hk : 1 ≤ k) (line : Bytes) :
    recFields opt (.some k) line ≤ k.toNat + 1 := by
  obtain ⟨_, hstop, _⟩ := cutStrFastLaneLoopI_spec line opt (.some k)
  exact hstop k rfl hk

theorem cutStrFastLaneLoopI_fields_le (line : Bytes) (opt : FastOpt) (f : List Nat) (lif : Side)
    (p : Nat) :
    (cutStrFastLaneLoopI line opt f lif p).2.1.length ≤ (cutStrFastLaneLoopI line opt f lif p).2.2 := by
  obtain ⟨_, _, hcall⟩ := cutStrFastLaneLoopI_spec line opt lif
  obtain ⟨e, h⟩ := hcall f p
  rw [e]
  exact Nat.le_trans h (Nat.max_le.2 ⟨Nat.le_trans (Nat.le_max_right p _) (Nat.le_max_left _ _),
    Nat.le_max_right _ _⟩)

theorem forByteRecordI_erase (opt : FastOpt) (lif : Side) : ∀ (recs : List Bytes) (f : List Nat)
    (g : FastPeak), (forByteRecordI opt lif recs f g).1 = forByteRecord opt lif recs f := by
  intro recs
  induction recs with
  | nil => intro f g; rfl
  | cons line more ih =>
    intro f g
    simp only [forByteRecordI, forByteRecord, ih]
    rw [← cutStrFastLaneLoopI_erase line opt f lif g.fields]

/-- the two arms of `match opt.eol` (l.182) are the same text -/
theorem readAndCutTextAsBytesLoopI_eq (opt : FastOpt) (input : Bytes) :
    readAndCutTextAsBytesLoopI opt input =
      ((forByteRecordI opt opt.bounds.lastInteresting (records opt.eol.byte input) [] {}).1.seq Run.empty,
       (forByteRecordI opt opt.bounds.lastInteresting (records opt.eol.byte input) [] {}).2) := by
  unfold readAndCutTextAsBytesLoopI
  split <;> rfl

/-- **erasure, `read_and_cut_text_as_bytes`**: without the two peaks `readAndCutTextAsBytesLoopI` is
    `readAndCutTextAsBytesLoop` -/
theorem readAndCutTextAsBytesLoopI_erase (opt : FastOpt) (input : Bytes) :
    (readAndCutTextAsBytesLoopI opt input).1 = readAndCutTextAsBytesLoop opt input := by
  rw [readAndCutTextAsBytesLoopI_eq]
  have : readAndCutTextAsBytesLoop opt input =
      (forByteRecord opt opt.bounds.lastInteresting (records opt.eol.byte input) []).seq Run.empty := by
    unfold readAndCutTextAsBytesLoop
    split <;> rfl
  rw [this, forByteRecordI_erase]

/-- the call for this record ends with `Ok` (so `for_byte_record` goes on); it does not depend on
    what the vector held -/
def recOk (opt : FastOpt) (lif : Side) (line : Bytes) : Bool :=
  decide ((cutStrFastLaneLoop line opt [] lif).1.status = .ok)

theorem cutStrFastLaneLoop_scratch (line : Bytes) (opt : FastOpt) (f : List Nat) (lif : Side) :
    (cutStrFastLaneLoop line opt f lif).1 = (cutStrFastLaneLoop line opt [] lif).1 := by
  rw [loop_of_trimmed, loop_of_trimmed]

def execMax (m : Bytes → Nat) (ok : Bytes → Bool) : List Bytes → Nat
  | [] => 0
  | r :: t => if ok r then max (m r) (execMax m ok t) else m r

def maxOf (m : Bytes → Nat) : List Bytes → Nat
  | [] => 0
  | r :: t => max (m r) (maxOf m t)

theorem execMax_le_maxOf (m : Bytes → Nat) (ok : Bytes → Bool) : ∀ rs, execMax m ok rs ≤ maxOf m rs := by
  intro rs
  induction rs with
  | nil => exact Nat.le_refl _
  | cons r t ih =>
    simp only [execMax, maxOf]
    split <;> omega

theorem maxOf_le (m : Bytes → Nat) (b : Nat) : ∀ rs, (∀ r ∈ rs, m r ≤ b) → maxOf m rs ≤ b := by
  intro rs
  induction rs with
  | nil => intro _; exact Nat.zero_le _
  | cons r t ih =>
    intro h
    simp only [maxOf]
    have := h r (by simp)
    have := ih (fun x hx => h x (by simp [hx]))
    omega

theorem maxOf_mono (m m' : Bytes → Nat) (c : Nat) (h : ∀ r, m r ≤ m' r + c) :
    ∀ rs, maxOf m rs ≤ maxOf m' rs + c := by
  intro rs
  induction rs with
  | nil => exact Nat.zero_le _
  | cons r t ih =>
    simp only [maxOf]
    have := h r
    omega

theorem maxOf_length (rs : List Bytes) : maxOf List.length rs = maxLen rs := by
  induction rs with
  | nil => rfl
  | cons r t ih => simp only [maxOf, maxLen, ih]

theorem forByteRecordI_peak (opt : FastOpt) (lif : Side) : ∀ (recs : List Bytes) (f : List Nat)
    (g : FastPeak), f.length ≤ g.fields →
    (forByteRecordI opt lif recs f g).2 =
      { fields := max g.fields (execMax (recFields opt lif) (recOk opt lif) recs),
        record := max g.record (execMax List.length (recOk opt lif) recs) } := by
  intro recs
  induction recs with
  | nil => intro f g _; simp [forByteRecordI, execMax]
  | cons line more ih =>
    intro f g hf
    simp only [forByteRecordI, execMax, recordSpace]
    have hrun : (cutStrFastLaneLoopI line opt f lif g.fields).1 = (cutStrFastLaneLoop line opt [] lif).1 := by
      rw [← cutStrFastLaneLoop_scratch line opt f lif, ← cutStrFastLaneLoopI_erase line opt f lif g.fields]
    have hpk := cutStrFastLaneLoopI_peak line opt f lif g.fields
    have hfl := cutStrFastLaneLoopI_fields_le line opt f lif g.fields
    rw [Nat.max_eq_left hf] at hpk
    rw [ih _ _ hfl, hrun, hpk]
    by_cases hok : (cutStrFastLaneLoop line opt [] lif).1.status = .ok
    · simp only [hok, if_true, recOk, decide_true, Nat.max_assoc]
    · simp only [hok, if_false, recOk, decide_false, Bool.false_eq_true]

theorem readAndCutTextAsBytesLoopI_peak (opt : FastOpt) (input : Bytes) :
    (readAndCutTextAsBytesLoopI opt input).2 =
      { fields := execMax (recFields opt opt.bounds.lastInteresting)
          (recOk opt opt.bounds.lastInteresting) (records opt.eol.byte input),
        record := execMax List.length (recOk opt opt.bounds.lastInteresting)
          (records opt.eol.byte input) } := by
  rw [readAndCutTextAsBytesLoopI_eq]
  simp only []
  rw [forByteRecordI_peak opt _ _ [] {} (Nat.le_refl _)]
  simp

/-- the largest number of delimiters in one record -/
def maxDelims (d eol : UInt8) (input : Bytes) : Nat := maxOf (fun r => r.count d) (records eol input)

/-- **fast lane: the peak number of entries of `fields` is at most (delimiters of the record with
    the most delimiters) + 2** — every input, every option record; the number of records does not
    enter. -/
theorem readAndCutTextAsBytesLoopI_fields_le (opt : FastOpt) (input : Bytes) :
    (readAndCutTextAsBytesLoopI opt input).2.fields ≤
      maxDelims opt.delimiter opt.eol.byte input + 2 := by
  rw [readAndCutTextAsBytesLoopI_peak]
  exact Nat.le_trans (execMax_le_maxOf _ _ _)
    (maxOf_mono _ _ 2 (fun r => recFields_le opt _ r) _)

theorem maxDelims_le_longestRecord (d eol : UInt8) (input : Bytes) :
    maxDelims d eol input ≤ longestRecord eol input := by
  unfold maxDelims longestRecord
  rw [← maxOf_length]
  exact maxOf_mono _ _ 0 (fun r => List.count_le_length) _

/-- … hence at most (length of the longest record) + 2: C17's "in terms of the longest record,
    not the number of records" (8 bytes per entry on a 64-bit target) -/
theorem readAndCutTextAsBytesLoopI_fields_le_record (opt : FastOpt) (input : Bytes) :
    (readAndCutTextAsBytesLoopI opt input).2.fields ≤ longestRecord opt.eol.byte input + 2 := by
  have h1 := readAndCutTextAsBytesLoopI_fields_le opt input
  have h2 := maxDelims_le_longestRecord opt.delimiter opt.eol.byte input
  omega

/-- **fast lane with an early stop** (`last_interesting_field = Some(k)`, `k ≥ 1`: every bounds list
    whose rightmost field is a positive index): at most `k + 1` entries, whatever the input -/
theorem readAndCutTextAsBytesLoopI_fields_le_stop (opt : FastOpt) (input : Bytes) (k : Int)
    (hlif : opt.bounds.lastInteresting = .some k) (hk : 1 ≤ k) :
    (readAndCutTextAsBytesLoopI opt input).2.fields ≤ k.toNat + 1 := by
  rw [readAndCutTextAsBytesLoopI_peak, hlif]
  exact Nat.le_trans (execMax_le_maxOf _ _ _)
    (maxOf_le _ _ _ (fun r _ => recFields_le_stop opt k hk r))

/-- **fast lane: the record lent to the closure is never longer than the longest record** -/
theorem readAndCutTextAsBytesLoopI_record_le (opt : FastOpt) (input : Bytes) :
    (readAndCutTextAsBytesLoopI opt input).2.record ≤ longestRecord opt.eol.byte input := by
  rw [readAndCutTextAsBytesLoopI_peak]
  simp only []
  rw [longestRecord, ← maxOf_length]
  exact execMax_le_maxOf _ _ _

/-- for any `sup` with a neutral element: `execMax` here, `execSup` in `Tuc.Props.Space2` -/
theorem exec_append {α : Type} {sup : α → α → α} {bot : α} {m : Bytes → α} {ok : Bytes → Bool}
    {E : List Bytes → α} (hnil : E [] = bot)
    (hcons : ∀ r t, E (r :: t) = if ok r then sup (m r) (E t) else m r)
    (hassoc : ∀ x y z, sup (sup x y) z = sup x (sup y z)) (hbot : ∀ x, sup bot x = x) :
    ∀ a b : List Bytes, E (a ++ b) = if a.all ok then sup (E a) (E b) else E a := by
  intro a b
  induction a with
  | nil => rw [List.nil_append, List.all_nil, if_pos rfl, hnil, hbot]
  | cons r t ih =>
    rw [List.cons_append, hcons, hcons, List.all_cons, ih]
    by_cases hr : ok r = true
    · rw [if_pos hr, if_pos hr, hr, Bool.true_and]
      split
      · rw [hassoc]
      · rfl
    · rw [if_neg hr, if_neg hr, Bool.eq_false_iff.2 hr, Bool.false_and, if_neg Bool.false_ne_true]

theorem exec_replicate {α : Type} {sup : α → α → α} {bot : α} {m : Bytes → α} {ok : Bytes → Bool}
    {E : List Bytes → α} (hnil : E [] = bot)
    (hcons : ∀ r t, E (r :: t) = if ok r then sup (m r) (E t) else m r)
    (hassoc : ∀ x y z, sup (sup x y) z = sup x (sup y z)) (hbot : ∀ x, sup bot x = x)
    (hbot' : ∀ x, sup x bot = x) (hidem : ∀ x, sup x x = x) (a : List Bytes) :
    ∀ k : Nat, E (List.replicate (k + 1) a).flatten = E a := by
  intro k
  induction k with
  | zero =>
    rw [List.replicate_succ, List.flatten_cons, exec_append hnil hcons hassoc hbot, List.replicate_zero,
      List.flatten_nil, hnil, hbot']
    split <;> rfl
  | succ k ih =>
    rw [List.replicate_succ, List.flatten_cons, exec_append hnil hcons hassoc hbot, ih, hidem]
    split <;> rfl

theorem execMax_replicate (m : Bytes → Nat) (ok : Bytes → Bool) (a : List Bytes) (k : Nat) :
    execMax m ok (List.replicate (k + 1) a).flatten = execMax m ok a :=
  exec_replicate rfl (fun _ _ => rfl) Nat.max_assoc Nat.zero_max Nat.max_zero Nat.max_self a k

theorem records_replicate (eol : UInt8) (block : Bytes) (h : EndsEol eol block) : ∀ k : Nat,
    records eol (List.replicate k block).flatten = (List.replicate k (records eol block)).flatten :=
  split_replicate rfl fun more => by
    rcases h with h | h
    · subst h; rfl
    · obtain ⟨a, rfl⟩ := List.getLast?_eq_some_iff.1 h
      exact records_append eol a _

/-- **fast lane: repeating the input does not move the peaks** — `k + 1` copies of a block that
    ends with the terminator need exactly the `fields` vector and the record buffer that one copy
    needs. -/
theorem readAndCutTextAsBytesLoopI_replicate (opt : FastOpt) (block : Bytes)
    (h : block.getLast? = some opt.eol.byte) (k : Nat) :
    (readAndCutTextAsBytesLoopI opt (List.replicate (k + 1) block).flatten).2 =
      (readAndCutTextAsBytesLoopI opt block).2 := by
  rw [readAndCutTextAsBytesLoopI_peak, readAndCutTextAsBytesLoopI_peak,
    records_replicate _ _ (Or.inr h), execMax_replicate, execMax_replicate]

end Fast

section Stream
open StreamLoop

/-- the invariant of the variables while a chunk of `len` bytes is borrowed: the two chunk
    indexes are inside the chunk, `bof_idx` is inside the bounds list (or one past its end) -/
def VarsOk (o : StreamOpt) (len : Nat) (v : Vars) : Prop :=
  v.chunkPartStartIdx ≤ len ∧ v.bytesToConsume ≤ len ∧ v.bofIdx ≤ o.bounds.length

/-- from ANY values of the two chunk indexes before: they are re-declared at l.307-308 -/
theorem chunkBody_ok (o : StreamOpt) (chunk : Bytes) (v : Vars) (h : v.bofIdx ≤ o.bounds.length) :
    VarsOk o chunk.length (chunkBody o chunk v).2 := by
  have k := (chunkBody_vars o chunk v).1
  exact ⟨k.cps (Nat.zero_le _), k.btc (Nat.zero_le _), k.bof h⟩

theorem newChunkI_erase (o : StreamOpt) : ∀ (fuel : Nat) (stdin : List Bytes) (v : Vars),
    (newChunkI o fuel stdin v).1 = newChunk o fuel stdin v := by
  intro fuel
  induction fuel with
  | zero => intro stdin v; rfl
  | succ fuel ih =>
    intro stdin v
    simp only [newChunkI, newChunk]
    cases whileStep o stdin v with
    | again r stdin' v' => simp only [ih]
    | leave v' =>
      simp only []
      split
      · rfl
      · simp only [ih]

/-- **erasure, `cut_bytes_stream`**: without the trace `cutBytesStreamLoopI` is
    `cutBytesStreamLoop` -/
theorem cutBytesStreamLoopI_erase (o : StreamOpt) (segs : List Bytes) :
    (cutBytesStreamLoopI o segs).1 = cutBytesStreamLoop o segs :=
  newChunkI_erase o _ _ _

/-- **every component of `Vars` is a flag or a number**: the record is a fixed tuple of four
    `Bool`, three `Nat` and one `Int` — there is no `List`, `Vec` or `String` in it -/
theorem ofScalars_scalars (v : Vars) : ofScalars (scalars v) = v := rfl

theorem scalars_ofScalars (s : Scalars) : scalars (ofScalars s) = s := rfl

/-- what holds at an observation: at l.390 the chunk is not empty and not longer than `cap`, the
    two chunk indexes are inside it, `bof_idx` is inside the bounds (or one past the end); at an
    exit of `'new_chunk` `bof_idx` is inside the bounds.  The only component left unbounded is the
    counter `curr_field`. -/
def Obs.Ok (o : StreamOpt) (cap : Nat) : Obs → Prop
  | .chunkEnd n v => 1 ≤ n ∧ n ≤ cap ∧ VarsOk o n v
  | .loopExit v => v.bofIdx ≤ o.bounds.length

theorem Obs.Ok.mono {o : StreamOpt} {cap cap' : Nat} (h : cap ≤ cap') : ∀ {ob : Obs}, ob.Ok o cap → ob.Ok o cap'
  | .chunkEnd _ _, ⟨h1, h2, h3⟩ => ⟨h1, Nat.le_trans h2 h, h3⟩
  | .loopExit _, h1 => h1

theorem maxLen_consume (n : Nat) (stdin : List Bytes) : maxLen (consume n stdin) ≤ maxLen stdin := by
  unfold consume
  split
  · exact Nat.le_refl _
  · rename_i chunk more
    split
    · simp only [maxLen, List.length_drop]; omega
    · simp only [maxLen]; omega

theorem fillBuf_le_maxLen (stdin : List Bytes) : (fillBuf stdin).length ≤ maxLen stdin := by
  unfold fillBuf
  split
  · exact Nat.zero_le _
  · simp only [maxLen]; omega

theorem newChunkI_ok (o : StreamOpt) : ∀ (fuel : Nat) (stdin : List Bytes) (v : Vars),
    v.bofIdx ≤ o.bounds.length → ∀ ob ∈ (newChunkI o fuel stdin v).2, ob.Ok o (maxLen stdin) := by
  intro fuel
  induction fuel with
  | zero => intro stdin v _ ob hob; cases hob
  | succ fuel ih =>
    intro stdin v hv ob hob
    simp only [newChunkI] at hob
    rcases whileStep_cases o stdin v with ⟨hne, hw⟩ | ⟨v', hw, hb, _⟩
    · rw [hw] at hob
      simp only [List.mem_cons] at hob
      have hok := chunkBody_ok o (fillBuf stdin) v hv
      rcases hob with rfl | hob
      · refine ⟨?_, fillBuf_le_maxLen stdin, hok⟩
        cases hf : fillBuf stdin with
        | nil => exact absurd hf hne
        | cons _ _ => simp
      · split at hob
        · exact (ih _ _ hok.2.2 ob hob).mono (maxLen_consume _ _)
        · cases hob
    · rw [hw] at hob
      have hv' : v'.bofIdx ≤ o.bounds.length := hb ▸ hv
      simp only [] at hob
      split at hob
      · rw [List.mem_singleton.1 hob]
        exact hv'
      · simp only [List.mem_cons] at hob
        rcases hob with rfl | hob
        · exact hv'
        · split at hob
          · exact ih _ _ (Nat.zero_le _) ob hob
          · cases hob

/-- **`-M`, `cut_bytes_stream` on every segmentation `segs` of every input, every option record**:
    at every `stdin.consume` the chunk indexes are inside the chunk just borrowed, which is one
    of the reader's chunks; `bof_idx` never leaves the bounds list.  Nothing else is retained. -/
theorem cutBytesStreamLoopI_ok (o : StreamOpt) (segs : List Bytes) :
    ∀ ob ∈ (cutBytesStreamLoopI o segs).2, ob.Ok o (maxLen segs) :=
  newChunkI_ok o _ segs _ (Nat.zero_le _)

end Stream

/-! ## by evaluation

The instrumented functions are executable.  Bytes: `a` = 97, `-` = 45 (the delimiter), LF = 10. -/

section Guards
open LinesLoop

/-- `tuc -l <bounds>` as the parser builds it (join as `main` sets it for `-l`) -/
def optL (bounds : String) (eol : EOL := .newline) : Option Opt :=
  (boundsListOfString bounds.toList).toOption.map fun b => testOpt b true eol Option.none

/-- the peak of `line_buf` for `tuc -l <bounds>` on `input` -/
def peakL (bounds : String) (input : String) : Option Nat :=
  (optL bounds).map fun o => (cutLinesForwardOnlyLoopI o input.toUTF8.toList).2

-- four lines, the longest is `bcd` LF: everything is read, the peak is its length
#guard peakL "1:" "a\nbcd\n\nxy" == Option.some 4
#guard longestLine 10 "a\nbcd\n\nxy".toUTF8.toList == 4
#guard longestRecord 10 "a\nbcd\n\nxy".toUTF8.toList == 3
-- `-l 1`: the loop is left after the first line (l.83-85); the longest line is never read
#guard peakL "1" "a\nbcd\n\nxy" == Option.some 2
#guard peakL "2" "a\nbcd\n\nxy" == Option.some 4
-- a line that is not UTF-8 has been held when the `Err` comes back (l.28)
#guard (optL "1:").map (fun o => cutLinesForwardOnlyLoopI o [0xFF, 0xFF, 0xFF, 10, 97, 10]) ==
  Option.some (Run.fail, 4)
-- `cutLinesForwardOnlyLoopI_replicate`: three copies, same peak …
#guard peakL "1:" "a\nbcd\n" == Option.some 4
#guard peakL "1:" "a\nbcd\na\nbcd\na\nbcd\n" == Option.some 4
-- … but not without the final terminator (the hypothesis cannot be dropped: two copies of `ab`
-- ARE one line of four bytes)
#guard peakL "1:" "ab" == Option.some 2
#guard peakL "1:" "abab" == Option.some 4
-- 1000 lines of 3 bytes: peak 3
#guard (optL "1:").map (fun o => (cutLinesForwardOnlyLoopI o
  (List.replicate 1000 [97, 97, 10]).flatten).2) == Option.some 3

/-- non-vacuity of `cutLinesForwardOnlyLoopI_replicate`: a block the hypothesis holds for -/
example : ([97, 10, 98, 99, 100, 10] : Bytes).getLast? = some EOL.newline.byte := by decide

/-! erasure and bound on all 242 inputs of at most 4 lines × 15 bounds lists × join × `-z` -/

#guard [EOL.newline, .zero].all fun eol => LinesLoop.testBounds.all fun bounds =>
  [false, true].all fun join =>
  (testInputs [[], [97], [98, 99]] 4 eol.byte).all fun input =>
    let opt := testOpt bounds join eol Option.none
    let r := cutLinesForwardOnlyLoopI opt input
    r.1 == cutLinesForwardOnlyLoop opt input && r.2 ≤ longestLine eol.byte input

/-- `tuc -d - -f <bounds>` on the fast lane -/
def optF (bounds : String) (trim : Option Trim := Option.none) (fb : Option Bytes := Option.none) :
    Option FastOpt :=
  (boundsListOfString bounds.toList).toOption.map fun b =>
    { delimiter := 45, join := false, eol := .newline, bounds := b, onlyDelimited := false,
      trim := trim, fallbackOob := fb }

/-- how the run ends and the two peaks -/
def peakF (bounds : String) (input : String) (trim : Option Trim := Option.none)
    (fb : Option Bytes := Option.none) : Option (Status × FastPeak) :=
  (optF bounds trim fb).map fun o =>
    ((readAndCutTextAsBytesLoopI o input.toUTF8.toList).1.status,
     (readAndCutTextAsBytesLoopI o input.toUTF8.toList).2)

-- `a-b-c` has two delimiters: `0`, two starts, the fake start of l.73 (no early stop for `3`: the
-- record ends before a third delimiter)
#guard peakF "3" "a-b-c\n-\nx" (fb := Option.some [70]) == Option.some (.ok, { fields := 4, record := 5 })
#guard maxDelims 45 10 "a-b-c\n-\nx".toUTF8.toList == 2
-- early stop at field 1: two entries, whatever the record (`readAndCutTextAsBytesLoopI_fields_le_stop`)
#guard peakF "1" "a-b-c\n-\nx" == Option.some (.ok, { fields := 2, record := 5 })
#guard peakF "1" "a---------------b\n" == Option.some (.ok, { fields := 2, record := 17 })
-- the bound `delimiters + 2` is reached: five delimiters, seven entries
#guard peakF "-1" "-----\n" == Option.some (.ok, { fields := 7, record := 5 })
-- trimming removes delimiters before they are counted
#guard peakF "-1" "--a--\n" (trim := Option.some .both) == Option.some (.ok, { fields := 2, record := 5 })
#guard peakF "-1" "-----\n" (trim := Option.some .both) == Option.some (.ok, { fields := 0, record := 5 })
-- the first record fails (no field 3, no fallback): the second one is never lent
#guard peakF "3" "x\na-b-c-d-e\n" == Option.some (.fail, { fields := 2, record := 1 })
#guard peakF "3" "x\na-b-c-d-e\n" (fb := Option.some [70]) == Option.some (.ok, { fields := 4, record := 9 })
-- `readAndCutTextAsBytesLoopI_replicate` …
#guard peakF "2:" "a-b-c\nd-e\n" == Option.some (.ok, { fields := 4, record := 5 })
#guard peakF "2:" "a-b-c\nd-e\na-b-c\nd-e\na-b-c\nd-e\n" == Option.some (.ok, { fields := 4, record := 5 })
-- … and why the block has to end with the terminator
#guard peakF "2:" "a-b" == Option.some (.ok, { fields := 3, record := 3 })
#guard peakF "2:" "a-ba-b" == Option.some (.ok, { fields := 4, record := 6 })
-- 500 records of two fields
#guard (optF "2").map (fun o => (readAndCutTextAsBytesLoopI o
  (List.replicate 500 [97, 45, 97, 10]).flatten).2) == Option.some { fields := 3, record := 3 }

/-! erasure and bounds on all inputs of at most 6 bytes over `{a, -, LF}` × 15 bounds lists ×
    `-s` × `-t b` -/

#guard ((List.range 7).flatMap (FastLoop.linesOfLength [97, 45, 10])).all fun input =>
  FastLoop.testBounds.all fun bounds =>
    [false, true].all fun s => [Option.none, Option.some TrimKind.both].all fun trim =>
    let opt : FastOpt := { delimiter := 45, join := false, eol := .newline, bounds := bounds,
                           onlyDelimited := s, trim := trim, fallbackOob := Option.none }
    let r := readAndCutTextAsBytesLoopI opt input
    r.1 == readAndCutTextAsBytesLoop opt input &&
      r.2.fields ≤ maxDelims 45 10 input + 2 && r.2.record ≤ longestRecord 10 input

open StreamLoop

instance (o : StreamOpt) (cap : Nat) : (ob : Obs) → Decidable (ob.Ok o cap)
  | .chunkEnd n v => by unfold Obs.Ok VarsOk; exact inferInstance
  | .loopExit v => by unfold Obs.Ok; exact inferInstance

/-- the trace, reduced to (chunk length, `chunk_part_start_idx`, `bytes_to_consume`, `bof_idx`,
    `curr_field`) at l.390 -/
def chunkEnds (t : List Obs) : List (Nat × Nat × Nat × Nat × Int) :=
  t.filterMap fun
    | .chunkEnd n v => Option.some (n, v.chunkPartStartIdx, v.bytesToConsume, v.bofIdx, v.currField)
    | .loopExit _ => Option.none

-- `-f 2`, reads of 4, 3 and 6 bytes: early stop in the first chunk, the EOL is found in the third
-- one, whose rest (`f-g` LF) is handed out again as a chunk of 4
#guard chunkEnds (cutBytesStreamLoopI (mkOpt "2") (segsOf "a-b-c-de\nf-g\n".toUTF8.toList [4, 3, 6])).2 ==
  [(4, 4, 4, 1, 2), (3, 2, 3, 1, 2), (6, 2, 2, 1, 2), (4, 4, 4, 1, 2)]
-- one field of 12 bytes in reads of 5: nothing but indexes and flags crosses the reads
#guard chunkEnds (cutBytesStreamLoopI (mkOpt "1") (segsOf "aaaaaaaaaaaa\n".toUTF8.toList [5, 5, 5])).2 ==
  [(5, 0, 5, 0, 1), (5, 0, 5, 0, 1), (3, 3, 3, 1, 1)]

-- `newChunkI_ok` asks for `bof_idx ≤ bounds.len()` in the state it starts from (the function starts
-- from 0): from an index outside the bounds the first observation already shows it
#guard (newChunkI (mkOpt "1") 4 [[97, 97]] { bofIdx := 5 }).2.any fun ob =>
  !decide (ob.Ok (mkOpt "1") 2)

/-! erasure and invariant on every input of at most 4 bytes over `{a, -, LF}` × every segmentation
    × the option records of `Tuc.Props.StreamLoop` (parsed ones and hand-made ones) -/

#guard (optsParsed.filter (·.eol == .newline) ++ optsWild).all fun o =>
  (wordsUpTo [0x61, 0x2d, 0x0a] 4).all fun w => (segmentations w).all fun segs =>
    let r := cutBytesStreamLoopI o segs
    r.1 == cutBytesStreamLoop o segs && r.2.all fun ob => decide (ob.Ok o (maxLen segs))

end Guards

end Space
end Tuc
