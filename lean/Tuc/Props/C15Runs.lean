import Tuc.Lemmas.SpecLaws
import Tuc.Props.C05Buffered
/-!
# C15 at the level of runs — `-m` with the bounds `B` behaves as the rewritten list without `-m`

The rewritten list, for `n` parts, is `mapBounds (complementBound · n) B` (every bound `b` replaced
in place by `complementBound b n`: the parts before it, the parts after it; a bound that does not
resolve stays; fillers kept), with `is_last` re-marked by `markLast`.  `Tuc.Props.C15` relates
`UserBounds::complement` to `complementBound` (nothing of that file is used here).  Here the law is stated for the specification (one
tokenised record, one record, `-l`, the run; if nothing is left the record fails having printed
only the `[` of `--json`, which happens iff every bound resolves to all the parts:
`complement_empty_iff`) and transported to the runs of the general field engine and of `-l` through
their refinement theorems on both sides.
-/
namespace Tuc
open Tuc.Spec

/-- the request `cfg'` is the request `cfg` (which has `-m`) with `-m` removed and the bounds
    rewritten for `n` parts -/
structure ComplementOf (n : Nat) (cfg cfg' : Cfg) : Prop extends SameTokens cfg cfg' where
  replace : cfg'.replace = cfg.replace
  join : cfg'.join = cfg.join
  json : cfg'.json = cfg.json
  fallback : cfg'.fallback = cfg.fallback
  on : cfg.complement = true
  off : cfg'.complement = false
  bofs : cfg'.bofs = mapBounds (complementBound · n) cfg.bofs

theorem complementOf_with (cfg : Cfg) (n : Nat) :
    ComplementOf n { cfg with complement := true }
      { cfg with complement := false, bofs := mapBounds (complementBound · n) cfg.bofs } :=
  ⟨⟨rfl, rfl, rfl, rfl, rfl, rfl, rfl⟩, rfl, rfl, rfl, rfl, rfl, rfl, rfl⟩

theorem ComplementOf.complemented {n : Nat} {cfg cfg' : Cfg} (h : ComplementOf n cfg cfg') :
    complemented cfg' n = complemented cfg n := by
  unfold Spec.complemented
  rw [h.on, h.off, h.bofs]
  rfl

theorem ComplementOf.rewritten {n : Nat} {cfg cfg' : Cfg} (h : ComplementOf n cfg cfg') :
    rewritten cfg' n = rewritten cfg n := by
  unfold Spec.rewritten
  rw [h.json, h.chars, h.complemented]

theorem ComplementOf.specBody {cfg cfg' : Cfg} (tok : Tok)
    (h : ComplementOf tok.numFields cfg cfg') :
    specBody cfg tok =
      if (cfg.onlyDelimited && tok.numFields == 1) = false ∧
          countBounds (mapBounds (complementBound · tok.numFields) cfg.bofs) = 0 then
        ⟨openBracket cfg, .fail⟩
      else specBody cfg' tok := by
  have e1 : openBracket cfg' = openBracket cfg := by unfold openBracket; rw [h.json]
  have e2 : closeBracket cfg' = closeBracket cfg := by unfold closeBracket; rw [h.json]
  have e3 : specSep cfg' = specSep cfg := by unfold specSep; rw [h.chars, h.replace, h.delimiter]
  have e4 : specJoiner cfg' = specJoiner cfg := by unfold specJoiner; rw [h.replace, h.delimiter]
  have e5 : Spec.complemented cfg tok.numFields = mapBounds (complementBound · tok.numFields) cfg.bofs := by
    unfold Spec.complemented; rw [h.on]; rfl
  unfold Spec.specBody
  rw [h.onlyDelimited, h.off, h.rewritten, e1, e2, e3, e4, h.eol, h.on, e5,
    emit_cfg_congr h.json h.join h.fallback]
  cases hs : (cfg.onlyDelimited && tok.numFields == 1) with
  | true => simp
  | false =>
    by_cases hc : countBounds (mapBounds (complementBound · tok.numFields) cfg.bofs) = 0
    · simp [hc]
    · simp [hc]

/-- **C15, one tokenised record.**  `-m` is the rewriting of the bounds list: for a record of
    `n = tok.numFields` parts, every bound `b` is replaced in place by `complementBound b n`;
    when the rewritten list has no bound left the record fails (after the `[` of `--json`). -/
theorem specBody_complement (cfg : Cfg) (tok : Tok) :
    specBody { cfg with complement := true } tok =
      if (cfg.onlyDelimited && tok.numFields == 1) = false ∧
          countBounds (mapBounds (complementBound · tok.numFields) cfg.bofs) = 0 then
        ⟨openBracket cfg, .fail⟩
      else
        specBody { cfg with complement := false, bofs := mapBounds (complementBound · tok.numFields) cfg.bofs } tok :=
  (complementOf_with cfg tok.numFields).specBody tok

/-- **C15, one record** with `n` fields, something left to print -/
theorem specRecord_complement (cfg : Cfg) (n : Nat) (r : Bytes) (hn : HasNFields cfg n r)
    (hc : countBounds (mapBounds (complementBound · n) cfg.bofs) ≠ 0) :
    specRecord { cfg with complement := true } r =
      specRecord { cfg with complement := false, bofs := mapBounds (complementBound · n) cfg.bofs } r := by
  have h := complementOf_with cfg n
  refine (specRecord_congr h.toSameTokens r fun tok ht => ?_).symm
  have hn' : tok.numFields = n := hn tok ht
  subst hn'
  rw [h.specBody tok, if_neg (fun hh => hc hh.2)]

/-- **C15, nothing left**: the record fails, having printed only the `[` of `--json` -/
theorem specRecord_complement_empty (cfg : Cfg) (r : Bytes) (tok : Tok)
    (ht : recordTok cfg r = some tok)
    (hs : (cfg.onlyDelimited && tok.numFields == 1) = false)
    (hc : countBounds (mapBounds (complementBound · tok.numFields) cfg.bofs) = 0) :
    specRecord { cfg with complement := true } r = ⟨openBracket cfg, .fail⟩ := by
  have ht' : recordTok { cfg with complement := true } r = some tok := ht
  rw [specRecord_of_recordTok ht', specBody_complement, if_pos ⟨hs, hc⟩]

theorem complementBound_eq_nil_iff (b : UserBounds) (n : Nat) :
    complementBound b n = [] ↔ resolve b n = some (1, n) := by
  unfold complementBound
  cases h : resolve b n with
  | none => simp
  | some p =>
    obtain ⟨lo, hi⟩ := p
    have hr := resolve_range h
    simp only [List.append_eq_nil_iff, Option.some.injEq, Prod.mk.injEq]
    constructor
    · rintro ⟨h1, h2⟩
      by_cases c1 : 1 < lo
      · simp [c1] at h1
      · by_cases c2 : hi < n
        · simp [c2] at h2
        · omega
    · rintro ⟨rfl, rfl⟩
      simp

/-- **the complement is empty iff every bound covers the whole record** -/
theorem complement_empty_iff (n : Nat) : ∀ (l : List BoF),
    countBounds (mapBounds (complementBound · n) l) = 0 ↔
      ∀ b ∈ boundsOnly l, resolve b n = some (1, n)
  | [] => by simp [mapBounds, countBounds, boundsOnly]
  | .filler f :: t => by
    simp only [mapBounds, countBounds, boundsOnly]
    exact complement_empty_iff n t
  | .bound b :: t => by
    simp only [mapBounds, countBounds_append, countBounds_map_bound, boundsOnly, List.mem_cons,
      forall_eq_or_imp]
    rw [← complement_empty_iff n t, ← complementBound_eq_nil_iff, ← List.length_eq_zero_iff]
    omega

/-- `2` on 3 parts behaves as `1,3:3`; a bound touching the first (last) part yields only the
    other side; a bound that does not resolve stays, with its fallback -/
example :
    complementBound { l := .some 2, r := .some 2 } 3 =
      [{ l := .some 1, r := .some 1 }, { l := .some 3, r := .some 3 }] ∧
    complementBound { l := .some 1, r := .some 2 } 3 = [{ l := .some 3, r := .some 3 }] ∧
    complementBound { l := .some (-2), r := .cont } 3 = [{ l := .some 1, r := .some 1 }] ∧
    complementBound { l := .cont, r := .cont } 3 = [] ∧
    complementBound { l := .some 5, r := .some 5, fallback := some [0x78] } 3 =
      [{ l := .some 5, r := .some 5, fallback := some [0x78] }] := by
  decide +kernel

/-- **C15, `-l`**: the bounds are rewritten for the number of lines of the input,
    `(records cfg.eol input).length`, and something is left to print (`hc`) -/
theorem specLines_complement (cfg : Cfg) (input : Bytes)
    (hc : countBounds (mapBounds (complementBound · (records cfg.eol input).length) cfg.bofs) ≠ 0) :
    specLines { cfg with complement := true } input =
      specLines { cfg with complement := false, bofs := mapBounds (complementBound · (records cfg.eol input).length)
                             cfg.bofs } input := by
  rw [specLines_eq_specRecord, specLines_eq_specRecord]
  exact specRecord_complement (asLines cfg) _ _ (hasNFields_lines cfg input) hc

theorem specLines_eraseLast {cfg cfg' : Cfg} (h : SameButBofs cfg cfg') (input : Bytes)
    (he : cfg'.bofs.map eraseLast = cfg.bofs.map eraseLast) :
    specLines cfg' input = specLines cfg input := by
  rw [specLines_eq_specRecord, specLines_eq_specRecord, h.eol]
  exact specRecord_eraseLast h.asLines _ he

/-- what `UserBoundsList::from` makes of the rewritten list: the same elements but for `is_last`,
    hence again without the index 0, with `is_last` on the last bound — and there is a bound -/
theorem marked_complement {l l' : List BoF} {n : Nat} (hz : AllNonzero l)
    (hmark : markLast (mapBounds (complementBound · n) l) = some l') :
    l'.map eraseLast = (mapBounds (complementBound · n) l).map eraseLast ∧ AllNonzero l' ∧
      LastMarked l' ∧ countBounds (mapBounds (complementBound · n) l) ≠ 0 :=
  have he := markLast_eraseLast _ _ hmark
  ⟨he, markLast_allNonzero hmark (mapBounds_complement_nonzero n _ hz),
    markLast_lastMarked _ _ (mapBounds_complement_noneMarked n _) hmark,
    Nat.ne_of_gt (countBounds_pos_of_markLast_some _ _ hmark).1⟩

theorem sameButBofs_rewritten (o : Opt) (bl' : UserBoundsList) (bs : List BoF) :
    SameButBofs { (cfgOf o) with complement := false, bofs := bs }
      (cfgOf { o with complement := false, bounds := bl' }) :=
  ⟨⟨rfl, rfl, rfl, rfl, rfl, rfl, rfl⟩, rfl, rfl, rfl, rfl, rfl⟩

/-- **C15, the run of the specification**: on an
    input all of whose records have `n` fields, the request with `-m` and the request without `-m`
    whose bounds are (up to `is_last`) the rewritten list print the same -/
theorem specRun_complement {cfg cfg' : Cfg} (n : Nat) (input : Bytes)
    (hsame : SameButBofs { cfg with complement := false, bofs := mapBounds (complementBound · n) cfg.bofs } cfg')
    (he : cfg'.bofs.map eraseLast = (mapBounds (complementBound · n) cfg.bofs).map eraseLast)
    (hc : countBounds (mapBounds (complementBound · n) cfg.bofs) ≠ 0)
    (hn : ∀ r ∈ records cfg.eol input, HasNFields cfg n r) :
    specRun { cfg with complement := true } input = specRun cfg' input := by
  unfold specRun specRecords
  rw [show cfg'.eol = cfg.eol from hsame.eol]
  refine (specRunRecords_congr (cfg := cfg') (cfg' := { cfg with complement := true }) _ fun r hr => ?_)
  rw [specRecord_complement cfg n r (hn r hr) hc]
  exact (specRecord_eraseLast hsame r he).symm

theorem specLines_complement_marked {cfg cfg' : Cfg} (input : Bytes)
    (hsame : SameButBofs
      { cfg with complement := false, bofs := mapBounds (complementBound · (records cfg.eol input).length) cfg.bofs }
      cfg')
    (he : cfg'.bofs.map eraseLast =
      (mapBounds (complementBound · (records cfg.eol input).length) cfg.bofs).map eraseLast)
    (hc : countBounds (mapBounds (complementBound · (records cfg.eol input).length) cfg.bofs) ≠ 0) :
    specLines { cfg with complement := true } input = specLines cfg' input :=
  (specLines_complement cfg input hc).trans (specLines_eraseLast hsame input he).symm

/-- **C15, general field engine, the run.**  On an input all of whose records have `n` fields,
    `-m` with the bounds `B` prints what the same invocation without `-m` prints for the bounds
    `mapBounds (complementBound · n) B` (`is_last` re-marked on its last bound, as
    `UserBoundsList::from` does; `hmark`):
    same bytes, same exit status.  `-j`, `-r`, `-g -p -t -s`, fallbacks and fillers are the
    same on both sides. -/
theorem readAndCutStr_complement (opt : Opt) (bl' : UserBoundsList) (n : Nat) (input : Bytes)
    (hmark : markLast (mapBounds (complementBound · n) opt.bounds.list) = some bl'.list)
    (hn : ∀ r ∈ records opt.eol.byte input, HasNFields (cfgOf opt) n r)
    (hd : opt.delimiter ≠ []) (hre : opt.regexBag = none)
    (hty : opt.boundsType = .fields ∨ opt.boundsType = .lines) (hjson : opt.json = false)
    (hz : AllNonzero opt.bounds.list) (hL : LastMarked opt.bounds.list) :
    readAndCutStr { opt with complement := true } input =
      readAndCutStr { opt with complement := false, bounds := bl' } input := by
  obtain ⟨he, hz', hL', hc⟩ := marked_complement hz hmark
  rw [fields_run_eq_spec { opt with complement := true } input hd hre hty hz hL,
    fields_run_eq_spec { opt with complement := false, bounds := bl' } input hd hre hty
      hz' hL']
  exact specRun_complement n input (sameButBofs_rewritten opt bl' _) he hc hn

/-- **C15, general field engine, nothing left**: a record that has fields (and is not suppressed
    by `-s`) all of which every bound covers makes the run fail after the records before it;
    nothing is printed for it. -/
theorem readAndCutStr_complement_empty (opt : Opt) (before after : List Bytes) (r : Bytes)
    (tok : Tok) (input : Bytes)
    (hrec : records opt.eol.byte input = before ++ r :: after)
    (ht : recordTok (cfgOf opt) r = some tok)
    (hs : (opt.onlyDelimited && tok.numFields == 1) = false)
    (hall : ∀ b ∈ boundsOnly opt.bounds.list, resolve b tok.numFields = some (1, tok.numFields))
    (hd : opt.delimiter ≠ []) (hre : opt.regexBag = none)
    (hty : opt.boundsType = .fields ∨ opt.boundsType = .lines) (hjson : opt.json = false)
    (hz : AllNonzero opt.bounds.list) (hL : LastMarked opt.bounds.list) :
    readAndCutStr { opt with complement := true } input =
      (specRunRecords (cfgOf { opt with complement := true }) before).seq Run.fail := by
  have h := specRecord_complement_empty (cfgOf opt) r tok ht hs
    ((complement_empty_iff tok.numFields opt.bounds.list).2 hall)
  rw [openBracket_cfgOf opt hjson] at h
  have h' : specRecord (cfgOf { opt with complement := true }) r = Run.fail := h
  rw [fields_run_eq_spec { opt with complement := true } input hd hre hty hz hL,
    specRun_at (cfgOf { opt with complement := true }) input before after r hrec, h']
  rfl

/-- **C15, `-l`, the run.**  The bounds are rewritten for the number of lines of the input,
    `(records o.eol.byte input).length`.  The `-m` side is served by the buffered
    algorithm; the rewritten request has positive indexes only and may be served one line at a
    time, whence `hfwd` (the domain of C05 for that algorithm). -/
theorem readAndCutLines_complement (o : Opt) (bl' : UserBoundsList) (input : Bytes)
    (hmark : markLast (mapBounds (complementBound · (records o.eol.byte input).length)
      o.bounds.list) = some bl'.list)
    (hd : o.delimiter = [o.eol.byte]) (hty : o.boundsType = .lines)
    (hre : o.regexBag = none) (hjson : o.json = false)
    (hz : AllNonzero o.bounds.list) (hL : LastMarked o.bounds.list)
    (honly : o.onlyDelimited = false) (htrim : o.trim = none) (hg : o.greedyDelimiter = false)
    (hp : o.compressDelimiter = false) (hrepl : o.replaceDelimiter = none)
    (hutf : validUtf8 input = true) (h0 : input ≠ []) (h1 : input ≠ [o.eol.byte])
    (hfwd : isForwardOnly bl'.list = true →
      ∃ bs : List UserBounds, bl'.list = bs.map .bound ∧
        ∀ b ∈ bs, resolve b (records o.eol.byte input).length ≠ none) :
    readAndCutLines { o with complement := true } input =
      readAndCutLines { o with complement := false, bounds := bl' } input := by
  obtain ⟨he, hz', hL', hc⟩ := marked_complement hz hmark
  rw [readAndCutLines_buffered_eq_spec { o with complement := true } input (Or.inl rfl) hd hty hre hjson
      hz hL honly htrim hg hp hrepl hutf,
    readAndCutLines_eq_specLines { o with complement := false, bounds := bl' } input hd hty hre
      hjson hz' hL' honly htrim hg hp hrepl hutf h0 h1 (fun _ hf => hfwd hf)]
  exact specLines_complement_marked input (sameButBofs_rewritten o bl' _) he hc

theorem mapBounds_plain (f : UserBounds → List UserBounds) : ∀ (bs : List UserBounds),
    mapBounds f (bs.map .bound) = (bs.flatMap f).map .bound
  | [] => rfl
  | b :: t => by simp [mapBounds, mapBounds_plain f t]

theorem complementBound_resolves (b : UserBounds) (n : Nat) (h : resolve b n ≠ none) :
    ∀ c ∈ complementBound b n, resolve c n ≠ none := by
  intro c hc
  unfold complementBound at hc
  cases hres : resolve b n with
  | none => exact absurd hres h
  | some p =>
    obtain ⟨h1, h2, h3⟩ := resolve_range hres
    rw [hres] at hc
    rcases List.mem_append.1 hc with hc | hc
    · by_cases c1 : 1 < p.1
      · rw [if_pos c1] at hc
        cases List.mem_singleton.1 hc
        rw [resolve_posRange (by decide) (by omega) (by omega)]
        nofun
      · rw [if_neg c1] at hc
        cases hc
    · by_cases c2 : p.2 < n
      · rw [if_pos c2] at hc
        cases List.mem_singleton.1 hc
        rw [resolve_posRange (by omega) (by omega) (Int.le_refl _)]
        nofun
      · rw [if_neg c2] at hc
        cases hc

/-- the rewritten list of a plain request all of whose bounds resolve is again plain and resolvable:
    the domain of C05 for the one-line-at-a-time algorithm, which may serve it -/
theorem complement_plain_resolves {bs : List UserBounds} {n : Nat} {l' : List BoF}
    (hres : ∀ b ∈ bs, resolve b n ≠ none)
    (hmark : markLast (mapBounds (complementBound · n) (bs.map .bound)) = some l') :
    ∃ bs' : List UserBounds, l' = bs'.map .bound ∧ ∀ b ∈ bs', resolve b n ≠ none := by
  -- `markLast` keeps a plain list plain and its sides as they are (`markLast_plain`)
  rw [mapBounds_plain] at hmark
  obtain ⟨bs', hbs', hlen, hsame⟩ := markLast_plain _ _ hmark
  refine ⟨bs', hbs', fun b' hb' => ?_⟩
  obtain ⟨i, hi, rfl⟩ := List.mem_iff_getElem.1 hb'
  obtain ⟨el, er, _⟩ := hsame i hi (hlen ▸ hi)
  rw [resolve_congr (congrArg (resolveSide · n 1) el) (congrArg (resolveSide · n n) er)]
  obtain ⟨b, hbmem, hcb⟩ := List.mem_flatMap.mp (List.getElem_mem (hlen ▸ hi))
  exact complementBound_resolves b _ (hres b hbmem) _ hcb

/-- `-d - -j -r = -m -f 2` on `a-b-c⏎d-e-f⏎` is `-f 1,3:3` (and `-f 1,3:`): `a=c⏎d=f⏎`;
    `-m -f 1:2` is `-f 3`; `-m -f 1:` leaves nothing and fails -/
example :
    let o (m : Bool) (l : List BoF) : Opt :=
      { delimiter := [45], bounds := ⟨l, .cont⟩, join := true, complement := m,
        replaceDelimiter := some [61] }
    let input : Bytes := [97, 45, 98, 45, 99, 10, 100, 45, 101, 45, 102, 10]
    markLast (mapBounds (complementBound · 3) [.bound { l := .some 2, r := .some 2, isLast := true }]) =
      some [.bound { l := .some 1, r := .some 1 }, .bound { l := .some 3, r := .some 3, isLast := true }] ∧
    readAndCutStr (o true [.bound { l := .some 2, r := .some 2, isLast := true }]) input =
      Run.ok [97, 61, 99, 10, 100, 61, 102, 10] ∧
    readAndCutStr (o false [.bound { l := .some 1, r := .some 1 },
        .bound { l := .some 3, r := .some 3, isLast := true }]) input =
      Run.ok [97, 61, 99, 10, 100, 61, 102, 10] ∧
    readAndCutStr (o false [.bound { l := .some 1, r := .some 1 },
        .bound { l := .some 3, r := .cont, isLast := true }]) input =
      Run.ok [97, 61, 99, 10, 100, 61, 102, 10] ∧
    readAndCutStr (o true [.bound { l := .some 1, r := .some 2, isLast := true }]) input =
      Run.ok [99, 10, 102, 10] ∧
    readAndCutStr (o true [.bound { l := .some 1, r := .cont, isLast := true }]) input = Run.fail := by
  decide +kernel

/-- `-l -m 2` on `a⏎b⏎c⏎` is `-l 1,3` (the first by the buffered algorithm, the second one line
    at a time) -/
example :
    let o (m : Bool) (l : List BoF) : Opt :=
      { delimiter := [10], boundsType := .lines, join := true, complement := m, bounds := ⟨l, .cont⟩ }
    let input : Bytes := [97, 10, 98, 10, 99, 10]
    readAndCutLines (o true [.bound { l := .some 2, r := .some 2, isLast := true }]) input =
      Run.ok [97, 10, 99, 10] ∧
    readAndCutLines (o false [.bound { l := .some 1, r := .some 1 },
        .bound { l := .some 3, r := .some 3, isLast := true }]) input = Run.ok [97, 10, 99, 10] := by
  decide +kernel

end Tuc
