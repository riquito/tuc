import Tuc.Model.CutStr
import Tuc.Model.FastLane
import Tuc.Lemmas.Records
/-!
# C10 — records are cut independently of one another

For the general engine (`readAndCutStr`: fields, `-c`, `--json`) and the fast lane; the same for
`-M` is `Tuc.Props.C10Stream`.

* what one record leaves in the scratch buffers never influences the next (`*_scratch_irrelevant`);
* the output for `A ++ B`, `A` ending with an EOL, is the output for `A` followed by the output for
  `B` (`*_append`), and if `A` fails, `A ++ B` fails after delivering exactly the same bytes
  (`*_append_of_fail`).
-/
namespace Tuc

/-- general engine: the run of a record does not depend on what the scratch buffers hold -/
theorem cutStr_scratch_irrelevant (line : Bytes) (opt : Opt) (f₀ : List Range) (b₀ eol : Bytes) :
    (cutStr line opt f₀ b₀ eol).1 = (cutStr line opt [] [] eol).1 := rfl

theorem cutRecords_scratch_irrelevant (opt : Opt) (recs : List Bytes) (f₀ : List Range) (b₀ : Bytes) :
    cutRecords opt recs f₀ b₀ = cutRecords opt recs [] [] := by
  rw [cutRecords_eq_seqMap, cutRecords_eq_seqMap]

/-- fast lane: likewise for its `fields` vector -/
theorem cutStrFastLane_scratch_irrelevant (buf : Bytes) (opt : FastOpt) (f₀ : List Nat) (lif : Side) :
    (cutStrFastLane buf opt f₀ lif).1 = (cutStrFastLane buf opt [] lif).1 := rfl

theorem fastRecords_scratch_irrelevant (opt : FastOpt) (lif : Side) (recs : List Bytes) (f₀ : List Nat) :
    fastRecords opt lif recs f₀ = fastRecords opt lif recs [] := by
  rw [fastRecords_eq_seqMap, fastRecords_eq_seqMap]

/-- `A` ends with an EOL ⇒ the records of `A ++ B` are the records of `A`, then those of `B` -/
theorem records_append (eol : UInt8) (a b : Bytes) :
    records eol ((a ++ [eol]) ++ b) = records eol (a ++ [eol]) ++ records eol b := by
  rw [List.append_assoc, List.singleton_append, records_eq_map_stripEol, rawLines_append_eol,
    List.map_append, ← records_eq_map_stripEol, ← records_eq_map_stripEol]

theorem cutRecords_append (opt : Opt) (r₁ r₂ : List Bytes) (f₀ : List Range) (b₀ : Bytes) :
    cutRecords opt (r₁ ++ r₂) f₀ b₀ = (cutRecords opt r₁ f₀ b₀).seq (cutRecords opt r₂ [] []) := by
  simp only [cutRecords_eq_seqMap, Run.seqMap_append]

theorem fastRecords_append (opt : FastOpt) (lif : Side) (r₁ r₂ : List Bytes) (f₀ : List Nat) :
    fastRecords opt lif (r₁ ++ r₂) f₀ = (fastRecords opt lif r₁ f₀).seq (fastRecords opt lif r₂ []) := by
  simp only [fastRecords_eq_seqMap, Run.seqMap_append]

/-- **C10**, general field engine, `-c`, `--json`: for `A` ending with an EOL,
    output(A ‖ B) = output(A) then output(B) -/
theorem readAndCutStr_append (opt : Opt) (a b : Bytes) :
    readAndCutStr opt ((a ++ [opt.eol.byte]) ++ b) =
      (readAndCutStr opt (a ++ [opt.eol.byte])).seq (readAndCutStr opt b) := by
  unfold readAndCutStr
  rw [records_append, cutRecords_append]

/-- … and if cutting `A` fails, cutting `A ‖ B` fails too, having delivered exactly the same bytes -/
theorem readAndCutStr_append_of_fail (opt : Opt) (a b : Bytes)
    (h : (readAndCutStr opt (a ++ [opt.eol.byte])).status ≠ .ok) :
    readAndCutStr opt ((a ++ [opt.eol.byte]) ++ b) = readAndCutStr opt (a ++ [opt.eol.byte]) := by
  rw [readAndCutStr_append, Run.seq_of_not_ok _ _ h]

/-- **C10**, fast lane: for `A` ending with an EOL, output(A ‖ B) = output(A) then output(B) -/
theorem readAndCutFast_append (opt : FastOpt) (a b : Bytes) :
    readAndCutFast opt ((a ++ [opt.eol.byte]) ++ b) =
      (readAndCutFast opt (a ++ [opt.eol.byte])).seq (readAndCutFast opt b) := by
  unfold readAndCutFast
  rw [records_append, fastRecords_append]

theorem readAndCutFast_append_of_fail (opt : FastOpt) (a b : Bytes)
    (h : (readAndCutFast opt (a ++ [opt.eol.byte])).status ≠ .ok) :
    readAndCutFast opt ((a ++ [opt.eol.byte]) ++ b) = readAndCutFast opt (a ++ [opt.eol.byte]) := by
  rw [readAndCutFast_append, Run.seq_of_not_ok _ _ h]

end Tuc
