import Tuc.Model.Utf8
import Tuc.Model.Chars
import Tuc.Model.CutStr
import Tuc.Lemmas.Records
/-!
# C07, the UTF-8 library — `charLen`, `utf8Chars`, `validUtf8` (character mode itself: `Tuc.Props.C07Spec`)

What C07 ("character mode cuts by Unicode scalar value and never splits one") rests on, read also by
C05, C11, `Props/LibLit` and `Lemmas/LinesLoop`; no statement here is about the engine.
`charLen` (Unicode Table 3-7) decides the head sequence from its own 1–4 bytes.  The table is
written down as data — `utf8Row b0`: the tests on the bytes that must follow the first byte `b0`,
`passes`: they do — and `charLen` is walked once (`charLen_eq`); the rest are facts about rows and
about `passes`.  `utf8Chars` never runs out of fuel and is characterised exactly (`utf8Chars_iff`):
`utf8Chars bs = some cs` iff `cs.flatten = bs` and every piece of `cs` is one well-formed scalar
value; facts about valid strings go by induction over their characters (`validUtf8_induction`);
cutting at an ASCII byte keeps validity both ways (`validUtf8_split_ascii`); read off it, one way
only: a valid input has only valid records (`validUtf8_records`; the EOL is ASCII, `EOL.byte_ascii`).
-/
namespace Tuc

theorem isCont_ge {b : UInt8} (h : isCont b = true) : 0x80 ≤ b := by
  simp only [isCont, Bool.and_eq_true, decide_eq_true_eq] at h
  exact h.1

/-- Table 3-7, the second byte of a three-byte sequence -/
def second3 (b0 b1 : UInt8) : Bool :=
  if b0 = 0xE0 then 0xA0 ≤ b1 && b1 ≤ 0xBF
  else if b0 = 0xED then 0x80 ≤ b1 && b1 ≤ 0x9F
  else isCont b1

/-- Table 3-7, the second byte of a four-byte sequence -/
def second4 (b0 b1 : UInt8) : Bool :=
  if b0 = 0xF0 then 0x90 ≤ b1 && b1 ≤ 0xBF
  else if b0 = 0xF4 then 0x80 ≤ b1 && b1 ≤ 0x8F
  else isCont b1

/-- Table 3-7 as a table: the row of a first byte lists the tests on the bytes that must follow it, one each
    (`none`: not a first byte) -/
def utf8Row (b0 : UInt8) : Option (List (UInt8 → Bool)) :=
  if b0 < 0x80 then some []
  else if 0xC2 ≤ b0 && b0 ≤ 0xDF then some [isCont]
  else if 0xE0 ≤ b0 && b0 ≤ 0xEF then some [second3 b0, isCont]
  else if 0xF0 ≤ b0 && b0 ≤ 0xF4 then some [second4 b0, isCont, isCont]
  else none

def passes : List (UInt8 → Bool) → Bytes → Bool
  | [], _ => true
  | _ :: _, [] => false
  | p :: ps, b :: t => p b && passes ps t

theorem charLen_eq (b0 : UInt8) (t : Bytes) :
    charLen (b0 :: t) = (utf8Row b0).bind fun ps => if passes ps t then some (ps.length + 1) else none := by
  unfold utf8Row
  show (if b0 < 0x80 then some 1 else _) = _
  by_cases h1 : b0 < 0x80
  · rw [if_pos h1, if_pos h1]; rfl
  rw [if_neg h1, if_neg h1]
  by_cases h2 : (decide (0xC2 ≤ b0) && decide (b0 ≤ 0xDF)) = true
  · rw [if_pos h2, if_pos h2]
    rcases t with _ | ⟨b1, t⟩
    · rfl
    · simp only [Option.bind_some, passes, Bool.and_true, List.length_cons, List.length_nil]
  rw [if_neg h2, if_neg h2]
  by_cases h3 : (decide (0xE0 ≤ b0) && decide (b0 ≤ 0xEF)) = true
  · rw [if_pos h3, if_pos h3]
    rcases t with _ | ⟨b1, _ | ⟨b2, t⟩⟩
    · rfl
    · simp only [Option.bind_some, passes, Bool.and_false, Bool.false_eq_true, if_false]
    · simp only [Option.bind_some, passes, second3, Bool.and_true, List.length_cons, List.length_nil]
  rw [if_neg h3, if_neg h3]
  by_cases h4 : (decide (0xF0 ≤ b0) && decide (b0 ≤ 0xF4)) = true
  · rw [if_pos h4, if_pos h4]
    rcases t with _ | ⟨b1, _ | ⟨b2, _ | ⟨b3, t⟩⟩⟩
    · rfl
    · simp only [Option.bind_some, passes, Bool.and_false, Bool.false_eq_true, if_false]
    · simp only [Option.bind_some, passes, Bool.and_false, Bool.false_eq_true, if_false]
    · simp only [Option.bind_some, passes, second4, Bool.and_true, Bool.and_assoc, List.length_cons,
        List.length_nil]
  rw [if_neg h4, if_neg h4]
  rfl

theorem charLen_eq_some {b0 : UInt8} {t : Bytes} {k : Nat} (h : charLen (b0 :: t) = some k) :
    ∃ ps, utf8Row b0 = some ps ∧ passes ps t = true ∧ k = ps.length + 1 := by
  rw [charLen_eq] at h
  cases hr : utf8Row b0 with
  | none => rw [hr] at h; cases h
  | some ps =>
    rw [hr, Option.bind_some, Option.ite_none_right_eq_some, Option.some.injEq] at h
    exact ⟨ps, rfl, h.1, h.2.symm⟩

theorem second_ge {b0 b : UInt8} (h : second3 b0 b = true ∨ second4 b0 b = true) : 0x80 ≤ b := by
  simp only [second3, second4, isCont] at h
  grind

theorem utf8Row_spec {b0 : UInt8} {ps : List (UInt8 → Bool)} (h : utf8Row b0 = some ps) :
    ps.length ≤ 3 ∧ (ps = [] ↔ b0 < 0x80) ∧ ∀ p ∈ ps, p = isCont ∨ p = second3 b0 ∨ p = second4 b0 := by
  unfold utf8Row at h
  grind

theorem utf8Row_of_cont {c : UInt8} (h : isCont c = true) : utf8Row c = none := by
  simp only [isCont, utf8Row] at h ⊢
  grind

theorem utf8Row_ge {b0 : UInt8} {ps : List (UInt8 → Bool)} (h : utf8Row b0 = some ps) {p : UInt8 → Bool}
    (hp : p ∈ ps) {b : UInt8} (hb : p b = true) : 0x80 ≤ b := by
  obtain ⟨-, -, hrow⟩ := utf8Row_spec h
  rcases hrow p hp with rfl | rfl | rfl
  · exact isCont_ge hb
  · exact second_ge (.inl hb)
  · exact second_ge (.inr hb)

theorem passes_length : ∀ (ps : List (UInt8 → Bool)) (t : Bytes), passes ps t = true → ps.length ≤ t.length
  | [], _, _ => Nat.zero_le _
  | _ :: _, [], h => nomatch h
  | _ :: ps, _ :: t, h => Nat.succ_le_succ (passes_length ps t (Bool.and_eq_true_iff.1 h).2)

theorem passes_append : ∀ (ps : List (UInt8 → Bool)) (c rest : Bytes), ps.length ≤ c.length →
    passes ps (c ++ rest) = passes ps c
  | [], _, _, _ => rfl
  | _ :: _, [], _, h => nomatch h
  | p :: ps, b :: c, rest, h => by
    rw [List.cons_append, passes, passes, passes_append ps c rest (Nat.le_of_succ_le_succ h)]

theorem passes_mem : ∀ (ps : List (UInt8 → Bool)) (t : Bytes), passes ps t = true →
    ∀ x ∈ t.take ps.length, ∃ p ∈ ps, p x = true
  | [], _, _ => by simp
  | _ :: _, [], h => nomatch h
  | p :: ps, b :: t, h => by
    obtain ⟨h1, h2⟩ := Bool.and_eq_true_iff.1 h
    intro x hx
    rcases List.mem_cons.1 hx with rfl | hx
    · exact ⟨p, List.mem_cons_self .., h1⟩
    · obtain ⟨q, hq, hqx⟩ := passes_mem ps t h2 x hx
      exact ⟨q, List.mem_cons_of_mem _ hq, hqx⟩

theorem charLen_bounds (bs : Bytes) (k : Nat) (h : charLen bs = some k) :
    1 ≤ k ∧ k ≤ 4 ∧ k ≤ bs.length := by
  match bs, h with
  | b0 :: t, h =>
    obtain ⟨ps, hr, hp, rfl⟩ := charLen_eq_some h
    have := (utf8Row_spec hr).1
    have := passes_length ps t hp
    simp only [List.length_cons]
    omega

theorem charLen_append (bs rest : Bytes) (k : Nat) (h : charLen bs = some k) :
    charLen (bs ++ rest) = some k := by
  match bs, h with
  | b0 :: t, h =>
    obtain ⟨ps, hr, hp, rfl⟩ := charLen_eq_some h
    rw [List.cons_append, charLen_eq, hr, Option.bind_some, passes_append ps t rest (passes_length ps t hp), hp,
      if_pos rfl]

theorem charLen_take (bs : Bytes) (k : Nat) (h : charLen bs = some k) :
    charLen (bs.take k) = some (bs.take k).length := by
  match bs, h with
  | b0 :: t, h =>
    obtain ⟨ps, hr, hp, rfl⟩ := charLen_eq_some h
    have hl := passes_length ps t hp
    have hlen : (t.take ps.length).length = ps.length := by rw [List.length_take]; omega
    rw [List.take_succ_cons, charLen_eq, hr, Option.bind_some,
      ← passes_append ps _ (t.drop ps.length) (Nat.le_of_eq hlen.symm), List.take_append_drop, hp, if_pos rfl,
      List.length_cons, hlen]

theorem utf8CharsFuel_fuel_eq (n : Nat) : ∀ (m : Nat) (bs : Bytes), bs.length ≤ n → bs.length ≤ m →
    utf8CharsFuel n bs = utf8CharsFuel m bs := by
  induction n with
  | zero =>
    intro m bs h _
    have : bs = [] := List.eq_nil_of_length_eq_zero (by omega)
    subst this
    cases m <;> rfl
  | succ n ih =>
    intro m bs hn hm
    cases bs with
    | nil => cases m <;> rfl
    | cons b t =>
      cases m with
      | zero => simp at hm
      | succ m =>
        simp only [utf8CharsFuel]
        cases hk : charLen (b :: t) with
        | none => rfl
        | some k =>
          have hb := charLen_bounds _ _ hk
          simp only
          rw [ih m]
          · simp only [List.length_drop, List.length_cons] at hn ⊢; omega
          · simp only [List.length_drop, List.length_cons] at hm ⊢; omega

theorem utf8CharsFuel_fuel (n : Nat) (bs : Bytes) (h : bs.length ≤ n) :
    utf8CharsFuel n bs = utf8CharsFuel bs.length bs :=
  utf8CharsFuel_fuel_eq n bs.length bs h (Nat.le_refl _)

theorem utf8Chars_cons (c rest : Bytes) (h : charLen c = some c.length) :
    utf8Chars (c ++ rest) = (utf8Chars rest).map (c :: ·) := by
  have hb := charLen_bounds _ _ h
  cases c with
  | nil => simp at hb
  | cons b t =>
    have h' := charLen_append _ rest _ h
    unfold utf8Chars
    simp only [List.cons_append, List.length_cons] at h' ⊢
    simp only [utf8CharsFuel, h']
    have e1 : List.drop (t.length + 1) (b :: (t ++ rest)) = rest := by simp
    have e2 : List.take (t.length + 1) (b :: (t ++ rest)) = b :: t := by simp
    rw [e1, e2, utf8CharsFuel_fuel _ rest (by simp)]

theorem utf8Chars_nil : utf8Chars [] = some [] := rfl

theorem utf8CharsFuel_sound (n : Nat) : ∀ (bs : Bytes) (cs : List Bytes),
    utf8CharsFuel n bs = some cs → cs.flatten = bs ∧ ∀ c ∈ cs, charLen c = some c.length := by
  induction n with
  | zero =>
    intro bs cs h
    cases bs with
    | nil => simp only [utf8CharsFuel, Option.some.injEq] at h; subst h; simp
    | cons b t => simp [utf8CharsFuel] at h
  | succ n ih =>
    intro bs cs h
    cases bs with
    | nil => simp only [utf8CharsFuel, Option.some.injEq] at h; subst h; simp
    | cons b t =>
      simp only [utf8CharsFuel] at h
      cases hk : charLen (b :: t) with
      | none => simp [hk] at h
      | some k =>
        simp only [hk, Option.map_eq_some_iff] at h
        obtain ⟨cs', hcs', rfl⟩ := h
        obtain ⟨h1, h2⟩ := ih _ _ hcs'
        constructor
        · rw [List.flatten_cons, h1, List.take_append_drop]
        · intro c hc
          rcases List.mem_cons.1 hc with rfl | hc
          · exact charLen_take _ _ hk
          · exact h2 c hc

theorem utf8Chars_flatten (bs : Bytes) (cs : List Bytes) (h : utf8Chars bs = some cs) :
    cs.flatten = bs := (utf8CharsFuel_sound _ bs cs h).1

theorem utf8Chars_each (bs : Bytes) (cs : List Bytes) (h : utf8Chars bs = some cs) :
    ∀ c ∈ cs, charLen c = some c.length := (utf8CharsFuel_sound _ bs cs h).2

/-- hence any selection, repetition or reordering of characters of valid records is valid UTF-8 -/
theorem utf8Chars_of_chars (cs : List Bytes) (h : ∀ c ∈ cs, charLen c = some c.length) :
    utf8Chars cs.flatten = some cs := by
  induction cs with
  | nil => rfl
  | cons c cs ih =>
    rw [List.flatten_cons, utf8Chars_cons c _ (h c (List.mem_cons_self ..)),
      ih (fun c' hc' => h c' (List.mem_cons_of_mem _ hc'))]
    rfl

/-- the exact characterisation of the segmentation (and its uniqueness) -/
theorem utf8Chars_iff (bs : Bytes) (cs : List Bytes) :
    utf8Chars bs = some cs ↔ cs.flatten = bs ∧ ∀ c ∈ cs, charLen c = some c.length := by
  constructor
  · intro h; exact ⟨utf8Chars_flatten bs cs h, utf8Chars_each bs cs h⟩
  · rintro ⟨rfl, h⟩; exact utf8Chars_of_chars cs h

theorem utf8Chars_append (a b : Bytes) (ca cb : List Bytes) (ha : utf8Chars a = some ca)
    (hb : utf8Chars b = some cb) : utf8Chars (a ++ b) = some (ca ++ cb) := by
  rw [utf8Chars_iff] at ha hb ⊢
  obtain ⟨rfl, ha⟩ := ha
  obtain ⟨rfl, hb⟩ := hb
  refine ⟨List.flatten_append, ?_⟩
  intro c hc
  rcases List.mem_append.1 hc with hc | hc
  · exact ha c hc
  · exact hb c hc

theorem validUtf8_iff (bs : Bytes) : validUtf8 bs = true ↔ ∃ cs, utf8Chars bs = some cs := by
  simp [validUtf8, Option.isSome_iff_exists]

theorem validUtf8_append (a b : Bytes) (ha : validUtf8 a = true) (hb : validUtf8 b = true) :
    validUtf8 (a ++ b) = true := by
  rw [validUtf8_iff] at ha hb ⊢
  obtain ⟨ca, ha⟩ := ha
  obtain ⟨cb, hb⟩ := hb
  exact ⟨_, utf8Chars_append a b ca cb ha hb⟩

theorem validUtf8_flatten_of_chars (cs : List Bytes) (h : ∀ c ∈ cs, charLen c = some c.length) :
    validUtf8 cs.flatten = true := by
  rw [validUtf8_iff]; exact ⟨cs, utf8Chars_of_chars cs h⟩

theorem validUtf8_char_append (c rest : Bytes) (h : charLen c = some c.length) :
    validUtf8 (c ++ rest) = validUtf8 rest := by
  simp [validUtf8, utf8Chars_cons c rest h]

theorem validUtf8_char (c : Bytes) (h : charLen c = some c.length) : validUtf8 c = true := by
  rw [← List.append_nil c, validUtf8_char_append c [] h]
  rfl

theorem validUtf8_of_charLen (bs : Bytes) (k : Nat) (h : charLen bs = some k) :
    validUtf8 bs = validUtf8 (bs.drop k) := by
  have := validUtf8_char_append (bs.take k) (bs.drop k) (charLen_take bs k h)
  rwa [List.take_append_drop] at this

theorem charLen_of_valid (b : UInt8) (t : Bytes) (h : validUtf8 (b :: t) = true) :
    ∃ k, charLen (b :: t) = some k := by
  cases hk : charLen (b :: t) with
  | some k => exact ⟨k, rfl⟩
  | none => simp [validUtf8, utf8Chars, utf8CharsFuel, hk] at h

@[elab_as_elim]
theorem validUtf8_induction {P : Bytes → Prop} (nil : P [])
    (char : ∀ c rest, charLen c = some c.length → validUtf8 rest = true → P rest → P (c ++ rest))
    (v : Bytes) (h : validUtf8 v = true) : P v := by
  obtain ⟨cs, hcs⟩ := (validUtf8_iff v).1 h
  obtain ⟨rfl, hch⟩ := (utf8Chars_iff _ cs).1 hcs
  clear h hcs
  induction cs with
  | nil => exact nil
  | cons c cs ih =>
    have hcs := fun c' hc' => hch c' (List.mem_cons_of_mem _ hc')
    exact char c _ (hch c (List.mem_cons_self ..)) (validUtf8_flatten_of_chars cs hcs) (ih hcs)

theorem validUtf8_append_left (a x : Bytes) (ha : validUtf8 a = true) :
    validUtf8 (a ++ x) = validUtf8 x := by
  refine validUtf8_induction rfl (fun c rest hc _ ih => ?_) a ha
  rw [List.append_assoc, validUtf8_char_append c _ hc, ih]

theorem charLen_ascii (b : UInt8) (t : Bytes) (h : b < 0x80) : charLen (b :: t) = some 1 := by
  rw [charLen_eq, utf8Row, if_pos h]
  rfl

theorem charLen_ascii_or_high (c : Bytes) (h : charLen c = some c.length) :
    (∃ b, c = [b] ∧ b < 0x80) ∨ ∀ b ∈ c, 0x80 ≤ b := by
  match c, h with
  | b0 :: t, h =>
    obtain ⟨ps, hr, hp, hk⟩ := charLen_eq_some h
    replace hk : t.length = ps.length := Nat.succ.inj hk
    by_cases hb : b0 < 0x80
    · obtain ⟨-, hnil, -⟩ := utf8Row_spec hr
      cases hnil.2 hb
      exact .inl ⟨b0, by rw [List.eq_nil_of_length_eq_zero hk], hb⟩
    · refine .inr fun b hb' => ?_
      rcases List.mem_cons.1 hb' with rfl | hb'
      · exact UInt8.not_lt.1 hb
      · obtain ⟨p, hp', hpb⟩ := passes_mem ps t hp b (by rwa [← hk, List.take_length])
        exact utf8Row_ge hr hp' hpb

/-- an ASCII byte is never inside a longer character -/
theorem validUtf8_split_ascii (b : UInt8) (hb : b < 0x80) (a rest : Bytes) :
    validUtf8 (a ++ b :: rest) = (validUtf8 a && validUtf8 rest) := by
  cases ha : validUtf8 a with
  | true =>
    rw [validUtf8_append_left a _ ha, ← List.singleton_append,
      validUtf8_char_append [b] rest (charLen_ascii b [] hb), Bool.true_and]
  | false =>
    rw [Bool.false_and, Bool.eq_false_iff]
    intro hv
    suffices ∀ v, validUtf8 v = true → ∀ a, v = a ++ b :: rest → validUtf8 a = true by
      rw [this _ hv a rfl] at ha; cases ha
    clear ha hv a
    intro v hv
    refine validUtf8_induction (fun a h => ?_) (fun c v' hc _ ih a h => ?_) v hv
    · cases a <;> cases h
    · rcases List.append_eq_append_iff.1 h with ⟨a', rfl, h'⟩ | ⟨c', rfl, h'⟩
      · exact validUtf8_append _ _ (validUtf8_char c hc) (ih a' h')
      · cases c' with
        | nil => rw [List.append_nil] at hc; exact validUtf8_char _ hc
        | cons x c'' =>
          -- `b` would be a byte of the character `a ++ b :: c''`, which then is `[b]`
          obtain rfl : x = b := (List.cons.inj h').1.symm
          rcases charLen_ascii_or_high _ hc with ⟨y, hy, -⟩ | hge
          · cases a with
            | nil => rfl
            | cons _ a => cases a <;> simp at hy
          · exact absurd (hge x (by simp)) (UInt8.not_le.2 hb)

theorem validUtf8_records (eol : UInt8) (heol : eol < 0x80) (input : Bytes) :
    validUtf8 input = true → ∀ l ∈ records eol input, validUtf8 l = true :=
  records_ind (P := fun x rs => validUtf8 x = true → ∀ r ∈ rs, validUtf8 r = true)
    (fun l _ hv r hr => by
      split at hr
      · cases hr
      · rwa [List.mem_singleton.1 hr])
    (fun l rest _ ih hv r hr => by
      rw [validUtf8_split_ascii eol heol, Bool.and_eq_true] at hv
      rcases List.mem_cons.1 hr with rfl | hr
      · exact hv.1
      · exact ih hv.2 r hr) input

/-- stated here, where its readers (records, the line reader of `-l`) take the split lemma from -/
theorem EOL.byte_ascii (e : EOL) : e.byte < 0x80 := by cases e <;> decide

/-- "aé€😎" -/
example : utf8Chars [0x61,0xC3,0xA9,0xE2,0x82,0xAC,0xF0,0x9F,0x98,0x8E] =
    some [[0x61],[0xC3,0xA9],[0xE2,0x82,0xAC],[0xF0,0x9F,0x98,0x8E]] := by decide
/-- "😎a€" rebuilt from characters of the record above, one repeated: valid, same characters -/
example : utf8Chars ([[0xF0,0x9F,0x98,0x8E],[0x61],[0xE2,0x82,0xAC],[0x61]] : List Bytes).flatten =
    some [[0xF0,0x9F,0x98,0x8E],[0x61],[0xE2,0x82,0xAC],[0x61]] := by decide
/-- an overlong form, a surrogate, a value above U+10FFFF, a truncated sequence and a stray
    continuation byte are not UTF-8 -/
example : utf8Chars [0xC0,0x80] = none ∧ utf8Chars [0xED,0xA0,0x80] = none ∧
    utf8Chars [0xF4,0x90,0x80,0x80] = none ∧ utf8Chars [0x61,0xE2,0x82] = none ∧
    utf8Chars [0x80] = none := by decide

end Tuc
