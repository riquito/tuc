import Tuc.Lemmas.SpecLaws
import Tuc.Props.C02
import Tuc.Props.C05Buffered
import Tuc.Props.C06
import Tuc.Props.C09
/-!
# C09 at the level of runs — a negative index is the mirror of a positive one

`Tuc.Props.C09` shows that `try_into_range` and the specification's `resolve` (`resolve_mirror'`,
no side condition) are blind to the rewriting `-k ↦ n+1-k`.  Here the statement is lifted to whole
runs, for ONE `n`: a record of `n` fields, an input all of whose records have `n` fields, the `n`
lines or the `n` bytes of the input.

The law is proved once on the specification, no engine involved: the specification reads of a
bound only what it resolves to and its fallback (`SameParts`, Lemmas/SpecLaws), so `emit`,
`specRecord`, `specRun` (any of `-g -p -t -s -j -r -m --json -c`), `specLines` and `specBytes` cannot
tell the two lists apart.  `mirrorBofs n` is the rewriting as a function of the list (every negative
index that designates one of `n` parts); its graph lies within `MirrorList n`, which is how
`Tuc.Props.MainLevel2` discharges the relation for a second command line that is given or computed
from the first (`Canon.mirrored`).

The runs of the general engine, the fast lane and `-l` follow through their refinement theorems.
The second and third are *not* corollaries of the per-loop lemmas of `Tuc.Props.C09`: the rewritten
list may enable the fast lane's early stop where the original does not, and under `-l` the original
list is served by the buffered algorithm, the rewritten one possibly one line at a time.  `-b` is
the per-loop lemma itself, without any side condition.
-/
namespace Tuc
open Tuc.Spec

theorem MirrorList.sameParts {n : Nat} {bs bs' : List BoF} (h : MirrorList n bs bs') :
    SameParts n bs bs' := by
  induction h with
  | nil => exact .nil
  | filler f _ ih => exact .filler f ih
  | bound hb _ ih => exact .bound (resolve_mirror' hb) (fun _ => hb.fallback) ih

/-- **C09, the assembly of a record.**  Whatever the request, the tokens, the rendering of
    separators and the joiner: rewriting any of the negative indexes of the bounds list into the
    positive index of the same part changes nothing. -/
theorem emit_mirror (cfg : Cfg) (t : Tok) (sep : Nat → Bytes) (joiner : Bytes)
    {bs bs' : List BoF} (h : MirrorList t.numFields bs bs') :
    emit cfg t sep joiner bs' = emit cfg t sep joiner bs :=
  emit_sameParts cfg t sep joiner h.sameParts

theorem MirrorSide.nonzero {n : Nat} {s s' : Side} (h : MirrorSide n s s') (hz : s.Nonzero) :
    s'.Nonzero := by
  cases h with
  | same => exact hz
  | flip k h1 h2 => simp only [Side.Nonzero]; omega

theorem MirrorList.allNonzero {n : Nat} {bs bs' : List BoF} (h : MirrorList n bs bs')
    (hz : AllNonzero bs) : AllNonzero bs' := by
  induction h with
  | nil => intro b hb; cases hb
  | filler f _ ih =>
    intro b hb
    simp only [List.mem_cons, reduceCtorEq, false_or] at hb
    exact ih (fun b hb => hz b (List.mem_cons_of_mem _ hb)) b hb
  | @bound b0 b0' t t' hb0 _ ih =>
    intro b hb
    simp only [List.mem_cons, BoF.bound.injEq] at hb
    rcases hb with rfl | hb
    · have := hz b0 (List.mem_cons_self ..)
      exact ⟨hb0.l.nonzero this.1, hb0.r.nonzero this.2⟩
    · exact ih (fun b hb => hz b (List.mem_cons_of_mem _ hb)) b hb

theorem MirrorList.lastMarked {n : Nat} {bs bs' : List BoF} (h : MirrorList n bs bs')
    (hL : LastMarked bs) : LastMarked bs' := by
  induction h with
  | nil => trivial
  | filler f _ ih => exact ih hL
  | bound hb ht ih =>
    simp only [LastMarked] at hL ⊢
    rw [hb.isLast, ht.sameParts.countBounds]
    exact ⟨hL.1, ih hL.2⟩

theorem MirrorSide.eq_of_notNeg {n : Nat} {s s' : Side} (h : MirrorSide n s s')
    (hn : s.isNeg = false) : s' = s := by
  cases h with
  | same => rfl
  | flip k h1 h2 =>
    simp only [Side.isNeg, decide_eq_false_iff_not] at hn
    omega

theorem MirrorList.eq_of_noNeg {n : Nat} {bs bs' : List BoF} (h : MirrorList n bs bs')
    (hn : hasNegativeIndices bs = false) : bs' = bs := by
  induction h with
  | nil => rfl
  | filler f _ ih =>
    rw [ih (by simpa [hasNegativeIndices, boundsOnly] using hn)]
  | @bound b b' t t' hb _ ih =>
    simp only [hasNegativeIndices, boundsOnly, List.any_cons, Bool.or_eq_false_iff] at hn
    rw [ih (by simpa [hasNegativeIndices] using hn.2)]
    obtain ⟨l, r, il, fb⟩ := b
    obtain ⟨l', r', il', fb'⟩ := b'
    have h1 : l' = l := hb.l.eq_of_notNeg hn.1.1
    have h2 : r' = r := hb.r.eq_of_notNeg hn.1.2
    have h3 : il' = il := hb.isLast
    have h4 : fb' = fb := hb.fallback
    rw [h1, h2, h3, h4]

/-- the mirror image of a written index w.r.t. `n` parts: `-k ↦ n+1-k` (`1 ≤ k ≤ n`) -/
def mirrorSide (n : Nat) : Side → Side
  | .some v => if v < 0 ∧ -(n : Int) ≤ v then .some ((n : Int) + 1 + v) else .some v
  | .cont => .cont

def mirrorBound (n : Nat) (b : UserBounds) : UserBounds :=
  { b with l := mirrorSide n b.l, r := mirrorSide n b.r }

/-- **the mirrored bounds list**: every negative index that designates one of the `n` parts is
    replaced by the positive index of the same part; everything else stays -/
def mirrorBofs (n : Nat) : List BoF → List BoF
  | [] => []
  | .filler f :: t => .filler f :: mirrorBofs n t
  | .bound b :: t => .bound (mirrorBound n b) :: mirrorBofs n t

theorem mirrorSide_mirror (n : Nat) (s : Side) : MirrorSide n s (mirrorSide n s) := by
  cases s with
  | cont => exact .same _
  | some v =>
    simp only [mirrorSide]
    by_cases h : v < 0 ∧ -(n : Int) ≤ v
    · rw [if_pos h]
      obtain ⟨k, rfl⟩ := Int.exists_eq_neg_ofNat (Int.le_of_lt h.1)
      exact .flip k (by omega) (by omega)
    · rw [if_neg h]; exact .same _

theorem mirrorBofs_mirrorList (n : Nat) : ∀ l : List BoF, MirrorList n l (mirrorBofs n l)
  | [] => .nil
  | .filler f :: t => .filler f (mirrorBofs_mirrorList n t)
  | .bound b :: t =>
    .bound ⟨mirrorSide_mirror n b.l, mirrorSide_mirror n b.r, rfl, rfl⟩ (mirrorBofs_mirrorList n t)

theorem MirrorList.of_eq {n : Nat} {l l' : List BoF} (h : l' = mirrorBofs n l) : MirrorList n l l' :=
  h ▸ mirrorBofs_mirrorList n l

/-- **C09, one tokenised record**: any request (`-g -p -t -s -j -r -m --json -c`, fallbacks,
    fillers); the two bounds lists are related for the number of fields of this record. -/
theorem specBody_mirror {cfg cfg' : Cfg} (h : SameButBofs cfg cfg') (tok : Tok)
    (hm : MirrorList tok.numFields cfg.bofs cfg'.bofs) :
    specBody cfg' tok = specBody cfg tok :=
  specBody_sameParts h tok hm.sameParts

/-- **C09, one record**: a record that has `n` fields (after `-t -p -g`) -/
theorem specRecord_mirror {cfg cfg' : Cfg} (h : SameButBofs cfg cfg') (n : Nat) (r : Bytes)
    (hn : HasNFields cfg n r) (hm : MirrorList n cfg.bofs cfg'.bofs) :
    specRecord cfg' r = specRecord cfg r :=
  specRecord_congr h.toSameTokens r fun tok ht =>
    specBody_mirror h tok (by rw [hn tok ht]; exact hm)

/-- **C09, the run**: an input all of whose records have `n` fields -/
theorem specRun_mirror {cfg cfg' : Cfg} (h : SameButBofs cfg cfg') (n : Nat) (input : Bytes)
    (hn : ∀ r ∈ specRecords cfg.eol input, HasNFields cfg n r)
    (hm : MirrorList n cfg.bofs cfg'.bofs) :
    specRun cfg' input = specRun cfg input := by
  unfold specRun
  rw [h.eol]
  exact specRunRecords_congr _ fun r hr => specRecord_mirror h n r (hn r hr) hm

/-- **C09, `-l`**: `n` is the number of lines of the input -/
theorem specLines_mirror {cfg cfg' : Cfg} (h : SameButBofs cfg cfg') (input : Bytes)
    (hm : MirrorList (records cfg.eol input).length cfg.bofs cfg'.bofs) :
    specLines cfg' input = specLines cfg input := by
  rw [specLines_eq_specRecord, specLines_eq_specRecord, h.eol]
  exact specRecord_mirror h.asLines _ _ (hasNFields_lines cfg input) hm

/-- **C09, `-b`**: `n` is the number of bytes of the input -/
theorem specBytes_mirror {cfg cfg' : Cfg} (h : SameButBofs cfg cfg') (data : Bytes)
    (hm : MirrorList data.length cfg.bofs cfg'.bofs) :
    specBytes cfg' data = specBytes cfg data := by
  by_cases he : data = []
  · subst he; rfl
  · obtain ⟨e, hn⟩ := specBytes_eq_emit cfg data he
    rw [e, (specBytes_eq_emit cfg' data he).1, emit_cfg_congr (cfg := { cfg with json := false, join := false })
      (cfg' := { cfg' with json := false, join := false }) rfl rfl h.fallback, emit_mirror _ _ _ _ (hn ▸ hm)]

/-- **C09, general field engine, the run.**  Two invocations that differ only in their bounds
    lists, the second obtained from the first by rewriting any of its negative indexes `-k` into
    `n+1-k`, on an input all of whose records have `n` fields: same bytes, same exit status.
    Any of `-g -p -t -s -j -r -m`, fallbacks, format fillers, literal delimiter of any length. -/
theorem readAndCutStr_mirror (opt : Opt) (bl' : UserBoundsList) (n : Nat) (input : Bytes)
    (hm : MirrorList n opt.bounds.list bl'.list)
    (hn : ∀ r ∈ records opt.eol.byte input, HasNFields (cfgOf opt) n r)
    (hd : opt.delimiter ≠ []) (hre : opt.regexBag = none)
    (hty : opt.boundsType = .fields ∨ opt.boundsType = .lines) (hjson : opt.json = false)
    (hz : AllNonzero opt.bounds.list) (hL : LastMarked opt.bounds.list) :
    readAndCutStr { opt with bounds := bl' } input = readAndCutStr opt input := by
  rw [fields_run_eq_spec { opt with bounds := bl' } input hd hre hty
      (hm.allNonzero hz) (hm.lastMarked hL),
    fields_run_eq_spec opt input hd hre hty hz hL]
  exact specRun_mirror (sameButBofs_cfgOf opt bl') n input hn hm

theorem fastOptOf_with_bounds (o : Opt) (fo : FastOpt) (bl' : UserBoundsList)
    (h : fastOptOf o = some fo) :
    fastOptOf { o with bounds := bl' } = some { fo with bounds := bl' } := by
  obtain ⟨hg, hj, he, -, hs⟩ := (fastOptOf_eq_some_iff o fo).1 h
  exact (fastOptOf_eq_some_iff _ _).2 ⟨hg, hj, he, rfl, hs⟩

/-- **C09, fast lane, the run.**  Not a corollary of the per-loop lemma: the rewritten list may
    be sortable where the original is not, so that the fast lane stops scanning after the
    rightmost requested field for one and scans the whole record for the other.  Both runs are
    the general engine's (C02), which is the specification's (C01). -/
theorem readAndCutFast_mirror (o : Opt) (bl' : UserBoundsList) (fo : FastOpt) (n : Nat)
    (input : Bytes) (ho : fastOptOf o = some fo)
    (l l' : List BoF) (hfv : fromVec l = .ok o.bounds) (hfv' : fromVec l' = .ok bl')
    (hm : MirrorList n o.bounds.list bl'.list)
    (hn : ∀ r ∈ records o.eol.byte input, HasNFields (cfgOf o) n r)
    (hz : AllNonzero o.bounds.list) (hL : LastMarked o.bounds.list) :
    readAndCutFast { fo with bounds := bl' } input = readAndCutFast fo input := by
  obtain ⟨hd, hre, hty, hjson⟩ := fastOptOf_general ho
  rw [readAndCutFast_eq_readAndCutStr { o with bounds := bl' } { fo with bounds := bl' }
      (fastOptOf_with_bounds o fo bl' ho) l' hfv' (hm.allNonzero hz) input,
    readAndCutFast_eq_readAndCutStr o fo ho l hfv hz input]
  exact readAndCutStr_mirror o bl' n input hm hn hd hre (Or.inl hty) hjson hz hL

/-- the domain of C05's one-line-at-a-time theorem (a plain list of bounds that resolve) passes from
    the rewritten list to the original: a forward-only list has no negative index, so there the two
    are the same list (`c`: what else the dispatcher asks for that algorithm) -/
theorem MirrorList.forwardOnly_domain {n : Nat} {l l' : List BoF} (hm : MirrorList n l l') {c : Prop}
    (h : c → isForwardOnly l' = true →
      ∃ bs : List UserBounds, l' = bs.map .bound ∧ ∀ b ∈ bs, resolve b n ≠ none) :
    c → isForwardOnly l = true →
      ∃ bs : List UserBounds, l = bs.map .bound ∧ ∀ b ∈ bs, resolve b n ≠ none := by
  intro hc hf
  rw [hm.eq_of_noNeg (noNeg_of_forwardOnly hf)] at h
  exact h hc hf

/-- **C09, `-l`, the run.**  `n` is the number of lines of the input.  The original request
    (with a negative index) is served by the buffered algorithm, the rewritten one by the
    line-at-a-time algorithm if it happens to be forward-only: the statement crosses the two.
    `hfwd` is the domain on which the line-at-a-time algorithm is the specification (C05): a
    plain list of bounds that resolve on the input; see the `example` below for what happens
    outside it. -/
theorem readAndCutLines_mirror (o : Opt) (bl' : UserBoundsList) (input : Bytes)
    (hm : MirrorList (records o.eol.byte input).length o.bounds.list bl'.list)
    (hd : o.delimiter = [o.eol.byte]) (hty : o.boundsType = .lines)
    (hre : o.regexBag = none) (hjson : o.json = false)
    (hz : AllNonzero o.bounds.list) (hL : LastMarked o.bounds.list)
    (honly : o.onlyDelimited = false) (htrim : o.trim = none) (hg : o.greedyDelimiter = false)
    (hp : o.compressDelimiter = false) (hrepl : o.replaceDelimiter = none)
    (hutf : validUtf8 input = true) (h0 : input ≠ []) (h1 : input ≠ [o.eol.byte])
    (hfwd : o.complement = false → isForwardOnly bl'.list = true →
      ∃ bs : List UserBounds, bl'.list = bs.map .bound ∧
        ∀ b ∈ bs, resolve b (records o.eol.byte input).length ≠ none) :
    readAndCutLines { o with bounds := bl' } input = readAndCutLines o input := by
  rw [readAndCutLines_eq_specLines { o with bounds := bl' } input hd hty hre hjson
      (hm.allNonzero hz) (hm.lastMarked hL) honly htrim hg hp hrepl hutf h0 h1 hfwd,
    readAndCutLines_eq_specLines o input hd hty hre hjson hz hL honly htrim hg hp hrepl hutf h0 h1
      (hm.forwardOnly_domain hfwd)]
  exact specLines_mirror (sameButBofs_cfgOf o bl') input hm

theorem cutBytesLoop_congr (data : Bytes) (o o' : Opt) (h : o'.fallbackOob = o.fallbackOob) :
    ∀ (l : List BoF), cutBytesLoop data o' l = cutBytesLoop data o l
  | [] => rfl
  | .filler f :: t => by simp only [cutBytesLoop, cutBytesLoop_congr data o o' h t]
  | .bound b :: t => by simp only [cutBytesLoop, cutBytesLoop_congr data o o' h t, h]

/-- **C09, `-b`, the run.**  `n` is the number of bytes of the input; no side condition. -/
theorem readAndCutBytes_mirror (o : Opt) (bl' : UserBoundsList) (data : Bytes)
    (hm : MirrorList data.length o.bounds.list bl'.list) :
    readAndCutBytes { o with bounds := bl' } data = readAndCutBytes o data := by
  unfold readAndCutBytes
  by_cases he : data.isEmpty = true
  · rw [if_pos he, if_pos he]
  · rw [if_neg he, if_neg he]
    rw [cutBytesLoop_congr data o { o with bounds := bl' } rfl]
    exact cutBytesLoop_mirror data o hm

/-- general engine: both bounds arguments went through `UserBoundsList::from_str` -/
theorem readAndCutStr_mirror_of_parsed (opt : Opt) (bl' : UserBoundsList) (n : Nat) (input : Bytes)
    (s : List Char) (hparse : boundsListOfString s = .ok opt.bounds)
    (hm : MirrorList n opt.bounds.list bl'.list)
    (hn : ∀ r ∈ records opt.eol.byte input, HasNFields (cfgOf opt) n r)
    (hd : opt.delimiter ≠ []) (hre : opt.regexBag = none)
    (hty : opt.boundsType = .fields ∨ opt.boundsType = .lines) (hjson : opt.json = false) :
    readAndCutStr { opt with bounds := bl' } input = readAndCutStr opt input :=
  have h := boundsListOfString_good s opt.bounds hparse
  readAndCutStr_mirror opt bl' n input hm hn hd hre hty hjson h.1 h.2

/-- fast lane: both bounds arguments went through `UserBoundsList::from_str` (which is what
    computes `lastInteresting`, i.e. decides about the early stop) -/
theorem readAndCutFast_mirror_of_parsed (o : Opt) (bl' : UserBoundsList) (fo : FastOpt) (n : Nat)
    (input : Bytes) (ho : fastOptOf o = some fo) (s s' : List Char)
    (hparse : boundsListOfString s = .ok o.bounds) (hparse' : boundsListOfString s' = .ok bl')
    (hm : MirrorList n o.bounds.list bl'.list)
    (hn : ∀ r ∈ records o.eol.byte input, HasNFields (cfgOf o) n r) :
    readAndCutFast { fo with bounds := bl' } input = readAndCutFast fo input := by
  obtain ⟨l, _, hl⟩ := parsed_fromVec s _ hparse
  obtain ⟨l', _, hl'⟩ := parsed_fromVec s' _ hparse'
  have h := boundsListOfString_good s o.bounds hparse
  exact readAndCutFast_mirror o bl' fo n input ho l l' hl hl' hm hn h.1 h.2

/-- `-1,x,-3:2` and `3,x,1:2` are related on records of 3 fields -/
def c09Neg : List BoF :=
  [.bound { l := .some (-1), r := .some (-1) }, .filler [0x78],
   .bound { l := .some (-3), r := .some 2, isLast := true }]
def c09Pos : List BoF :=
  [.bound { l := .some 3, r := .some 3 }, .filler [0x78],
   .bound { l := .some 1, r := .some 2, isLast := true }]

example : MirrorList 3 c09Neg c09Pos :=
  .bound ⟨.flip 1 (by omega) (by omega), .flip 1 (by omega) (by omega), rfl, rfl⟩
    (.filler _ (.bound ⟨.flip 3 (by omega) (by omega), .same _, rfl, rfl⟩ .nil))

/-- general engine and fast lane on `a-b-c⏎d-e-f⏎`, `-d - -j`: the same run, written with
    negative or with positive indexes; for the fast lane the first request scans whole records
    (`lastInteresting = cont`), the second may stop after field 3 -/
example :
    let o (l : List BoF) (li : Side) : Opt := { delimiter := [45], bounds := ⟨l, li⟩, join := true }
    let input : Bytes := [97, 45, 98, 45, 99, 10, 100, 45, 101, 45, 102, 10]
    readAndCutStr (o c09Pos (.some 3)) input = readAndCutStr (o c09Neg .cont) input ∧
    readAndCutStr (o c09Neg .cont) input =
      Run.ok [99, 45, 120, 97, 45, 98, 10, 102, 45, 120, 100, 45, 101, 10] ∧
    (fastOptOf (o c09Pos (.some 3))).map (readAndCutFast · input) =
      (fastOptOf (o c09Neg .cont)).map (readAndCutFast · input) ∧
    (fastOptOf (o c09Neg .cont)).isSome = true := by
  decide +kernel

/-- across the early stop: `-3,-4` scans the whole record (`lastInteresting = -3` is never met
    by the field counter), `2,1` stops after the second delimiter (`lastInteresting = 2`) of
    `a-b-c-d` -/
example :
    let neg : List BoF := [.bound { l := .some (-3), r := .some (-3) },
                           .bound { l := .some (-4), r := .some (-4), isLast := true }]
    let pos : List BoF := [.bound { l := .some 2, r := .some 2 },
                           .bound { l := .some 1, r := .some 1, isLast := true }]
    let o (l : List BoF) (li : Side) : Opt := { delimiter := [45], bounds := ⟨l, li⟩ }
    let input : Bytes := [97, 45, 98, 45, 99, 45, 100, 10]
    fromVec pos = .ok ⟨pos, .some 2⟩ ∧ fromVec neg = .ok ⟨neg, .some (-3)⟩ ∧
    (fastOptOf (o pos (.some 2))).map (readAndCutFast · input) = some (Run.ok [98, 97, 10]) ∧
    (fastOptOf (o neg (.some (-3)))).map (readAndCutFast · input) = some (Run.ok [98, 97, 10]) := by
  decide +kernel

/-- `-l` on `a⏎b⏎c⏎`: `-3:-2` (buffered algorithm) and `1:2` (one line at a time) -/
example :
    let o (l : List BoF) : Opt :=
      { delimiter := [10], boundsType := .lines, join := true, bounds := ⟨l, .cont⟩ }
    let input : Bytes := [97, 10, 98, 10, 99, 10]
    isForwardOnly [.bound { l := .some 1, r := .some 2, isLast := true }] = true ∧
    isForwardOnly [.bound { l := .some (-3), r := .some (-2), isLast := true }] = false ∧
    readAndCutLines (o [.bound { l := .some (-3), r := .some (-2), isLast := true }]) input =
      Run.ok [97, 10, 98, 10] ∧
    readAndCutLines (o [.bound { l := .some 1, r := .some 2, isLast := true }]) input =
      Run.ok [97, 10, 98, 10] := by
  decide +kernel

/-- **the side condition `hfwd` of `readAndCutLines_mirror` cannot be dropped**: the
    one-line-at-a-time algorithm does not apply the fallback to a closed range cut short by the end
    of the input.  On the three lines `a b c`, `-3:5=x` does not resolve, is served by the buffered
    algorithm and prints its fallback; its mirror `1:5=x` is forward-only, is served one line at a
    time, prints the three lines and then fails.  The specification says `x⏎` for both. -/
example :
    let o (l : List BoF) : Opt :=
      { delimiter := [10], boundsType := .lines, join := true, bounds := ⟨l, .cont⟩ }
    let input : Bytes := [97, 10, 98, 10, 99, 10]
    let neg : List BoF := [.bound { l := .some (-3), r := .some 5, isLast := true, fallback := some [0x78] }]
    let pos : List BoF := [.bound { l := .some 1, r := .some 5, isLast := true, fallback := some [0x78] }]
    readAndCutLines (o neg) input = Run.ok [0x78, 10] ∧
    readAndCutLines (o pos) input = ⟨[97, 10, 98, 10, 99], .fail⟩ ∧
    specLines (cfgOf (o pos)) input = Run.ok [0x78, 10] ∧
    specLines (cfgOf (o neg)) input = Run.ok [0x78, 10] := by
  decide +kernel

/-- `-b` on the bytes `00 0A FF 61`: `-1,x,-3:3` and `4,x,2:3` -/
example :
    let o (l : List BoF) : Opt := { delimiter := [], boundsType := .bytes, bounds := ⟨l, .cont⟩ }
    readAndCutBytes (o [.bound { l := .some (-1), r := .some (-1) }, .filler [0x78],
        .bound { l := .some (-3), r := .some 3, isLast := true }]) [0x00, 0x0A, 0xFF, 0x61] =
    readAndCutBytes (o [.bound { l := .some 4, r := .some 4 }, .filler [0x78],
        .bound { l := .some 2, r := .some 3, isLast := true }]) [0x00, 0x0A, 0xFF, 0x61] := by
  decide +kernel

/-- the specification with `-m` and with `--json`: `-2` and `2` on `a-b-c` -/
example :
    let cfg (v : Int) (m js : Bool) : Cfg :=
      { delimiter := [45], eol := 10, bofs := [.bound { l := .some v, r := .some v }],
        complement := m, json := js }
    specRecord (cfg (-2) true false) [97, 45, 98, 45, 99] = Run.ok [97, 99, 10] ∧
    specRecord (cfg 2 true false) [97, 45, 98, 45, 99] = Run.ok [97, 99, 10] ∧
    specRecord (cfg (-2) true true) [97, 45, 98, 45, 99] =
      specRecord (cfg 2 true true) [97, 45, 98, 45, 99] := by
  decide +kernel

end Tuc
