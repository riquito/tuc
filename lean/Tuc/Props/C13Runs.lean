import Tuc.Lemmas.SpecLaws
import Tuc.Props.C05Buffered
import Tuc.Props.C06
/-!
# C13 at the level of runs — a bound that cannot be resolved is never silent

`Tuc.Props.C13` has the rule for one iteration of every engine's output loop.  Here, first the rule
on the specification alone, and what a bound that does not resolve does at its place in the list:
what was printed before it stays, then the fallback in force is printed or, without any, the record
and the run fail — stated for one record, the run, `-l` and `-b`.  `Tuc.Props.MainLevel2` lifts both
cases to the program.

Then the runs of the engines, each by its refinement theorem and the law; `-l` one line at a time
is proved on the model, its refinement theorem being about resolvable requests only.  The fast lane
and `-M` are in `Tuc.Props.C13RunsFast` and `Tuc.Props.C13RunsStream`, which rest on C02 resp. C03.
-/
namespace Tuc
open Tuc.Spec

/-- what `emit` does with the text `x` of a bound: render it (`--json`), add the joiner if another
    bound follows, go on -/
def emitText (cfg : Cfg) (t : Tok) (sep : Nat → Bytes) (j : Bytes) (rest : List BoF) (x : Bytes) :
    Run :=
  match rendered cfg x with
  | none => Run.fail
  | some y =>
    Run.pre (y ++ (if cfg.join && countBounds rest > 0 then j else [])) (emit cfg t sep j rest)

/-- **C13, the rule, in the specification.**  A bound contributes the selected parts when it
    resolves; otherwise its own fallback; otherwise the generic fallback; otherwise the record
    fails. -/
theorem emit_rule (cfg : Cfg) (t : Tok) (sep : Nat → Bytes) (j : Bytes) (b : UserBounds)
    (rest : List BoF) :
    emit cfg t sep j (.bound b :: rest) =
      match resolve b t.numFields, b.fallback, cfg.fallback with
      | some (lo, hi), _, _ => emitText cfg t sep j rest (pieceText sep t lo hi)
      | none, some f, _ => emitText cfg t sep j rest f
      | none, none, some g => emitText cfg t sep j rest g
      | none, none, none => Run.fail := by
  rw [emit_bound]
  unfold boundText emitText
  cases resolve b t.numFields with
  | some p => rfl
  | none =>
    cases b.fallback with
    | some f => rfl
    | none =>
      cases cfg.fallback with
      | some g => rfl
      | none => rfl

theorem emit_resolved (cfg : Cfg) (t : Tok) (sep : Nat → Bytes) (j : Bytes) (b : UserBounds)
    (rest : List BoF) (lo hi : Nat) (h : resolve b t.numFields = some (lo, hi)) :
    emit cfg t sep j (.bound b :: rest) = emitText cfg t sep j rest (pieceText sep t lo hi) := by
  rw [emit_rule, h]

/-- the parts `lo … hi` of a tokenised record, with the separator in front of each -/
def Spec.Tok.window (t : Tok) (lo hi : Nat) : List (Nat × Bytes) :=
  (((0, t.first) :: t.rest).drop (lo - 1)).take (hi - lo + 1)

/-- the record made of those parts only (the separator in front of the first one is dropped) -/
def Spec.Tok.restrict (t : Tok) (lo hi : Nat) : Tok :=
  match t.window lo hi with
  | [] => ⟨[], []⟩
  | (_, f) :: more => ⟨f, more⟩

theorem Spec.Tok.window_length (t : Tok) (lo hi : Nat) (h1 : 1 ≤ lo) (h2 : lo ≤ hi)
    (h3 : hi ≤ t.numFields) : (t.window lo hi).length = hi - lo + 1 := by
  have e : hi - (lo - 1) = hi - lo + 1 := (Nat.sub_sub_right hi h1).trans (Nat.sub_add_comm h2)
  unfold Tok.window
  rw [List.length_take, List.length_drop, ← e]
  exact Nat.min_eq_left (Nat.sub_le_sub_right h3 _)

theorem Spec.Tok.window_getElem? (t : Tok) (lo hi i : Nat) (hi' : i < hi - lo + 1) :
    (t.window lo hi)[i]? = ((0, t.first) :: t.rest)[lo - 1 + i]? := by
  unfold Tok.window
  rw [List.getElem?_take_of_lt hi', List.getElem?_drop]

/-- **C13, never other data.**  The text of the parts `lo … hi` is the text of the *whole* of the
    record restricted to those parts: nothing outside `lo … hi` can show in it. -/
theorem piece_exact (sep : Nat → Bytes) (t : Tok) (lo hi : Nat) :
    pieceText sep t lo hi =
      pieceText sep (t.restrict lo hi) 1 (t.restrict lo hi).numFields := by
  unfold Tok.restrict Tok.window
  rw [pieceText]
  generalize (((0, t.first) :: t.rest).drop (lo - 1)).take (hi - lo + 1) = w
  cases w with
  | nil => rfl
  | cons x more =>
    simp only [pieceText, Tok.numFields]
    -- on the restricted record the selection `drop 0 |>.take (its length)` is the whole window
    have : more.length + 1 - 1 + 1 = ((0, x.2) :: more).length := rfl
    rw [this]
    simp

/-- in particular for a resolved bound: the restricted record has exactly `hi - lo + 1` parts -/
theorem restrict_numFields (t : Tok) (b : UserBounds) (lo hi : Nat)
    (h : resolve b t.numFields = some (lo, hi)) :
    (t.restrict lo hi).numFields = hi - lo + 1 := by
  obtain ⟨h1, h2, h3⟩ := resolve_range h
  have hl := t.window_length lo hi h1 h2 h3
  unfold Tok.restrict
  cases hw : t.window lo hi with
  | nil => rw [hw] at hl; simp at hl
  | cons x more =>
    obtain ⟨k, f⟩ := x
    rw [hw] at hl
    simp only [List.length_cons] at hl
    simp only [Tok.numFields]
    omega

/-- a written index that is 0 or exceeds `n` in absolute value -/
def Side.OutOf (s : Side) (n : Nat) : Prop :=
  match s with
  | .some v => v = 0 ∨ v > (n : Int) ∨ v < -(n : Int)
  | .cont => False

/-- the part a written index designates among `n` (`dflt` when nothing is written) -/
def Side.position (s : Side) (n : Nat) (dflt : Int) : Int :=
  match s with
  | .some v => if v > 0 then v else (n : Int) + 1 + v
  | .cont => dflt

theorem resolveSide_eq (s : Side) (n dflt : Nat) :
    (s.OutOf n → resolveSide s n dflt = none) ∧
    (¬ s.OutOf n → resolveSide s n dflt = some (s.position n dflt).toNat ∧
      ((s.position n dflt).toNat : Int) = s.position n dflt ∧
      (s ≠ .cont → 1 ≤ s.position n dflt ∧ s.position n dflt ≤ n)) := by
  cases s with
  | cont =>
    refine ⟨fun h => h.elim, fun _ => ⟨rfl, ?_, fun h => absurd rfl h⟩⟩
    simp [Side.position]
  | some v =>
    simp only [Side.OutOf, resolveSide, Side.position]
    refine ⟨fun h => by rw [if_pos h], fun h => ?_⟩
    rw [if_neg h]
    by_cases hp : v > 0
    · rw [if_pos hp, if_pos hp]
      exact ⟨rfl, by omega, fun _ => by omega⟩
    · rw [if_neg hp, if_neg hp]
      exact ⟨rfl, by omega, fun _ => by omega⟩

/-- **C13, "cannot be resolved".**  A bound has no parts to select among `n` exactly when one of
    its written indexes is 0 or exceeds `n` in absolute value, or when its two sides, once
    negative indexes are counted from the end (`-k ↦ n+1-k`) and open sides are `1` / `n`, cross. -/
theorem resolve_none_iff (b : UserBounds) (n : Nat) :
    resolve b n = none ↔
      b.l.OutOf n ∨ b.r.OutOf n ∨ b.r.position n n < b.l.position n 1 := by
  obtain ⟨l1, l2⟩ := resolveSide_eq b.l n 1
  obtain ⟨r1, r2⟩ := resolveSide_eq b.r n n
  have e1 : ((1 : Nat) : Int) = 1 := rfl
  rw [e1] at l2
  unfold resolve
  by_cases hl : b.l.OutOf n
  · rw [l1 hl]; simp [hl]
  · by_cases hr : b.r.OutOf n
    · rw [r1 hr, (l2 hl).1]; simp [hr]
    · obtain ⟨el, cl, pl⟩ := l2 hl
      obtain ⟨er, cr, _⟩ := r2 hr
      rw [el, er]
      simp only [hl, hr, false_or]
      have h1 : 1 ≤ b.l.position n 1 := by
        by_cases hc : b.l = .cont
        · rw [hc]; simp [Side.position]
        · exact (pl hc).1
      by_cases hc : (b.l.position n 1).toNat ≤ (b.r.position n n).toNat ∧ 1 ≤ (b.l.position n 1).toNat
      · rw [if_pos hc]
        simp only [reduceCtorEq, false_iff]
        omega
      · rw [if_neg hc]
        simp only [true_iff]
        omega

/-- `5`, `-5`, `0`, `3:2`, `-1:1` on three parts; and on no parts at all even `:` -/
example :
    resolve { l := .some 5, r := .some 5 } 3 = none ∧
    resolve { l := .some (-5), r := .some 2 } 3 = none ∧
    resolve { l := .some 0, r := .some 2 } 3 = none ∧
    resolve { l := .some 3, r := .some 2 } 3 = none ∧
    resolve { l := .some (-1), r := .some 1 } 3 = none ∧
    resolve { l := .some 2, r := .some (-1) } 3 = some (2, 3) ∧
    resolve { l := .cont, r := .cont } 0 = none := by
  decide +kernel

/-- the fallback text in force for a bound: its own, else the generic one -/
def fallbackFor (generic : Option Bytes) (b : UserBounds) : Option Bytes := b.fallback.or generic

/-- **C13, a bound that cannot be resolved, at its place in the list**: what `pre` prints, then the
    fallback in force — the bound's own, else the generic one — or, without any, failure -/
theorem emit_unresolved_at (cfg : Cfg) (t : Tok) (sep : Nat → Bytes) (j : Bytes)
    (pre post : List BoF) (b : UserBounds) (h : resolve b t.numFields = none) :
    emit cfg t sep j (pre ++ .bound b :: post) =
      (emitThen cfg t sep j pre).seq
        (match fallbackFor cfg.fallback b with
          | some f => emitText cfg t sep j post f
          | none => Run.fail) := by
  rw [emit_append cfg t sep j (.bound b :: post) (by simp [countBounds]) pre, emit_bound,
    boundText_of_unresolved cfg sep h]
  unfold fallbackFor emitText
  cases b.fallback.or cfg.fallback <;> rfl

/-- **C13, never silent.**  If the bound `b` of the list `pre ++ b :: post` cannot be resolved and
    there is no fallback for it, the record fails at `b`: the status is failure, and what was
    printed is what `pre` printed. -/
theorem emit_fails_at (cfg : Cfg) (t : Tok) (sep : Nat → Bytes) (j : Bytes) (pre post : List BoF)
    (b : UserBounds) (h : resolve b t.numFields = none) (hf : b.fallback = none)
    (hg : cfg.fallback = none) :
    emit cfg t sep j (pre ++ .bound b :: post) = ⟨(emitThen cfg t sep j pre).out, .fail⟩ := by
  rw [emit_unresolved_at cfg t sep j pre post b h, fallbackFor, hf, hg]
  exact Run.seq_fail_of_safe (emitThen_safe ..)

/-- conversely: a record that succeeded had a text for every one of its bounds — each of them
    resolved, or had its own fallback, or there was a generic one (`emit_fails_at`, read backwards) -/
theorem emit_never_silent (cfg : Cfg) (t : Tok) (sep : Nat → Bytes) (j : Bytes) :
    ∀ (l : List BoF), (emit cfg t sep j l).status = .ok →
      ∀ b ∈ boundsOnly l, resolve b t.numFields ≠ none ∨ b.fallback ≠ none ∨ cfg.fallback ≠ none := by
  intro l h b hb
  obtain ⟨pre, post, rfl⟩ := List.append_of_mem (mem_boundsOnly_iff.1 hb)
  refine Decidable.byContradiction fun hn => ?_
  simp only [not_or, Decidable.not_not] at hn
  rw [emit_fails_at cfg t sep j pre post b hn.1 hn.2.1 hn.2.2] at h
  cases h

/-- the request as `-l` reads it: no `--json`, no `-c` -/
def linesCfg (cfg : Cfg) : Cfg := { cfg with json := false, chars := false }

theorem complementTest_of_unresolved (cfg : Cfg) (n : Nat) (pre post : List BoF) (b : UserBounds)
    (hb : cfg.bofs = pre ++ .bound b :: post) (h : resolve b n = none) :
    (cfg.complement && countBounds (complemented cfg n) == 0) = false := by
  -- `complemented` is `rewriteList` without the expansion of ranges, and there `b` stays
  have hc := (rewriteList_at (linesCfg cfg) n pre post b h).countBounds
  rw [← hb, countBounds_append] at hc
  rw [show complemented cfg n = rewriteList (linesCfg cfg) n cfg.bofs from rfl, hc]
  exact Bool.and_eq_false_imp.2 fun _ => beq_false_of_ne (Nat.succ_ne_zero _)

/-- one tokenised record on which the bound `b` of the request does not resolve (any request):
    in the list handed to `emit`, `b` sits between what the rewriting makes of the elements before
    it and of those after it -/
theorem specBody_unresolved (cfg : Cfg) (tok : Tok) (pre post : List BoF) (b : UserBounds)
    (hs : (cfg.onlyDelimited && tok.numFields == 1) = false)
    (hb : cfg.bofs = pre ++ .bound b :: post) (h : resolve b tok.numFields = none) :
    specBody cfg tok =
      Run.pre (openBracket cfg)
        ((emit cfg tok (specSep cfg) (specJoiner cfg)
            (rewriteList cfg tok.numFields pre ++ .bound b :: rewriteList cfg tok.numFields post)).seq
          (Run.ok (closeBracket cfg ++ [cfg.eol]))) := by
  unfold specBody
  rw [hs, complementTest_of_unresolved cfg tok.numFields pre post b hb h, rewritten_eq, hb,
    emit_sameParts cfg tok _ _ (rewriteList_at cfg tok.numFields pre post b h)]
  rfl

theorem specBody_fails_at (cfg : Cfg) (tok : Tok) (pre post : List BoF) (b : UserBounds)
    (hs : (cfg.onlyDelimited && tok.numFields == 1) = false)
    (hb : cfg.bofs = pre ++ .bound b :: post)
    (h : resolve b tok.numFields = none) (hf : b.fallback = none) (hg : cfg.fallback = none) :
    specBody cfg tok =
      ⟨openBracket cfg ++ (emitThen cfg tok (specSep cfg) (specJoiner cfg)
        (rewriteList cfg tok.numFields pre)).out, .fail⟩ := by
  rw [specBody_unresolved cfg tok pre post b hs hb h, emit_fails_at cfg tok _ _ _ _ b h hf hg]
  rfl

/-- **the run stops at the first record that fails**: if `r` fails having written `w`, the run over
    `before ++ r :: after` fails, and — `before` having gone well — has written what `before` wrote, then `w`; `after` is
    not read.  Every `_fails_at` / `_never_silent` statement about a whole run rests on this. -/
theorem specRunRecords_fails_at (cfg : Cfg) (before after : List Bytes) (r : Bytes) (w : Bytes)
    (h : specRecord cfg r = ⟨w, .fail⟩) :
    (specRunRecords cfg (before ++ r :: after)).status = .fail ∧
    ((specRunRecords cfg before).status = .ok →
      (specRunRecords cfg (before ++ r :: after)).out = (specRunRecords cfg before).out ++ w) := by
  rw [specRunRecords_eq_seqMap, Run.seqMap_stop _ _ _ (by rw [h]; exact nofun), h,
    ← specRunRecords_eq_seqMap]
  rcases specRunRecords_safe cfg before with hc | hc
  · exact ⟨by rw [Run.seq_status_of_ok hc], fun _ => by rw [Run.seq_out_of_ok hc]⟩
  · refine ⟨by rw [Run.seq_of_not_ok _ _ (by rw [hc]; simp)]; exact hc, fun hok => ?_⟩
    rw [hc] at hok; cases hok

/-- **C13, the run of the specification.**  If on the record `r` (tokens `tok`, not suppressed by
    `-s`) the bound `b` does not resolve, has no fallback of its own and there is no generic
    fallback, the run fails, and — the records before `r` having succeeded — its output is the
    output of those records followed by what `r` printed before `b`. -/
theorem specRun_fails_at (cfg : Cfg) (input : Bytes) (before after : List Bytes) (r : Bytes)
    (hrec : specRecords cfg.eol input = before ++ r :: after)
    (tok : Tok) (pre post : List BoF) (b : UserBounds) (ht : recordTok cfg r = some tok)
    (hs : (cfg.onlyDelimited && tok.numFields == 1) = false)
    (hb : cfg.bofs = pre ++ .bound b :: post)
    (h : resolve b tok.numFields = none) (hf : b.fallback = none) (hg : cfg.fallback = none) :
    (specRun cfg input).status = .fail ∧
    ((specRunRecords cfg before).status = .ok →
      (specRun cfg input).out =
        (specRunRecords cfg before).out ++
          (openBracket cfg ++ (emitThen cfg tok (specSep cfg) (specJoiner cfg)
            (rewriteList cfg tok.numFields pre)).out)) := by
  unfold specRun
  rw [hrec]
  exact specRunRecords_fails_at cfg before after r _
    ((specRecord_of_recordTok ht).trans (specBody_fails_at cfg tok pre post b hs hb h hf hg))

theorem emit_fallback_at (cfg : Cfg) (t : Tok) (sep : Nat → Bytes) (j : Bytes) (pre post : List BoF)
    (b : UserBounds) (f : Bytes) (h : resolve b t.numFields = none)
    (hf : fallbackFor cfg.fallback b = Option.some f) :
    emit cfg t sep j (pre ++ .bound b :: post) =
      (emitThen cfg t sep j pre).seq (emitText cfg t sep j post f) := by
  rw [emit_unresolved_at cfg t sep j pre post b h, hf]

/-- **C13, the fallback, one record** (any request: `-m`, `--json`, `-c` included) -/
theorem specRecord_fallback_at (cfg : Cfg) (r : Bytes) (tok : Tok) (pre post : List BoF) (b : UserBounds)
    (f : Bytes) (ht : recordTok cfg r = Option.some tok)
    (hs : (cfg.onlyDelimited && tok.numFields == 1) = false)
    (hb : cfg.bofs = pre ++ .bound b :: post)
    (h : resolve b tok.numFields = none) (hf : fallbackFor cfg.fallback b = Option.some f) :
    specRecord cfg r =
      Run.pre (openBracket cfg)
        (((emitThen cfg tok (specSep cfg) (specJoiner cfg) (rewriteList cfg tok.numFields pre)).seq
            (emitText cfg tok (specSep cfg) (specJoiner cfg) (rewriteList cfg tok.numFields post) f)).seq
          (Run.ok (closeBracket cfg ++ [cfg.eol]))) := by
  rw [specRecord_of_recordTok ht, specBody_unresolved cfg tok pre post b hs hb h,
    emit_fallback_at cfg tok _ _ _ _ b f h hf]

/-- without `--json` the fallback text is written verbatim: the bytes `f`, then the joiner if `-j`
    is in force and a bound follows, then what the rest of the list prints -/
theorem emitText_verbatim (cfg : Cfg) (t : Tok) (sep : Nat → Bytes) (j : Bytes) (rest : List BoF)
    (f : Bytes) (hj : cfg.json = false) :
    emitText cfg t sep j rest f =
      Run.pre (f ++ (if cfg.join && countBounds rest > 0 then j else [])) (emit cfg t sep j rest) := by
  rw [emitText, rendered_plain hj]

/-- `specBody_unresolved` for `-l`, through `specLines_eq_specRecord` -/
theorem specLines_unresolved (cfg : Cfg) (input : Bytes) (pre post : List BoF) (b : UserBounds)
    (h0 : input ≠ []) (h1 : input ≠ [cfg.eol])
    (hb : cfg.bofs = pre ++ .bound b :: post)
    (h : resolve b (records cfg.eol input).length = none) :
    specLines cfg input =
      (emit (linesCfg cfg) (linesTok cfg.eol input) (fun k => repeatBytes [cfg.eol] k) [cfg.eol]
          (rewriteList (linesCfg cfg) (records cfg.eol input).length pre ++
            .bound b :: rewriteList (linesCfg cfg) (records cfg.eol input).length post)).seq
        (Run.ok [cfg.eol]) := by
  rw [← linesTok_numFields cfg.eol input h0] at h ⊢
  rw [specLines_eq_specRecord, specRecord_of_recordTok (recordTok_lines cfg input h0 h1),
    specBody_unresolved (asLines cfg) _ pre post b rfl hb h,
    emit_cfg_congr (cfg := linesCfg cfg) (cfg' := asLines cfg) rfl rfl rfl]
  rfl

/-- **C13, `-l`, the specification**: the input is neither empty nor a lone EOL; `b` does not
    resolve against its number of lines, `(records cfg.eol input).length` -/
theorem specLines_fails_at (cfg : Cfg) (input : Bytes) (pre post : List BoF) (b : UserBounds)
    (h0 : input ≠ []) (h1 : input ≠ [cfg.eol])
    (hb : cfg.bofs = pre ++ .bound b :: post)
    (h : resolve b (records cfg.eol input).length = none) (hf : b.fallback = none)
    (hg : cfg.fallback = none) :
    specLines cfg input =
      ⟨(emitThen (linesCfg cfg) (linesTok cfg.eol input) (fun k => repeatBytes [cfg.eol] k)
        [cfg.eol] (rewriteList (linesCfg cfg) (records cfg.eol input).length pre)).out, .fail⟩ := by
  rw [specLines_unresolved cfg input pre post b h0 h1 hb h,
    emit_fails_at (linesCfg cfg) _ _ _ _ _ b (linesTok_numFields cfg.eol input h0 ▸ h) hf hg]
  rfl

/-- **C13, `-b`, the specification**: `b` does not resolve against the number of bytes of the
    (non-empty) input -/
theorem specBytes_fails_at (cfg : Cfg) (data : Bytes) (pre post : List BoF) (b : UserBounds)
    (hne : data ≠ []) (hb : cfg.bofs = pre ++ .bound b :: post)
    (h : resolve b data.length = none) (hf : b.fallback = none) (hg : cfg.fallback = none) :
    specBytes cfg data =
      ⟨(emitThen { cfg with json := false, join := false } (bytesTok data) (fun _ => []) []
        pre).out, .fail⟩ := by
  obtain ⟨e, hn⟩ := specBytes_eq_emit cfg data hne
  rw [← hn] at h
  have key := emit_fails_at { cfg with json := false, join := false } _ (fun _ => []) [] pre post b h hf hg
  rw [← hb] at key
  exact e.trans key

/-- **C13, general field engine, the run.**  If on the record `r` of the input (tokens `tok`,
    not suppressed by `-s`) the bound `b` does not resolve, has no fallback of its own and there
    is no generic fallback, then the run fails — never a silent success — and, the records before
    `r` having succeeded, what was written is the output of those records followed by what `r`
    printed before `b`.  (By `cutRecords_eq_specRunRecords`, `specRunRecords (cfgOf opt) before` is also
    what the engine itself does on the records `before`.) -/
theorem readAndCutStr_never_silent (opt : Opt) (input : Bytes) (hd : opt.delimiter ≠ [])
    (hre : opt.regexBag = none) (hty : opt.boundsType = .fields ∨ opt.boundsType = .lines)
    (hjson : opt.json = false)
    (hz : AllNonzero opt.bounds.list) (hL : LastMarked opt.bounds.list)
    (before after : List Bytes) (r : Bytes)
    (hrec : records opt.eol.byte input = before ++ r :: after)
    (tok : Tok) (pre post : List BoF) (b : UserBounds) (ht : recordTok (cfgOf opt) r = some tok)
    (hs : (opt.onlyDelimited && tok.numFields == 1) = false)
    (hb : opt.bounds.list = pre ++ .bound b :: post)
    (h : resolve b tok.numFields = none) (hf : b.fallback = none) (hg : opt.fallbackOob = none) :
    (readAndCutStr opt input).status = .fail ∧
    ((specRunRecords (cfgOf opt) before).status = .ok →
      (readAndCutStr opt input).out =
        (specRunRecords (cfgOf opt) before).out ++
          (emitThen (cfgOf opt) tok (specSep (cfgOf opt)) (specJoiner (cfgOf opt))
            (rewriteList (cfgOf opt) tok.numFields pre)).out) := by
  rw [fields_run_eq_spec opt input hd hre hty hz hL]
  have := specRun_fails_at (cfgOf opt) input before after r hrec tok pre post b ht hs hb h hf hg
  rw [openBracket_cfgOf opt hjson, List.nil_append] at this
  exact this

/-- the same for a single-record input: nothing but what the record printed before `b` -/
theorem readAndCutStr_never_silent_single (opt : Opt) (input : Bytes) (hd : opt.delimiter ≠ [])
    (hre : opt.regexBag = none) (hty : opt.boundsType = .fields ∨ opt.boundsType = .lines)
    (hjson : opt.json = false)
    (hz : AllNonzero opt.bounds.list) (hL : LastMarked opt.bounds.list)
    (r : Bytes) (hrec : records opt.eol.byte input = [r])
    (tok : Tok) (pre post : List BoF) (b : UserBounds) (ht : recordTok (cfgOf opt) r = some tok)
    (hs : (opt.onlyDelimited && tok.numFields == 1) = false)
    (hb : opt.bounds.list = pre ++ .bound b :: post)
    (h : resolve b tok.numFields = none) (hf : b.fallback = none) (hg : opt.fallbackOob = none) :
    readAndCutStr opt input =
      ⟨(emitThen (cfgOf opt) tok (specSep (cfgOf opt)) (specJoiner (cfgOf opt))
        (rewriteList (cfgOf opt) tok.numFields pre)).out, .fail⟩ := by
  obtain ⟨h1, h2⟩ := readAndCutStr_never_silent opt input hd hre hty hjson hz hL [] [] r hrec tok
    pre post b ht hs hb h hf hg
  have h3 := h2 rfl
  simp only [specRunRecords, Run.empty, List.nil_append] at h3
  cases hrun : readAndCutStr opt input with
  | mk out st =>
    rw [hrun] at h1 h3
    simp only at h1 h3
    rw [h1, h3]

/-- **C13, `-l`, buffered algorithm, the run**: the entry point when it picks the buffered
    algorithm (`-m`, or a request that is not forward-only: negative or reordered indexes) -/
theorem readAndCutLines_never_silent (o : Opt) (input : Bytes)
    (hbuf : o.complement = true ∨ isForwardOnly o.bounds.list = false)
    (hd : o.delimiter = [o.eol.byte]) (hty : o.boundsType = .lines)
    (hre : o.regexBag = none) (hjson : o.json = false)
    (hz : AllNonzero o.bounds.list) (hL : LastMarked o.bounds.list)
    (honly : o.onlyDelimited = false) (htrim : o.trim = none) (hg : o.greedyDelimiter = false)
    (hp : o.compressDelimiter = false) (hrepl : o.replaceDelimiter = none)
    (hutf : validUtf8 input = true) (h0 : input ≠ []) (h1 : input ≠ [o.eol.byte])
    (pre post : List BoF) (b : UserBounds) (hb : o.bounds.list = pre ++ .bound b :: post)
    (h : resolve b (records o.eol.byte input).length = none) (hf : b.fallback = none)
    (hgen : o.fallbackOob = none) :
    readAndCutLines o input =
      ⟨(emitThen (linesCfg (cfgOf o)) (linesTok o.eol.byte input)
        (fun k => repeatBytes [o.eol.byte] k) [o.eol.byte]
        (rewriteList (linesCfg (cfgOf o)) (records o.eol.byte input).length pre)).out, .fail⟩ := by
  rw [readAndCutLines_buffered_eq_spec o input hbuf hd hty hre hjson hz hL honly htrim hg hp hrepl hutf]
  exact specLines_fails_at (cfgOf o) input pre post b h0 h1 hb h hf hgen

/-- **C13, `-b`, the run** -/
theorem readAndCutBytes_never_silent (o : Opt) (data : Bytes)
    (hz : ∀ b ∈ boundsOnly o.bounds.list, b.Nonzero) (hne : data ≠ [])
    (pre post : List BoF) (b : UserBounds) (hb : o.bounds.list = pre ++ .bound b :: post)
    (h : resolve b data.length = none) (hf : b.fallback = none) (hgen : o.fallbackOob = none) :
    readAndCutBytes o data =
      ⟨(emitThen { (cfgOf o) with json := false, join := false } (bytesTok data) (fun _ => []) []
        pre).out, .fail⟩ := by
  rw [readAndCutBytes_eq_spec o data hz]
  exact specBytes_fails_at (cfgOf o) data pre post b hne hb h hf hgen

/-! ## `-l`, one line at a time: proved on the model

The refinement theorem of this algorithm (C05) is about requests all of whose bounds resolve, so
it says nothing here.  The statement is proved on the model directly, for *any* bounds list
(fillers, any order): a bound that cannot be resolved on the lines of the input — and whose left
side is not the literal index 0, which the parser refuses — is never consumed by the walk, and what
is left when the input ends fails at it or before it. -/

/-- the bound cannot be matched on a line where it would end, nor at all if it is open -/
def Blocked (b : UserBounds) (n : Nat) : Prop :=
  ∀ idx : Int, 1 ≤ idx → idx ≤ n → (b.matches idx).getD false = true →
    b.r ≠ .some idx ∧ b.r ≠ .cont

theorem blocked_of_unresolvable (b : UserBounds) (n : Nat) (hz : b.l ≠ .some 0)
    (h : resolve b n = none) : Blocked b n := by
  intro idx h1 h2 hm
  have hpos : 0 < idx := Int.lt_of_lt_of_le (by decide) h1
  obtain ⟨hl, hr⟩ := (UserBounds.matches_iff hpos).1 hm
  -- a bound that matches `idx` and ends there, or is open, resolves: `lo ≤ idx ≤ hi`
  have key : b.r = .some idx ∨ b.r = .cont → False := by
    intro hr'
    obtain ⟨lo, elo, h1lo, hlo⟩ : ∃ lo, resolveSide b.l n 1 = some lo ∧ 1 ≤ lo ∧ (lo : Int) ≤ idx := by
      cases hbl : b.l with
      | cont => exact ⟨1, rfl, Nat.le_refl _, h1⟩
      | some u =>
        obtain ⟨h0, hle⟩ := hl u hbl
        have hu : 0 < u := Int.lt_iff_le_and_ne.2 ⟨h0, fun e => hz (e ▸ hbl)⟩
        refine ⟨u.toNat, ?_, Int.lt_toNat.2 hu, Int.toNat_of_nonneg h0 ▸ hle⟩
        rw [resolveSide_of_pos hu, if_pos (Int.le_trans hle h2)]
    obtain ⟨hi, ehi, hhi⟩ : ∃ hi, resolveSide b.r n n = some hi ∧ idx ≤ (hi : Int) := by
      rcases hr' with e | e
      · refine ⟨idx.toNat, ?_, Int.toNat_of_nonneg (Int.le_of_lt hpos) ▸ Int.le_refl _⟩
        rw [e, resolveSide_of_pos hpos, if_pos h2]
      · exact ⟨n, e ▸ rfl, h2⟩
    have := resolve_eq_some.2 ⟨elo, ehi, Int.ofNat_le.1 (Int.le_trans hlo hhi), h1lo⟩
    rw [h] at this
    cases this
  exact ⟨fun e => key (Or.inl e), fun e => key (Or.inr e)⟩

/-- `add_newline_next` is set only while the pending bound has started printing -/
def FwdStarted (n : Nat) (rest : List BoF) (addNl : Bool) : Prop :=
  addNl = true → ∃ c t, rest = .bound c :: t ∧
    ∃ idx : Int, 1 ≤ idx ∧ idx ≤ n ∧ (c.matches idx).getD false = true

theorem fwdLine_keeps (o : Opt) (line : Bytes) (n : Nat) (lineIdx : Int) (h1 : 1 ≤ lineIdx)
    (h2 : lineIdx ≤ n) (b : UserBounds) (hbl : Blocked b n) (rest : List BoF) (addNl : Bool) :
    .bound b ∈ rest → FwdStarted n rest addNl →
      .bound b ∈ (fwdLine o line lineIdx rest addNl).2.1 ∧
      FwdStarted n (fwdLine o line lineIdx rest addNl).2.1 (fwdLine o line lineIdx rest addNl).2.2 := by
  -- the arms of `fwdLine`, named as its equations in `Lemmas/Lines` (`fwdLine_nil`, `_filler`, `_next`, `_stay`, `_nomatch`)
  fun_induction fwdLine o line lineIdx rest addNl with
  | case1 => exact fun hmem => nomatch hmem                                   -- nil
  | case2 f t addNl w r a e ih =>                                             -- filler: written, on to `t`
    intro hmem hst
    rw [e] at ih
    refine ih ((List.mem_cons.1 hmem).resolve_left nofun) fun h => ?_
    obtain ⟨c, t', he, _⟩ := hst h
    cases he
  | case3 c t addNl hm _ hr w r a e ih =>                                     -- next: `c` matches and ends on this line
    -- so `c` is not the blocked bound
    intro hmem _
    rw [e] at ih
    exact ih ((List.mem_cons.1 hmem).resolve_left fun e => by
      cases e; exact (hbl lineIdx h1 h2 hm).1 hr) (fun h => nomatch h)
  | case4 c t addNl hm _ hr =>                                                -- stay: `c` matches and goes on
    exact fun hmem _ => ⟨hmem, fun _ => ⟨c, t, rfl, lineIdx, h1, h2, hm⟩⟩
  | case5 c t addNl hm => exact fun hmem hst => ⟨hmem, hst⟩                   -- nomatch

theorem fwdEnd_fails (o : Opt) (n : Nat) (b : UserBounds) (hbl : Blocked b n)
    (hf : b.fallback = none) (hgen : o.fallbackOob = none) (rest : List BoF) (a : Bool) :
    .bound b ∈ rest → FwdStarted n rest a → (fwdEnd o rest a).status = .fail := by
  -- a bound that is passed over is not the blocked one, which is therefore further down
  fun_induction fwdEnd o rest a with
  | case1 => exact fun hmem => nomatch hmem                                   -- nil
  | case2 f t a ih =>                                                         -- filler
    intro hmem hst
    refine ih ((List.mem_cons.1 hmem).resolve_left nofun) fun h => ?_
    obtain ⟨c, t', he, _⟩ := hst h
    cases he
  | case3 c t hc => exact fun _ _ => rfl                                      -- started, closed range: fails
  | case4 c t hc ih =>                                                        -- started, open range: passed over
    intro hmem hst
    obtain ⟨c', t', he, idx, i1, i2, hm⟩ := hst rfl
    cases he
    exact ih ((List.mem_cons.1 hmem).resolve_left fun e => by
      cases e; exact (hbl idx i1 i2 hm).2 (Decidable.not_not.1 hc)) (fun h => nomatch h)
  | case5 c t a _ f hcf ih =>                                                 -- not started, own fallback `f`
    intro hmem _
    exact ih ((List.mem_cons.1 hmem).resolve_left fun e => by
      cases e; rw [hf] at hcf; cases hcf) (fun h => nomatch h)
  | case6 c t a _ _ f hg ih =>                                                -- not started, generic fallback `f`
    exact absurd (hgen.symm.trans hg) nofun
  | case7 => exact fun _ _ => rfl                                             -- not started, no fallback: fails

theorem fwdLines_fails (o : Opt) (n : Nat) (b : UserBounds) (hbl : Blocked b n)
    (hf : b.fallback = none) (hgen : o.fallbackOob = none)
    (ls : List Bytes) (idx : Int) (rest : List BoF) (addNl : Bool) :
    0 ≤ idx → idx + ls.length = n → .bound b ∈ rest → FwdStarted n rest addNl →
      (fwdLines o ls idx rest addNl).status = .fail := by
  fun_induction fwdLines o ls idx rest addNl with
  | case1 _ rest addNl => exact fun _ _ => fwdEnd_fails o n b hbl hf hgen rest addNl   -- no line left: the epilogue
  | case2 => exact fun _ _ _ _ => rfl                                         -- the line is not UTF-8
  | case3 line t idx rest addNl _ w r a e hr | case4 line t idx rest addNl _ w r a e hr ih =>
    -- a line is read; `hr`: every bound is served and the loop stops (case3, impossible: `b` is kept), or not (case4)
    intro h0 hlen hmem hst
    have hlen' : idx + 1 + t.length = n := by
      rw [← hlen, List.length_cons, Int.natCast_succ, Int.add_assoc, Int.add_comm 1]
    have := fwdLine_keeps o line n (idx + 1) (Int.le_add_of_nonneg_left h0)
      (hlen' ▸ Int.le_add_of_nonneg_right (Int.natCast_nonneg _)) b hbl rest addNl hmem hst
    rw [e] at this
    first
      | exact ih (Int.le_add_one h0) hlen' this.1 this.2
      | exact absurd this.1 (List.isEmpty_iff.1 hr ▸ List.not_mem_nil)

/-- **C13, `-l`, one line at a time, the run.**  Whatever the bounds list (fillers, any order,
    forward-only or not) and whatever the input: a bound that does not resolve on the lines of
    the input, has no fallback at all and whose left side is not the index 0 (`hz`; the parser
    refuses it) makes the run fail — never a silent success. -/
theorem fwd_never_silent (o : Opt) (input : Bytes) (pre post : List BoF) (b : UserBounds)
    (hb : o.bounds.list = pre ++ .bound b :: post) (hz : b.l ≠ .some 0)
    (h : resolve b (records o.eol.byte input).length = none) (hf : b.fallback = none)
    (hgen : o.fallbackOob = none) :
    (cutLinesForwardOnly o input).status = .fail := by
  unfold cutLinesForwardOnly
  exact fwdLines_fails o _ b (blocked_of_unresolvable b _ hz h) hf hgen _ 0 _ false
    (Int.le_refl _) (Int.zero_add _) (hb ▸ List.mem_append_right _ (List.mem_cons_self ..))
    (fun h => nomatch h)

/-- **C13, `-l`, the entry point, both algorithms**: the status is failure whichever algorithm
    `read_and_cut_lines` picks. -/
theorem readAndCutLines_never_silent_status (o : Opt) (input : Bytes)
    (hd : o.delimiter = [o.eol.byte]) (hty : o.boundsType = .lines)
    (hre : o.regexBag = none) (hjson : o.json = false)
    (hz : AllNonzero o.bounds.list) (hL : LastMarked o.bounds.list)
    (honly : o.onlyDelimited = false) (htrim : o.trim = none) (hg : o.greedyDelimiter = false)
    (hp : o.compressDelimiter = false) (hrepl : o.replaceDelimiter = none)
    (hutf : validUtf8 input = true) (h0 : input ≠ []) (h1 : input ≠ [o.eol.byte])
    (pre post : List BoF) (b : UserBounds) (hb : o.bounds.list = pre ++ .bound b :: post)
    (h : resolve b (records o.eol.byte input).length = none) (hf : b.fallback = none)
    (hgen : o.fallbackOob = none) :
    (readAndCutLines o input).status = .fail := by
  by_cases hbuf : o.complement = true ∨ isForwardOnly o.bounds.list = false
  · rw [readAndCutLines_never_silent o input hbuf hd hty hre hjson hz hL honly htrim hg hp hrepl
      hutf h0 h1 pre post b hb h hf hgen]
  · rw [not_or, Bool.not_eq_true, Bool.not_eq_false] at hbuf
    rw [readAndCutLines_forwardOnly o input hbuf.1 hp hbuf.2]
    exact fwd_never_silent o input pre post b hb
      (hz b (hb ▸ List.mem_append_right _ (List.mem_cons_self ..))).1.ne_some_zero h hf hgen

/-- general engine, `-d - -g -j -f 1,3` on `a-b-c⏎d-e⏎f⏎`: the first record prints `a-c⏎`, the
    second has two fields only: `d-` is printed (the joiner follows `d` since a bound follows)
    and the run fails; the third record is not read -/
example :
    readAndCutStr
      { delimiter := [45], join := true, greedyDelimiter := true,
        bounds := ⟨[.bound { l := .some 1, r := .some 1 },
                    .bound { l := .some 3, r := .some 3, isLast := true }], .cont⟩ }
      [97, 45, 98, 45, 99, 10, 100, 45, 101, 10, 102, 10] =
    ⟨[97, 45, 99, 10, 100, 45], .fail⟩ := by
  decide +kernel

/-- `-l` on `a⏎b⏎c⏎`: `-1,5` (buffered), `1,5` and `1:5` (one line at a time) all fail -/
example :
    let o (l : List BoF) : Opt :=
      { delimiter := [10], boundsType := .lines, join := true, bounds := ⟨l, .cont⟩ }
    let input : Bytes := [97, 10, 98, 10, 99, 10]
    readAndCutLines (o [.bound { l := .some (-1), r := .some (-1) },
        .bound { l := .some 5, r := .some 5, isLast := true }]) input = ⟨[99, 10], .fail⟩ ∧
    readAndCutLines (o [.bound { l := .some 1, r := .some 1 },
        .bound { l := .some 5, r := .some 5, isLast := true }]) input = ⟨[97, 10], .fail⟩ ∧
    readAndCutLines (o [.bound { l := .some 1, r := .some 5, isLast := true }]) input =
      ⟨[97, 10, 98, 10, 99], .fail⟩ := by
  decide +kernel

/-- `-b` on `00 0A FF`: `2,x,9` prints `0A x` and fails -/
example :
    readAndCutBytes
      { delimiter := [], boundsType := .bytes,
        bounds := ⟨[.bound { l := .some 2, r := .some 2 }, .filler [0x78],
                    .bound { l := .some 9, r := .some 9, isLast := true }], .cont⟩ }
      [0, 10, 255] = ⟨[10, 0x78], .fail⟩ := by
  decide +kernel

end Tuc
