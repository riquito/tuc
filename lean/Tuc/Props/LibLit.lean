import Tuc.Model.LibLit
import Tuc.Props.C07
import Tuc.Lemmas.Run
import Tuc.Lemmas.Split
/-!
# Tuc.Props.LibLit — the library TEXT of `serde_json::to_string(&str)` and of `str::from_utf8`
computes `jsonString` and `validUtf8`

`Tuc.Model.Utf8` says what the two routines compute; `Tuc.Model.LibLit` follows their source text
statement by statement.  Here the two are proved equal, so that the trust in "the library computes
this" is replaced by trust in the transcription of the Rust text (plus the two tables, which are
copied verbatim).

## Part 1 — serde_json 1.0.140

* the table `ESCAPE` is compared with the case analysis of `jsonEscapeByte` entry by entry, all 256 by
  evaluation;
* **`formatEscapedStrLit_eq`** — for EVERY `str` the bytes written are `jsonString s`, no
  `&value[start..i]` / `&value[start..]` is taken off a char boundary, no table lookup is out of range;
* **`toStringLit_eq`** — `to_vec`/`to_string`; the `unsafe { String::from_utf8_unchecked(vec) }` is
  sound: what was written is UTF-8 (`jsonString_valid`).
* THE HYPOTHESIS `validUtf8 s`.  (1) It is the decidable `validUtf8 s = true`.  (2) It cannot be
  dropped: on `[0x0A, 0x80]` (LF, stray continuation byte) the literal panics (`&value[1..]` off
  a char boundary) while `jsonString` is total — see the `example`s at the end of the file.  (3) The
  real program cannot reach such a state: the argument has type `&str`, whose invariant is
  exactly this, and at the only call site of /repo (cut_str.rs:253) it is the result of
  `std::str::from_utf8(..)?` — `writeAsJsonLit_eq` puts the two parts together and needs no
  hypothesis.  What happens otherwise is stated exactly: `formatEscapedStrLit_cases` —
  `escSafe s` ("no escaped byte is followed by a continuation byte"; weaker than UTF-8) decides
  between `Run.ok (jsonString s)` and a panic.

## Part 2 — `core::str::run_utf8_validation`

* the table `UTF8_CHAR_WIDTH` is compared with Table 3-7 (`utf8Row` of `Tuc.Props.C07`) entry by entry,
  all 256 by evaluation; each arm of `match w` is the reads of one row;
* **`runUtf8ValidationLit_ok_iff`** — `Ok(())` iff `validUtf8 v`, for EVERY byte list and EVERY
  `align`; no panic (every `v[index]` in range), no fuel runs out; in the `Err` case `valid_up_to` is
  THE offset such that everything before it is valid and no character starts at it
  (`runUtf8ValidationLit_spec`, `valid_up_to_unique`); **`runUtf8ValidationLit_align`** — the whole
  result, error fields included, is the same for every `align`.  No hypothesis anywhere in part 2.

## What is still taken on trust

* that `Tuc.Model.LibLit` is a faithful reading of the Rust text (conventions in its header): in
  particular that `<str as Serialize>::serialize` is `serialize_str`, that `CompactFormatter`
  keeps the default methods of `Formatter`, that `Vec<u8>::write_all` appends and cannot fail,
  that a `usize` read is its 8 bytes and `&` acts lane by lane;
* that the `core` which the stable toolchain links has this text (the sandbox has `rust-src` only
  for the nightly toolchain);
* `String::from_utf8` (read_utils.rs:31) and `BufRead::read_line` (read_utils.rs:25) reach the
  same `run_utf8_validation` through `str::from_utf8`; their own few lines are not transcribed;
* the alignment of the block reads (the SAFETY comment of validations.rs:225-228) — the address
  is not modelled; that the reads are IN BOUNDS is proved.
-/

namespace Tuc
namespace LibLit

/-- a decidable property of bytes holds of all of them if it evaluates to `true` on `0 … 255`
    (a Boolean `all`, so that `decide +kernel` evaluates one closed term) -/
@[elab_as_elim]
theorem forall_byte {P : UInt8 → Prop} [DecidablePred P]
    (h : (List.range 256).all (fun n => decide (P (UInt8.ofNat n))) = true) (b : UInt8) : P b := by
  have := List.all_eq_true.1 h b.toNat (List.mem_range.2 b.toNat_lt)
  simpa using this

theorem getElem?_tabulate {α : Type} (f : UInt8 → α) (m : Nat) (b : UInt8) (h : b.toNat < m) :
    ((List.range m).map fun n => f (UInt8.ofNat n))[b.toNat]? = some (f b) := by
  simp [List.getElem?_range h]

/-- the case analysis of `jsonEscapeByte`, read as entries of the table -/
def escapeOf (b : UInt8) : UInt8 :=
  if b = 0x22 then QU
  else if b = 0x5C then BS
  else if b = 0x08 then BB
  else if b = 0x0C then FF
  else if b = 0x0A then NN
  else if b = 0x0D then RR
  else if b = 0x09 then TT
  else if b < 0x20 then UU
  else __

theorem ESCAPE_length : ESCAPE.length = 256 := by decide +kernel

theorem escapeOf_high (b : UInt8) (h : 0x5C < b) : escapeOf b = 0 ∧ jsonEscapeByte b = [b] := by
  unfold escapeOf jsonEscapeByte __
  grind

theorem ESCAPE_eq : ESCAPE =
    ((List.range 0x5D).map fun n => escapeOf (UInt8.ofNat n)) ++ List.replicate 163 __ := by
  decide +kernel

theorem ESCAPE_getElem (b : UInt8) : ESCAPE[b.toNat]? = some (escapeOf b) := by
  have := b.toNat_lt
  rw [ESCAPE_eq]
  by_cases h : 92 < b.toNat
  · rw [List.getElem?_append_right (by simp; omega), List.getElem?_replicate,
      if_pos (by simp; omega), (escapeOf_high b (UInt8.lt_iff_toNat_lt.2 h)).1]
    rfl
  · rw [List.getElem?_append_left (by simp; omega), getElem?_tabulate escapeOf _ b (by omega)]

theorem escapeOf_spec (b : UInt8) :
    (escapeOf b = 0 → jsonEscapeByte b = [b]) ∧
    (escapeOf b ≠ 0 → b < 0x80 ∧ (∀ c ∈ jsonEscapeByte b, c < 0x80) ∧
      (CharEscape.fromEscapeTable (escapeOf b) b).map writeCharEscape =
        some (Run.ok (jsonEscapeByte b))) := by
  by_cases h : 0x5C < b
  · exact ⟨fun _ => (escapeOf_high b h).2, fun he => absurd (escapeOf_high b h).1 he⟩
  · revert h
    exact forall_byte (by decide +kernel) b

theorem isUtf8CharBoundary_eq (b : UInt8) : isUtf8CharBoundary b = !isCont b :=
  forall_byte (by decide +kernel) b

theorem isUtf8CharBoundary_ascii {b : UInt8} (h : b < 0x80) : isUtf8CharBoundary b = true := by
  have : ¬ 0x80 ≤ b := UInt8.not_le.2 h
  simp [isUtf8CharBoundary_eq, isCont, this]

theorem indexThen_ESCAPE (b : UInt8) (k : UInt8 → Run) : indexThen ESCAPE b.toNat k = k (escapeOf b) := by
  simp only [indexThen, ESCAPE_getElem]

theorem run_panic_seq (r : Run) : (Run.seq Run.panic r) = Run.panic := rfl

/-- THE CONDITION UNDER WHICH NO `str` SLICE PANICS: the byte after an escaped byte (if there is
    one) is not a UTF-8 continuation byte.  `validUtf8` implies it (`escSafe_of_valid`): escaped
    bytes are ASCII, and in UTF-8 an ASCII byte is a whole character. -/
def escSafe : Bytes → Bool
  | a :: c :: t => (decide (escapeOf a = 0) || isUtf8CharBoundary c) && escSafe (c :: t)
  | _ => true

theorem escSafe_cons (a : UInt8) (rest : Bytes) : escSafe (a :: rest) =
    ((decide (escapeOf a = 0) || rest.head?.all isUtf8CharBoundary) && escSafe rest) := by
  cases rest <;> simp [escSafe]

theorem isCharBoundary_append (pre rest : Bytes) :
    isCharBoundary (pre ++ rest) pre.length =
      (pre.isEmpty || rest.head?.all isUtf8CharBoundary) := by
  cases pre with
  | nil => rfl
  | cons x pre =>
    unfold isCharBoundary
    rw [if_neg (by simp)]
    cases rest with
    | nil => simp
    | cons c t => rw [if_neg (by simp)]; simp

/-- the fragment in front of an escaped byte (ser.rs:2110-2112): it ends at an ASCII byte, so
    `&value[start..i]` is taken, and the fragment written, unless `start` is off a char boundary -/
theorem fragment_step (value pre0 frag rest : Bytes) (byte : UInt8)
    (hv : value = pre0 ++ frag ++ byte :: rest) (hbyte : isUtf8CharBoundary byte = true) :
    (if pre0.length < pre0.length + frag.length then
        strSliceRange value pre0.length (pre0.length + frag.length) fun fragment =>
          writeStringFragment fragment
      else Run.ok []) =
      if isCharBoundary value pre0.length = true then Run.ok frag else Run.panic := by
  have hi : isCharBoundary value (pre0.length + frag.length) = true := by
    rw [hv, ← List.length_append, isCharBoundary_append]
    simp [hbyte]
  by_cases hf : frag = []
  · subst hf
    simp only [List.length_nil, Nat.add_zero] at hi ⊢
    simp [hi]
  · have hpos := List.length_pos_iff.2 hf
    rw [if_pos (by omega)]
    simp only [strSliceRange, hi, Nat.le_add_right, true_and, and_true, writeStringFragment,
      writeAll]
    cases isCharBoundary value pre0.length <;> simp [hv, slice]

theorem contentsLoop_spec (value : Bytes) : ∀ (rem pre0 frag : Bytes),
    value = pre0 ++ frag ++ rem → (∀ b ∈ frag, escapeOf b = 0) →
    if (isCharBoundary value pre0.length && escSafe rem) = true then
      contentsLoop value rem (pre0.length + frag.length) pre0.length =
        Run.ok (frag ++ rem.flatMap jsonEscapeByte)
    else (contentsLoop value rem (pre0.length + frag.length) pre0.length).status = .panic := by
  intro rem
  induction rem with
  | nil =>
    intro pre0 frag hv hfrag
    simp only [escSafe, Bool.and_true, contentsLoop, List.flatMap_nil, List.append_nil] at hv ⊢
    subst hv
    by_cases hf : frag = []
    · subst hf
      have := isCharBoundary_append pre0 []
      simp_all
    · have : pre0.length ≠ (pre0 ++ frag).length := by
        have := List.length_pos_iff.2 hf
        simp; omega
      rw [if_neg this]
      cases hb : isCharBoundary (pre0 ++ frag) pre0.length <;>
        simp [strSliceFrom, hb, writeStringFragment, writeAll, Run.panic]
  | cons byte rest ih =>
    intro pre0 frag hv hfrag
    rw [contentsLoop, indexThen_ESCAPE, escSafe_cons]
    by_cases he : escapeOf byte = 0
    · rw [if_pos he, decide_eq_true he, Bool.true_or, Bool.true_and]
      have := ih pre0 (frag ++ [byte]) (by simp [hv]) (List.forall_mem_append.2 ⟨hfrag, by simpa using he⟩)
      simpa only [List.length_append, List.length_singleton, ← Nat.add_assoc, List.flatMap_cons,
        (escapeOf_spec byte).1 he, List.append_assoc] using this
    · rw [if_neg he, decide_eq_false he, Bool.false_or]
      obtain ⟨hlt, -, hw⟩ := (escapeOf_spec byte).2 he
      rw [fragment_step value pre0 frag rest byte hv (isUtf8CharBoundary_ascii hlt)]
      cases hb : isCharBoundary value pre0.length with
      | false =>
        simp only [Bool.false_and, Bool.false_eq_true, if_false, run_panic_seq]
        rfl
      | true =>
        cases hce : CharEscape.fromEscapeTable (escapeOf byte) byte with
        | none => simp [hce] at hw
        | some ce =>
          simp only [hce, Option.map_some, Option.some.injEq] at hw
          simp only [unwrapThen, hw, Bool.true_and, if_true]
          -- the next fragment starts behind the escaped byte
          have hv' : value = pre0 ++ frag ++ [byte] ++ [] ++ rest := by simp [hv]
          have ih' := ih (pre0 ++ frag ++ [byte]) [] hv' (by simp)
          rw [List.append_nil] at hv'
          have hne : (pre0 ++ frag ++ [byte]).isEmpty = false := by simp
          rw [hv', isCharBoundary_append, ← hv', hne, Bool.false_or] at ih'
          simp only [List.length_append, List.length_singleton, List.length_nil, Nat.add_zero,
            List.nil_append] at ih'
          by_cases hs : (rest.head?.all isUtf8CharBoundary && escSafe rest) = true
          · rw [if_pos hs] at ih' ⊢
            rw [ih', Run.ok_seq_ok, Run.ok_seq_ok]
            simp
          · rw [if_neg hs] at ih' ⊢
            rw [Run.seq_status_of_ok rfl, Run.seq_status_of_ok rfl, ih']

theorem lt_0x80_of (b : UInt8) : (b < 0x80) = (!decide (0x80 ≤ b)) := by
  simp

theorem charLen_head (c : UInt8) (t : Bytes) (k : Nat) (h : charLen (c :: t) = some k) :
    isUtf8CharBoundary c = true := by
  rw [isUtf8CharBoundary_eq]
  cases hc : isCont c with
  | false => rfl
  | true =>
    obtain ⟨ps, hr, -⟩ := charLen_eq_some h
    rw [utf8Row_of_cont hc] at hr
    cases hr

theorem escSafe_append_of_zero (l rest : Bytes) (h : ∀ x ∈ l, escapeOf x = 0) :
    escSafe (l ++ rest) = escSafe rest := by
  induction l with
  | nil => rfl
  | cons x l ih =>
    rw [List.cons_append, escSafe_cons, decide_eq_true (h x (List.mem_cons_self ..)), Bool.true_or,
      Bool.true_and, ih fun y hy => h y (List.mem_cons_of_mem _ hy)]

/-- a `str` is `escSafe`, character by character: an escaped byte is ASCII, hence a whole character,
    and what follows it starts a character; a longer character has no escaped byte -/
theorem escSafe_of_valid (s : Bytes) (h : validUtf8 s = true) : escSafe s = true := by
  refine validUtf8_induction rfl (fun ch rest hch hrest ih => ?_) s h
  rcases charLen_ascii_or_high ch hch with ⟨b, rfl, -⟩ | hge
  · rw [List.singleton_append, escSafe_cons, ih, Bool.and_true]
    cases rest with
    | nil => simp
    | cons c t =>
      obtain ⟨k, hk⟩ := charLen_of_valid c t hrest
      simp [charLen_head c t k hk]
  · rw [escSafe_append_of_zero ch rest fun x hx =>
      (escapeOf_high x (UInt8.lt_of_lt_of_le (by decide) (hge x hx))).1, ih]

theorem formatEscapedStrContents_spec (s : Bytes) :
    if escSafe s = true then formatEscapedStrContents s = Run.ok (s.flatMap jsonEscapeByte)
    else (formatEscapedStrContents s).status = .panic := by
  simpa [formatEscapedStrContents, isCharBoundary] using
    contentsLoop_spec s s [] [] (by simp) (by simp)

theorem formatEscapedStrLit_of_escSafe (s : Bytes) (hs : escSafe s = true) :
    formatEscapedStrLit s = Run.ok (jsonString s) := by
  have := formatEscapedStrContents_spec s
  rw [if_pos hs] at this
  simp only [formatEscapedStrLit, this, beginString, endString, writeAll, Run.ok_seq_ok, jsonString,
    List.append_assoc]

theorem formatEscapedStrLit_panics (s : Bytes) (h : escSafe s = false) :
    (formatEscapedStrLit s).status = .panic := by
  have := formatEscapedStrContents_spec s
  rw [if_neg (by simp [h])] at this
  rw [formatEscapedStrLit, beginString, writeAll, Run.seq_status_of_ok rfl,
    Run.seq_of_not_ok _ _ (by rw [this]; decide), this]

/-- the complete description of `format_escaped_str` on ARBITRARY bytes -/
theorem formatEscapedStrLit_cases (s : Bytes) :
    (escSafe s = true ∧ formatEscapedStrLit s = Run.ok (jsonString s)) ∨
    (escSafe s = false ∧ (formatEscapedStrLit s).status = .panic) := by
  cases h : escSafe s with
  | true => exact Or.inl ⟨rfl, formatEscapedStrLit_of_escSafe s h⟩
  | false => exact Or.inr ⟨rfl, formatEscapedStrLit_panics s h⟩

/-- **`format_escaped_str` writes `jsonString s`** — for EVERY `str` (a byte string that is valid
    UTF-8, which the type `&str` guarantees): no `str` slice is taken off a char boundary, no table
    lookup is out of range, `unreachable!()` is not reached. -/
theorem formatEscapedStrLit_eq (s : Bytes) (h : validUtf8 s = true) :
    formatEscapedStrLit s = Run.ok (jsonString s) :=
  formatEscapedStrLit_of_escSafe s (escSafe_of_valid s h)

theorem validUtf8_ascii (l : Bytes) (h : ∀ b ∈ l, b < 0x80) : validUtf8 l = true := by
  induction l with
  | nil => rfl
  | cons b t ih =>
    rw [← List.singleton_append, validUtf8_char_append [b] t (charLen_ascii b [] (h b (List.mem_cons_self ..)))]
    exact ih fun c hc => h c (List.mem_cons_of_mem _ hc)

theorem jsonEscapeByte_ascii (b : UInt8) (h : b < 0x80) : ∀ c ∈ jsonEscapeByte b, c < 0x80 := by
  by_cases he : escapeOf b = 0
  · simpa [(escapeOf_spec b).1 he] using h
  · exact ((escapeOf_spec b).2 he).2.1

theorem jsonEscapeByte_high (b : UInt8) (h : ¬ b < 0x80) : jsonEscapeByte b = [b] :=
  (escapeOf_high b (UInt8.lt_of_lt_of_le (by decide) (UInt8.not_lt.1 h))).2

theorem flatMap_high (l : Bytes) (h : ∀ b ∈ l, ¬ b < 0x80) : l.flatMap jsonEscapeByte = l := by
  induction l with
  | nil => rfl
  | cons b t ih =>
    rw [List.flatMap_cons, jsonEscapeByte_high b (h b (List.mem_cons_self ..)),
      ih fun c hc => h c (List.mem_cons_of_mem _ hc)]
    rfl

/-- character by character: an ASCII byte is escaped to ASCII bytes, a longer character is
    passed through -/
theorem flatMap_escape_valid (v : Bytes) (h : validUtf8 v = true) :
    validUtf8 (v.flatMap jsonEscapeByte) = true := by
  refine validUtf8_induction rfl (fun c rest hc _ ih => ?_) v h
  rw [List.flatMap_append]
  refine validUtf8_append _ _ ?_ ih
  rcases charLen_ascii_or_high c hc with ⟨b, rfl, hb⟩ | hge
  · simpa using validUtf8_ascii _ (jsonEscapeByte_ascii b hb)
  · rw [flatMap_high c fun b hb => UInt8.not_lt.2 (hge b hb)]
    exact validUtf8_char c hc

theorem jsonString_valid (s : Bytes) (h : validUtf8 s = true) : validUtf8 (jsonString s) = true := by
  unfold jsonString
  refine validUtf8_append _ _ (validUtf8_append _ _ (by decide) ?_) (by decide)
  exact flatMap_escape_valid s h

theorem toVecLit_eq (s : Bytes) (h : validUtf8 s = true) : toVecLit s = .ok (jsonString s) := by
  simp [toVecLit, toWriter, serializeStr, formatEscapedStrLit_eq s h, Run.ok]

/-- **`serde_json::to_string(&str)` is `jsonString`**: it returns `Ok`, never panics, and the
    `unsafe { String::from_utf8_unchecked(vec) }` of ser.rs:2242-2245 is sound — what was written
    is UTF-8 -/
theorem toStringLit_eq (s : Bytes) (h : validUtf8 s = true) : toStringLit s = .ok (jsonString s) := by
  simp [toStringLit, toVecLit_eq s h, Res.bind, fromUtf8Unchecked, jsonString_valid s h]

/-- the width of a first byte: one more than the length of its row of Table 3-7 (`0`: not a first byte) -/
def widthOf (b : UInt8) : Nat := ((utf8Row b).map (·.length + 1)).getD 0

theorem UTF8_CHAR_WIDTH_length : UTF8_CHAR_WIDTH.length = 256 := by decide +kernel

theorem UTF8_CHAR_WIDTH_eq :
    UTF8_CHAR_WIDTH.map UInt8.toNat = (List.range 256).map fun n => widthOf (UInt8.ofNat n) := by
  decide +kernel

theorem utf8CharWidth_eq (b : UInt8) : utf8CharWidth b = .ok (widthOf b) := by
  have := getElem?_tabulate widthOf 256 b b.toNat_lt
  rw [← UTF8_CHAR_WIDTH_eq, List.getElem?_map] at this
  unfold utf8CharWidth
  cases h : UTF8_CHAR_WIDTH[b.toNat]? with
  | none => simp [h] at this
  | some w => simpa [h] using this

theorem notCont_eq (b : UInt8) : notCont b = !isCont b := isUtf8CharBoundary_eq b

theorem lane_eq (b : UInt8) : (b &&& 0x80 != 0) = !decide (b < 0x80) :=
  forall_byte (by decide +kernel) b

/-- the range patterns of validations.rs:193-196 are the second-byte test of Unicode Table 3-7
    (interval arithmetic on the two bytes) -/
theorem secondOf3_eq (first b : UInt8) (h : (decide (0xE0 ≤ first) && decide (first ≤ 0xEF)) = true) :
    secondOf3 first b = second3 first b := by
  rw [Bool.eq_iff_iff]
  simp only [secondOf3, second3, inRange, isCont, Bool.or_eq_true, Bool.and_eq_true, beq_iff_eq,
    decide_eq_true_eq] at h ⊢
  grind

/-- the range patterns of validations.rs:205, likewise -/
theorem secondOf4_eq (first b : UInt8) (h : (decide (0xF0 ≤ first) && decide (first ≤ 0xF4)) = true) :
    secondOf4 first b = second4 first b := by
  rw [Bool.eq_iff_iff]
  simp only [secondOf4, second4, inRange, isCont, Bool.or_eq_true, Bool.and_eq_true, beq_iff_eq,
    decide_eq_true_eq] at h ⊢
  grind

@[simp] theorem V.bind_ok {α β : Type} (a : α) (f : α → V β) : (V.ok a).bind f = f a := rfl
@[simp] theorem V.bind_err {α β : Type} (n : Nat) (e : Option Nat) (f : α → V β) :
    (V.err n e : V α).bind f = .err n e := rfl

theorem next_eq {α : Type} (v : Bytes) (oldOffset index : Nat) (k : Nat → UInt8 → V α) :
    next v v.length oldOffset index k =
      match v[index + 1]? with
      | none => .err oldOffset none
      | some b => k (index + 1) b := by
  unfold next
  by_cases h : index + 1 ≥ v.length
  · have : v[index + 1]? = none := List.getElem?_eq_none_iff.2 h
    simp only [this, if_pos h]
  · have hl : index + 1 < v.length := by omega
    simp [h, V.index, List.getElem?_eq_getElem hl]

/-- the reads of one row of Table 3-7 as l.186-214 do them: `next!()` and a test, once per byte; `j` counts
    the bytes of the sequence that have passed, the `error_len` when the next test fails -/
def readRow (v : Bytes) (old : Nat) : List (UInt8 → Bool) → Nat → Nat → V Nat
  | [], index, _ => .ok index
  | p :: ps, index, j =>
    next v v.length old index fun index b => if p b then readRow v old ps index (j + 1) else .err old (some j)

theorem readRow_spec (v : Bytes) (old : Nat) : ∀ (ps : List (UInt8 → Bool)) (index j : Nat) (t : Bytes),
    v.drop (index + 1) = t →
    if passes ps t then readRow v old ps index j = .ok (index + ps.length)
    else ∃ e, readRow v old ps index j = .err old e
  | [], _, _, _, _ => rfl
  | p :: ps, index, j, t, ht => by
    have hh : v[index + 1]? = t.head? := by rw [← ht, List.head?_drop]
    rw [readRow, next_eq, hh]
    cases t with
    | nil => exact ⟨_, rfl⟩
    | cons b t =>
      have ht' : v.drop (index + 1 + 1) = t := by rw [← List.drop_drop, ht]; rfl
      have ih := readRow_spec v old ps (index + 1) (j + 1) t ht'
      simp only [List.head?_cons, passes]
      by_cases hp : p b = true
      · simpa only [hp, Bool.true_and, if_true, List.length_cons, Nat.add_assoc, Nat.add_comm 1] using ih
      · rw [Bool.not_eq_true] at hp
        simp only [hp, Bool.false_and, Bool.false_eq_true, if_false]
        exact ⟨_, rfl⟩

theorem ite_notCont {α : Type} (b : UInt8) (x y : α) :
    (if notCont b = true then x else y) = if isCont b = true then y else x := by
  rw [notCont_eq]
  cases isCont b <;> rfl

/-- **the `match w { … }` of the loop body decides exactly `charLen`**: on a well-formed sequence
    of `k` bytes it leaves `index` on its last byte, otherwise it returns an error whose
    `valid_up_to` is `old_offset`; every `v[index]` is in range -/
theorem charStep_spec (v t : Bytes) (index : Nat) (first : UInt8)
    (hd : v.drop index = first :: t) (hf : ¬ first < 0x80) :
    match charLen (first :: t) with
    | some k => charStep v v.length index index first = .ok (index + (k - 1))
    | none => ∃ e, charStep v v.length index index first = .err index e := by
  have ht : v.drop (index + 1) = t := by rw [← List.drop_drop, hd]; rfl
  -- each arm of `match w` is the reads of the row of `first`
  have row (ps : List (UInt8 → Bool)) (X : V Nat) (hX : X = readRow v index ps index 1) :
      match (if passes ps t then some (ps.length + 1) else none : Option Nat) with
      | some k => X = .ok (index + (k - 1))
      | none => ∃ e, X = .err index e := by
    have := readRow_spec v index ps index 1 t ht
    subst hX
    cases hp : passes ps t
    · simpa only [hp, Bool.false_eq_true, if_false] using this
    · simpa only [hp, if_true, Nat.add_sub_cancel] using this
  have w (ps : List (UInt8 → Bool)) : ((some ps).map (·.length + 1)).getD 0 = ps.length + 1 := rfl
  rw [charLen_eq, charStep, utf8CharWidth_eq, V.bind_ok, widthOf, utf8Row, if_neg hf]
  by_cases h2 : (decide (0xC2 ≤ first) && decide (first ≤ 0xDF)) = true
  · rw [if_pos h2]
    exact row [isCont] _ (by simp only [w, readRow, ite_notCont, List.length_cons, List.length_nil])
  rw [if_neg h2]
  by_cases h3 : (decide (0xE0 ≤ first) && decide (first ≤ 0xEF)) = true
  · rw [if_pos h3]
    exact row [second3 first, isCont] _ (by simp only [w, readRow, ite_notCont, secondOf3_eq first _ h3, List.length_cons, List.length_nil])
  rw [if_neg h3]
  by_cases h4 : (decide (0xF0 ≤ first) && decide (first ≤ 0xF4)) = true
  · rw [if_pos h4]
    exact row [second4 first, isCont, isCont] _ (by simp only [w, readRow, ite_notCont, secondOf4_eq first _ h4, List.length_cons, List.length_nil])
  rw [if_neg h4]
  exact ⟨_, rfl⟩

/-- the bytes `v[a..c]` are ASCII: what the ASCII branch (one byte, or whole blocks a word at a time) has checked
    when it moves `index` from `a` to `c` -/
def AllAscii (v : Bytes) (a c : Nat) : Prop := ∀ b ∈ slice v a c, b < 0x80

theorem AllAscii.refl (v : Bytes) (a : Nat) : AllAscii v a a := by
  intro b hb
  rw [slice_self] at hb
  cases hb

theorem AllAscii.trans {v : Bytes} {a b c : Nat} (hab : a ≤ b) (hbc : b ≤ c) (h1 : AllAscii v a b)
    (h2 : AllAscii v b c) : AllAscii v a c := by
  intro x hx
  rw [← slice_append_slice v hab hbc, List.mem_append] at hx
  exact hx.elim (h1 x) (h2 x)

theorem AllAscii.single {v : Bytes} {i : Nat} {b : UInt8} (hi : v[i]? = some b) (hb : b < 0x80) :
    AllAscii v i (i + 1) := by
  obtain ⟨hlt, rfl⟩ := List.getElem?_eq_some_iff.1 hi
  intro x hx
  rw [slice, List.drop_eq_getElem_cons hlt, Nat.add_sub_cancel_left, List.take_succ_cons, List.take_zero,
    List.mem_singleton] at hx
  exact hx ▸ hb

theorem containsNonascii_false (v : Bytes) (index n : Nat)
    (h : containsNonascii (slice v index (index + n)) = false) : AllAscii v index (index + n) := by
  intro b hb
  have := List.any_eq_false.1 h b hb
  rw [lane_eq] at this
  simpa using this

theorem blockLoop_spec (v : Bytes) (blocksEnd : Nat)
    (hbe : ∀ i, i < blocksEnd → i + 2 * USIZE_BYTES ≤ v.length) : ∀ (fuel index : Nat),
    v.length - index < fuel →
    ∃ index', blockLoop v blocksEnd (2 * USIZE_BYTES) fuel index = .ok index' ∧ index ≤ index' ∧
      (index ≤ v.length → index' ≤ v.length) ∧ AllAscii v index index' := by
  intro fuel
  induction fuel with
  | zero => intro index h; omega
  | succ fuel ih =>
    intro index hfuel
    unfold blockLoop
    by_cases hlt : index < blocksEnd
    · have hin := hbe index hlt
      have hU : USIZE_BYTES = 8 := rfl
      rw [if_pos hlt]
      rw [readUsize, if_pos (by omega), V.bind_ok, readUsize, if_pos (by omega)]
      simp only [V.bind_ok]
      cases hz : (containsNonascii (slice v index (index + USIZE_BYTES)) ||
          containsNonascii (slice v (index + USIZE_BYTES) (index + USIZE_BYTES + USIZE_BYTES)))
      · simp only [Bool.false_eq_true, if_false]
        rw [Bool.or_eq_false_iff] at hz
        obtain ⟨index', he, h1, h2, h3⟩ := ih (index + 2 * USIZE_BYTES) (by omega)
        refine ⟨index', he, by omega, fun _ => h2 (by omega), ?_⟩
        have a0 := containsNonascii_false v index USIZE_BYTES hz.1
        have a1 := containsNonascii_false v (index + USIZE_BYTES) USIZE_BYTES hz.2
        have : index + USIZE_BYTES + USIZE_BYTES = index + 2 * USIZE_BYTES := by omega
        rw [this] at a1
        exact (a0.trans (by omega) (by omega) a1).trans (by omega) h1 h3
      · simp only [if_true]
        exact ⟨index, rfl, Nat.le_refl _, fun h => h, AllAscii.refl v index⟩
    · rw [if_neg hlt]
      exact ⟨index, rfl, Nat.le_refl _, fun h => h, AllAscii.refl v index⟩

theorem asciiTail_spec (v : Bytes) : ∀ (fuel index : Nat), index ≤ v.length →
    v.length - index < fuel →
    ∃ index', asciiTail v v.length fuel index = .ok index' ∧ index ≤ index' ∧ index' ≤ v.length ∧
      AllAscii v index index' ∧ (∀ b, v[index]? = some b → b < 0x80 → index < index') := by
  intro fuel
  induction fuel with
  | zero => intro index _ h; omega
  | succ fuel ih =>
    intro index hle hfuel
    unfold asciiTail
    by_cases hlt : index < v.length
    · rw [if_pos hlt]
      have hidx : V.index v index = .ok v[index] := by
        simp [V.index, List.getElem?_eq_getElem hlt]
      rw [hidx, V.bind_ok]
      by_cases hb : v[index] < 128
      · rw [if_pos hb]
        obtain ⟨index', he, h1, h2, h3, _⟩ := ih (index + 1) (by omega) (by omega)
        refine ⟨index', he, by omega, h2, ?_, fun _ _ _ => by omega⟩
        exact (AllAscii.single (List.getElem?_eq_getElem hlt) hb).trans (by omega) h1 h3
      · rw [if_neg hb]
        refine ⟨index, rfl, Nat.le_refl _, hle, AllAscii.refl v index, ?_⟩
        intro b hvb hlt'
        rw [List.getElem?_eq_getElem hlt] at hvb
        cases hvb; exact absurd hlt' hb
    · rw [if_neg hlt]
      refine ⟨index, rfl, Nat.le_refl _, hle, AllAscii.refl v index, ?_⟩
      intro b hvb
      rw [List.getElem?_eq_none_iff.2 (by omega)] at hvb; cases hvb

/-- **the ASCII branch of the loop body** (validations.rs:219-246): whatever `align` is, it moves
    `index` forward over ASCII bytes only, by at least one, and not beyond the end; the block
    reads are inside the slice -/
theorem asciiStep_spec (v : Bytes) (blocksEnd align index : Nat)
    (hbe : ∀ i, i < blocksEnd → i + 2 * USIZE_BYTES ≤ v.length)
    (first : UInt8) (hidx : v[index]? = some first) (hlt : first < 0x80) :
    ∃ index', (if fastPathAligned align index = true then
        (blockLoop v blocksEnd (2 * USIZE_BYTES) (v.length + 1) index).bind fun index =>
          asciiTail v v.length (v.length + 1) index
       else .ok (index + 1)) = .ok index' ∧ index < index' ∧ index' ≤ v.length ∧
      AllAscii v index index' := by
  have hil : index < v.length := (List.getElem?_eq_some_iff.1 hidx).1
  by_cases ha : fastPathAligned align index = true
  · rw [if_pos ha]
    obtain ⟨i1, e1, h1, h2, h3⟩ := blockLoop_spec v blocksEnd hbe (v.length + 1) index (by omega)
    obtain ⟨i2, e2, k1, k2, k3, k4⟩ := asciiTail_spec v (v.length + 1) i1 (h2 (by omega)) (by omega)
    rw [e1, V.bind_ok, e2]
    refine ⟨i2, rfl, ?_, k2, h3.trans h1 k1 k3⟩
    by_cases heq : i1 = index
    · subst heq; exact k4 first hidx hlt
    · omega
  · rw [if_neg ha]
    exact ⟨index + 1, rfl, by omega, by omega, AllAscii.single hidx hlt⟩

theorem valid_take_ascii (v : Bytes) (a c : Nat) (h : AllAscii v a c) (hac : a ≤ c)
    (hv : validUtf8 (v.take a) = true) : validUtf8 (v.take c) = true := by
  rw [take_split v hac]
  exact validUtf8_append _ _ hv (validUtf8_ascii _ h)

theorem valid_up_to_unique (v : Bytes) (n n' : Nat) (hn : n < v.length) (hn' : n' < v.length)
    (h1 : validUtf8 (v.take n) = true) (h2 : charLen (v.drop n) = none)
    (h1' : validUtf8 (v.take n') = true) (h2' : charLen (v.drop n') = none) : n = n' := by
  have key : ∀ (a c : Nat), a < c → c < v.length → validUtf8 (v.take a) = true →
      charLen (v.drop a) = none → validUtf8 (v.take c) = true → False := by
    intro a c hac hc ha hna hvc
    rw [take_split v (Nat.le_of_lt hac), validUtf8_append_left _ _ ha] at hvc
    -- what lies between `a` and `c` is valid and not empty, so a character starts at `a`
    cases hxe : (v.drop a).take (c - a) with
    | nil =>
      rcases List.take_eq_nil_iff.1 hxe with h | h
      · omega
      · have := List.drop_eq_nil_iff.1 h; omega
    | cons b t =>
      rw [hxe] at hvc
      obtain ⟨k, hk⟩ := charLen_of_valid b t hvc
      have := charLen_append _ ((v.drop a).drop (c - a)) k hk
      rw [← hxe, List.take_append_drop, hna] at this
      cases this
  by_cases h : n = n'
  · exact h
  · exfalso
    by_cases hlt : n < n'
    · exact key n n' hlt hn' h1 h2 h1'
    · exact key n' n (by omega) hn h1' h2' h1

/-- what `run_utf8_validation` returns: `Ok(())` when `v` is valid; otherwise an `Err` whose
    `valid_up_to = n` is the offset of the first ill-formed sequence — everything before `n` is
    valid, no character starts at `n` (which determines `n`: `valid_up_to_unique`) — and whose
    `error_len` is the one the `match w` finds there -/
def RunSpec (v : Bytes) (r : V Unit) : Prop :=
  (validUtf8 v = true ∧ r = .ok ()) ∨
  (validUtf8 v = false ∧ ∃ n e, r = .err n e ∧ n < v.length ∧
    validUtf8 (v.take n) = true ∧ charLen (v.drop n) = none ∧
    ∃ first, v[n]? = some first ∧ charStep v v.length n n first = .err n e)

theorem mainLoop_spec (v : Bytes) (blocksEnd align : Nat)
    (hbe : ∀ i, i < blocksEnd → i + 2 * USIZE_BYTES ≤ v.length) : ∀ (fuel index : Nat),
    index ≤ v.length → v.length - index < fuel → validUtf8 (v.take index) = true →
    RunSpec v (mainLoop v v.length (2 * USIZE_BYTES) blocksEnd align fuel index) := by
  intro fuel
  induction fuel with
  | zero => intro index _ h; omega
  | succ fuel ih =>
    intro index hle hfuel hpre
    -- behind a valid prefix, the verdict on the rest is the verdict on the whole
    have hv : validUtf8 v = validUtf8 (v.drop index) := by
      have := validUtf8_append_left _ (v.drop index) hpre
      rwa [List.take_append_drop] at this
    unfold mainLoop
    by_cases hlt : index < v.length
    · rw [if_pos hlt]
      obtain ⟨first, t, hdrop⟩ : ∃ first t, v.drop index = first :: t :=
        ⟨_, _, List.drop_eq_getElem_cons hlt⟩
      have hidx : v[index]? = some first := by
        rw [← Nat.add_zero index, ← List.getElem?_drop, hdrop]; rfl
      have hV : V.index v index = .ok first := by simp [V.index, hidx]
      simp only [hV, V.bind_ok]
      by_cases hge : first ≥ 128
      · rw [if_pos hge]
        have hstep := charStep_spec v t index first hdrop (UInt8.not_lt.2 hge)
        cases hk : charLen (first :: t) with
        | some k =>
          rw [hk] at hstep
          simp only at hstep
          have hb := charLen_bounds _ _ hk
          have hlen : (first :: t).length = v.length - index := by rw [← hdrop, List.length_drop]
          rw [hstep, V.bind_ok]
          have hnext : index + (k - 1) + 1 = index + k := by omega
          rw [hnext]
          have hpre' : validUtf8 (v.take (index + k)) = true := by
            rw [List.take_add, hdrop]
            exact validUtf8_append _ _ hpre (validUtf8_char _ (charLen_take _ _ hk))
          exact ih (index + k) (by omega) (by omega) hpre'
        | none =>
          rw [hk] at hstep
          obtain ⟨e, he⟩ := hstep
          rw [he, V.bind_err]
          refine Or.inr ⟨?_, index, e, rfl, hlt, hpre, by rw [hdrop, hk],
            first, hidx, he⟩
          rw [hv, hdrop]
          cases hval : validUtf8 (first :: t) with
          | false => rfl
          | true =>
            obtain ⟨k, hk'⟩ := charLen_of_valid first t hval
            rw [hk] at hk'; cases hk'
      · rw [if_neg hge]
        have hf : first < 0x80 := UInt8.not_le.1 hge
        obtain ⟨index', he, h1, h2, h3⟩ := asciiStep_spec v blocksEnd align index hbe first hidx hf
        rw [he, V.bind_ok]
        exact ih index' h2 (by omega) (valid_take_ascii v index index' h3 (Nat.le_of_lt h1) hpre)
    · rw [if_neg hlt]
      refine Or.inl ⟨?_, rfl⟩
      rw [hv, List.drop_eq_nil_of_le (by omega)]; rfl

/-- `blocks_end` (validations.rs:133) keeps both words of a block inside the slice -/
theorem blocksEnd_ok (len : Nat) (i : Nat)
    (h : i < (if len ≥ 2 * USIZE_BYTES then len - 2 * USIZE_BYTES + 1 else 0)) :
    i + 2 * USIZE_BYTES ≤ len := by
  by_cases hl : len ≥ 2 * USIZE_BYTES
  · rw [if_pos hl] at h; omega
  · rw [if_neg hl] at h; omega

/-- **`run_utf8_validation`, completely**: for every byte string and every value of `align` it
    returns (no panic — every `v[index]` and every block read is in range —, no fuel runs out)
    `Ok(())` when the string is valid UTF-8 and otherwise an error whose `valid_up_to` is the
    offset of the first ill-formed sequence. -/
theorem runUtf8ValidationLit_spec (v : Bytes) (align : Nat) :
    (validUtf8 v = true ∧ runUtf8ValidationLit v align = .ok ()) ∨
    (validUtf8 v = false ∧ ∃ n e, runUtf8ValidationLit v align = .err n e ∧ n < v.length ∧
      validUtf8 (v.take n) = true ∧ charLen (v.drop n) = none ∧
      ∃ first, v[n]? = some first ∧ charStep v v.length n n first = .err n e) :=
  mainLoop_spec v _ align (blocksEnd_ok v.length) (v.length + 1) 0 (Nat.zero_le _)
    (by omega) (by simp; rfl)

/-- **`run_utf8_validation(v)` is `Ok(())` exactly when `validUtf8 v`** — for EVERY byte string
    and EVERY alignment of the slice -/
theorem runUtf8ValidationLit_ok_iff (v : Bytes) (align : Nat) :
    runUtf8ValidationLit v align = .ok () ↔ validUtf8 v = true := by
  rcases runUtf8ValidationLit_spec v align with ⟨h1, h2⟩ | ⟨h1, n, e, h2, _⟩
  · simp [h1, h2]
  · simp [h1, h2]

/-- it never panics and never runs out of fuel -/
theorem runUtf8ValidationLit_total (v : Bytes) (align : Nat) :
    runUtf8ValidationLit v align ≠ .panic ∧ runUtf8ValidationLit v align ≠ .hang := by
  rcases runUtf8ValidationLit_spec v align with ⟨_, h2⟩ | ⟨_, n, e, h2, _⟩ <;> simp [h2]

/-- **the result — `Ok(())` or the two fields of the `Utf8Error` — does not depend on where the slice
    lies in memory** (nor on whether the fast path is taken at all: `align = usize::MAX`) -/
theorem runUtf8ValidationLit_align (v : Bytes) (align align' : Nat) :
    runUtf8ValidationLit v align = runUtf8ValidationLit v align' := by
  rcases runUtf8ValidationLit_spec v align with ⟨h1, h2⟩ | ⟨h1, n, e, h2, h3, h4, h5, f, h6, h7⟩ <;>
  rcases runUtf8ValidationLit_spec v align' with ⟨k1, k2⟩ | ⟨k1, n', e', k2, k3, k4, k5, f', k6, k7⟩
  · rw [h2, k2]
  · rw [h1] at k1; cases k1
  · rw [h1] at k1; cases k1
  · have hn := valid_up_to_unique v n n' h3 k3 h4 h5 k4 k5
    subst hn
    rw [h6] at k6; cases k6
    rw [h7] at k7; cases k7
    rw [h2, k2]

/-- whether it accepts does not depend on where the slice lies in memory -/
theorem runUtf8ValidationLit_isOk_align (v : Bytes) (align align' : Nat) :
    (runUtf8ValidationLit v align).isOk = (runUtf8ValidationLit v align').isOk := by
  rw [runUtf8ValidationLit_align v align align']

/-- **`std::str::from_utf8(v).is_ok()` is `validUtf8 v`** -/
theorem fromUtf8IsOk_eq (v : Bytes) (align : Nat) : fromUtf8IsOk v align = validUtf8 v := by
  unfold fromUtf8IsOk fromUtf8Lit
  rcases runUtf8ValidationLit_spec v align with ⟨h1, h2⟩ | ⟨h1, n, e, h2, _⟩
  · rw [h2, h1]; rfl
  · rw [h2, h1]; rfl

theorem fromUtf8Lit_ok (v : Bytes) (align : Nat) (h : validUtf8 v = true) :
    fromUtf8Lit v align = .ok v := by
  unfold fromUtf8Lit
  rw [(runUtf8ValidationLit_ok_iff v align).2 h]

/-- **cut_str.rs:253 over the library text is what the model says** — no hypothesis: the
    `from_utf8(..)?` in front of `serde_json::to_string` is what makes its argument a `str` -/
theorem writeAsJsonLit_eq (toPrint : Bytes) (align : Nat) :
    writeAsJsonLit toPrint align =
      if validUtf8 toPrint then Run.ok (jsonString toPrint) else Run.fail := by
  unfold writeAsJsonLit
  cases h : validUtf8 toPrint with
  | true => simp [fromUtf8Lit_ok toPrint align h, toStringLit_eq toPrint h, writeAll]
  | false =>
    unfold fromUtf8Lit
    rcases runUtf8ValidationLit_spec toPrint align with ⟨h1, _⟩ | ⟨_, n, e, h2, _⟩
    · rw [h] at h1; cases h1
    · simp [h2]

section Examples

/-- `a"\` U+0001 LF `é😎` -/
def sample : Bytes := [0x61, 0x22, 0x5C, 0x01, 0x0A, 0xC3, 0xA9, 0xF0, 0x9F, 0x98, 0x8E]

/-- `formatEscapedStrLit_eq` at a string with `\"`, `\\`, a `\u00XX` escape, `\n` (no `\b \t \f \r`:
    those are in the `#guard`s below) and 2- and 4-byte characters:
    the text written is `"a\"\\\u0001\né😎"` -/
example : formatEscapedStrLit sample = Run.ok
    [0x22, 0x61, 0x5C, 0x22, 0x5C, 0x5C, 0x5C, 0x75, 0x30, 0x30, 0x30, 0x31, 0x5C, 0x6E,
     0xC3, 0xA9, 0xF0, 0x9F, 0x98, 0x8E, 0x22] :=
  formatEscapedStrLit_eq sample (by decide)

example : toStringLit sample = .ok (jsonString sample) := toStringLit_eq sample (by decide)

/-- THE HYPOTHESIS `validUtf8 s` OF `formatEscapedStrLit_eq` CANNOT BE DROPPED: on LF followed by a
    stray continuation byte the literal takes `&value[1..]` off a char boundary and panics, while
    `jsonString` is defined on every byte string.  (No `&str` holds these bytes.) -/
example : validUtf8 [0x0A, 0x80] = false ∧ escSafe [0x0A, 0x80] = false ∧
    (formatEscapedStrLit [0x0A, 0x80]).status = .panic ∧
    formatEscapedStrLit [0x0A, 0x80] ≠ Run.ok (jsonString [0x0A, 0x80]) := by
  refine ⟨by decide, by decide, formatEscapedStrLit_panics _ (by decide), ?_⟩
  intro h
  have := formatEscapedStrLit_panics [0x0A, 0x80] (by decide)
  rw [h] at this; cases this

/-- it is sufficient, not necessary: a lone continuation byte is not UTF-8 and is passed through
    (it is `escSafe`, which is what the proof uses) -/
example : validUtf8 [0x80] = false ∧ formatEscapedStrLit [0x80] = Run.ok (jsonString [0x80]) :=
  ⟨by decide, formatEscapedStrLit_of_escSafe _ (by decide)⟩

/-- `runUtf8ValidationLit_ok_iff`, both directions: at `aé€😎` followed by 20 ASCII bytes (the
    block loop runs when `align = 2`), and at `aé`, a surrogate (`ED A0 80`, refused at offset 3,
    before any block is read) and the 20 ASCII bytes -/
example : runUtf8ValidationLit ([0x61,0xC3,0xA9,0xE2,0x82,0xAC,0xF0,0x9F,0x98,0x8E] ++
    List.replicate 20 0x61) 2 = .ok () :=
  (runUtf8ValidationLit_ok_iff _ 2).2 (by decide)

example : runUtf8ValidationLit ([0x61,0xC3,0xA9,0xED,0xA0,0x80] ++ List.replicate 20 0x61) 2 ≠ .ok () :=
  fun h => absurd ((runUtf8ValidationLit_ok_iff _ 2).1 h) (by decide)

#guard formatEscapedStrLit sample == Run.ok
    [0x22, 0x61, 0x5C, 0x22, 0x5C, 0x5C, 0x5C, 0x75, 0x30, 0x30, 0x30, 0x31, 0x5C, 0x6E,
     0xC3, 0xA9, 0xF0, 0x9F, 0x98, 0x8E, 0x22]
#guard toStringLit sample == .ok (jsonString sample)
#guard formatEscapedStrLit [] == Run.ok [0x22, 0x22]
-- `/` is not escaped (`CharEscape::Solidus` is never produced), DEL is not escaped
#guard formatEscapedStrLit [0x2F, 0x7F] == Run.ok [0x22, 0x2F, 0x7F, 0x22]

def upTo {α : Type} (alphabet : List (List α)) : Nat → List (List α)
  | 0 => [[]]
  | n + 1 => upTo alphabet n ++ (upTo alphabet n).flatMap fun s => alphabet.map fun c => s ++ c

#guard (List.range 128).all fun n =>
  formatEscapedStrLit [UInt8.ofNat n] == Run.ok (jsonString [UInt8.ofNat n])
-- every `str` of at most 3 characters over: a " \ BS TAB LF FF CR NUL U+001F DEL space / é € 😎
#guard (upTo [[0x61], [0x22], [0x5C], [0x08], [0x09], [0x0A], [0x0C], [0x0D], [0x00], [0x1F], [0x7F],
    [0x20], [0x2F], [0xC3, 0xA9], [0xE2, 0x82, 0xAC], [0xF0, 0x9F, 0x98, 0x8E]] 3).all fun s =>
  validUtf8 s && formatEscapedStrLit s == Run.ok (jsonString s) && toStringLit s == .ok (jsonString s)
-- arbitrary bytes (not `str`s): the literal is `jsonString` or a panic, as `escSafe` says
#guard (upTo [[0x61], [0x22], [0x0A], [0x01], [0x80], [0xBF], [0xC3], [0xE2], [0xFF]] 4).all fun s =>
  if escSafe s then formatEscapedStrLit s == Run.ok (jsonString s)
  else (formatEscapedStrLit s).status == .panic
#guard (formatEscapedStrLit [0x0A, 0x80]).status == .panic
#guard (formatEscapedStrLit [0x61, 0x0A, 0x80, 0x0A]) == ⟨[0x22, 0x61, 0x5C, 0x6E], .panic⟩

/-- the values of `align` tried below: every residue, a large one, `usize::MAX` -/
def aligns : List Nat := [0, 1, 2, 3, 4, 5, 6, 7, 8, 4096, usizeMax]

-- overlong forms, surrogates, values above U+10FFFF, truncation, stray continuation bytes, with
-- the `Utf8Error` that std documents (`valid_up_to`, `error_len`)
#guard aligns.all fun a => runUtf8ValidationLit [0xC0, 0x80] a == .err 0 (some 1)
#guard aligns.all fun a => runUtf8ValidationLit [0x61, 0xC1, 0xBF] a == .err 1 (some 1)
#guard aligns.all fun a => runUtf8ValidationLit [0xE0, 0x9F, 0xBF] a == .err 0 (some 1)
#guard aligns.all fun a => runUtf8ValidationLit [0xED, 0xA0, 0x80] a == .err 0 (some 1)
#guard aligns.all fun a => runUtf8ValidationLit [0xF0, 0x8F, 0xBF, 0xBF] a == .err 0 (some 1)
#guard aligns.all fun a => runUtf8ValidationLit [0xF4, 0x90, 0x80, 0x80] a == .err 0 (some 1)
#guard aligns.all fun a => runUtf8ValidationLit [0xF5, 0x80, 0x80, 0x80] a == .err 0 (some 1)
#guard aligns.all fun a => runUtf8ValidationLit [0x61, 0x80] a == .err 1 (some 1)
#guard aligns.all fun a => runUtf8ValidationLit [0x61, 0xE2, 0x82] a == .err 1 none
#guard aligns.all fun a => runUtf8ValidationLit [0xE2, 0x82, 0x41] a == .err 0 (some 2)
#guard aligns.all fun a => runUtf8ValidationLit [0xF0, 0x9F, 0x98] a == .err 0 none
#guard aligns.all fun a => runUtf8ValidationLit [0xF0, 0x9F, 0x98, 0x41] a == .err 0 (some 3)
#guard aligns.all fun a => runUtf8ValidationLit [0xF0, 0x9F, 0x41, 0x41] a == .err 0 (some 2)
#guard aligns.all fun a =>
  runUtf8ValidationLit [0xC2, 0x80, 0xDF, 0xBF, 0xE0, 0xA0, 0x80, 0xED, 0x9F, 0xBF, 0xEE, 0x80, 0x80,
    0xEF, 0xBF, 0xBF, 0xF0, 0x90, 0x80, 0x80, 0xF4, 0x8F, 0xBF, 0xBF, 0x00, 0x7F] a == .ok ()
#guard (upTo [[0x00], [0x7F], [0x80], [0x8F], [0x90], [0x9F], [0xA0], [0xBF], [0xC0], [0xC1], [0xC2],
    [0xDF], [0xE0], [0xE1], [0xEC], [0xED], [0xEE], [0xEF], [0xF0], [0xF1], [0xF3], [0xF4], [0xF5],
    [0xFF]] 3).all fun v =>
  [0, 3, usizeMax].all fun a =>
    (runUtf8ValidationLit v a == .ok ()) == validUtf8 v && fromUtf8IsOk v a == validUtf8 v
#guard ([0xF0, 0xF1, 0xF3, 0xF4, 0xF5].flatMap fun b0 => [0x7F, 0x80, 0x8F, 0x90, 0xBF, 0xC0].flatMap fun b1 =>
    [0x7F, 0x80, 0xBF, 0xC0].flatMap fun b2 => [0x7F, 0x80, 0xBF, 0xC0].map fun b3 => [b0, b1, b2, b3]).all
  fun v => (runUtf8ValidationLit v 0 == .ok ()) == validUtf8 v
-- the block loop: 0..40 ASCII bytes with a 2-byte character, a stray byte or nothing put in at
-- every offset, for every alignment — same verdict as the model, same result as the slow path
#guard (List.range 41).all fun n => (List.range (n + 1)).all fun p =>
  [[], [0xC3, 0xA9], [0x80], [0xE2, 0x82]].all fun ins =>
    let v := List.replicate p 0x61 ++ ins ++ List.replicate (n - p) 0x62
    aligns.all fun a =>
      (runUtf8ValidationLit v a == .ok ()) == validUtf8 v &&
      runUtf8ValidationLit v a == runUtf8ValidationLit v usizeMax
-- the fast path is really taken: with `align = 0` the index jumps from 0 over two blocks
#guard blockLoop (List.replicate 40 0x61) 25 16 41 0 == .ok 32
#guard blockLoop (List.replicate 20 0x61 ++ [0xC3, 0xA9] ++ List.replicate 18 0x61) 25 16 41 0 == .ok 16
#guard fastPathAligned 0 0 && fastPathAligned 3 11 && !fastPathAligned 3 12 && !fastPathAligned usizeMax 7
  && fastPathAligned 3 19
#guard writeAsJsonLit sample 5 == Run.ok (jsonString sample)
#guard writeAsJsonLit [0x61, 0xFF] 5 == Run.fail

end Examples

end LibLit
end Tuc
