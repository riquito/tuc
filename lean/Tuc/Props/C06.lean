import Tuc.Lemmas.Lines
import Tuc.Lemmas.Total
/-!
# C06 — byte mode is exact and binary-safe

`cutBytesLoop_eq_spec`: on a non-empty input `cutBytesLoop` equals the specification `emit` over the
tokenisation "every byte is a part, separators are empty" (`bytesTok`), for every bounds list with non-zero
indexes.  `readAndCutBytes_eq_spec`: hence `read_and_cut_bytes` is `specBytes` on every input, the
empty one included.  In particular nothing is appended (no EOL), no byte value is special (the
statements are about arbitrary `List UInt8`), an empty input yields an empty output
(`bytes_empty`), and the engine never panics when no bound has the left index 0
(`cutBytesLoop_no_panic`).
-/
namespace Tuc
open Tuc.Spec

/-- an empty input yields an empty output, whatever the bounds -/
theorem bytes_empty (o : Opt) : readAndCutBytes o [] = Run.empty := rfl

/-- byte mode never panics when no bound has the left index 0: the slice indexes come from a
    resolved range -/
theorem cutBytesLoop_no_panic (data : Bytes) (o : Opt) (l : List BoF)
    (hz : ∀ b ∈ boundsOnly l, b.l ≠ .some 0) :
    (cutBytesLoop data o l).status ≠ .panic :=
  (cutBytesLoop_safe data o l fun b hb => hz b (mem_boundsOnly_iff.2 hb)).ne_panic

theorem joinWith_nil_singletons (xs : Bytes) : joinWith [] (xs.map fun x => [x]) = xs := by
  have h : ∀ t : Bytes, (t.map fun x => [x]).flatMap (fun g => [] ++ g) = t := by
    intro t
    induction t with
    | nil => rfl
    | cons y t ih => exact congrArg (y :: ·) ih
  cases xs with
  | nil => rfl
  | cons x t => exact (joinWith_cons ..).trans (congrArg (x :: ·) (h t))

/-- the bytes of the input as tokens (`-b`): every byte is a part, the separators are empty -/
def bytesTok (data : Bytes) : Tok :=
  (tokOfParts 0 (data.map fun b => [b])).getD ⟨[], []⟩

theorem specBytes_eq_emit (cfg : Cfg) (data : Bytes) (hne : data ≠ []) :
    specBytes cfg data =
        emit { cfg with json := false, join := false } (bytesTok data) (fun _ => []) [] cfg.bofs ∧
      (bytesTok data).numFields = data.length := by
  cases data with
  | nil => exact absurd rfl hne
  | cons c cs =>
    refine ⟨rfl, ?_⟩
    show ((cs.map fun b => [b]).map fun x => (0, x)).length + 1 = cs.length + 1
    rw [List.length_map, List.length_map]

theorem pieceText_bytes (b0 : UInt8) (t : Bytes) (lo hi : Nat) (h1 : 1 ≤ lo) (h2 : lo ≤ hi) :
    pieceText (fun _ => []) (bytesTok (b0 :: t)) lo hi = slice (b0 :: t) (lo - 1) hi := by
  have := pieceText_uniform (fun _ => []) 0 [b0] (t.map fun x => [x]) lo hi h1 h2
  rw [← List.map_cons (f := fun x => [x]), slice_map, joinWith_nil_singletons] at this
  exact this

/-- **byte mode = its specification**, for every non-empty input and every bounds list with
    non-zero indexes (`cfg` is any specification request without `--json`/join and with the same
    generic fallback) -/
theorem cutBytesLoop_eq_spec (data : Bytes) (hne : data ≠ []) (o : Opt)
    (cfg : Cfg) (hjson : cfg.json = false) (hjoin : cfg.join = false) (hfb : cfg.fallback = o.fallbackOob)
    (l : List BoF) (hz : ∀ b ∈ boundsOnly l, b.Nonzero) :
    cutBytesLoop data o l = emit cfg (bytesTok data) (fun _ => []) [] l := by
  have hn := (specBytes_eq_emit cfg data hne).2
  obtain ⟨b0, t, rfl⟩ := List.exists_cons_of_ne_nil hne
  induction l with
  | nil => rfl
  | cons x rest ih =>
    cases x with
    | filler f => exact congrArg (Run.pre f) (ih hz)
    | bound b =>
      have ihr := ih fun b' hb' => hz b' (List.mem_cons_of_mem _ hb')
      have hzb : b.Nonzero := hz b (List.mem_cons_self ..)
      simp only [cutBytesLoop, emit, hn, hjson, hjoin, hfb, Bool.false_and, Bool.false_eq_true,
        if_false, List.append_nil]
      rw [tryIntoRange_eq_resolve b _ hzb]
      cases hres : resolve b (b0 :: t).length with
      | none =>
        simp only [Option.map_none]
        cases b.fallback with
        | some f => simp only [ihr]
        | none =>
          cases o.fallbackOob with
          | some f => simp only [ihr]
          | none => rfl
      | some p =>
        -- the slice indexes of the code are in range, and the slice is the specification's piece
        obtain ⟨_, hr, hle, h1⟩ := resolve_eq_some.1 hres
        have hhi := (resolveSide_bounds hr).2 (Nat.le_refl _)
        have hc : p.1 - 1 ≤ p.2 ∧ p.2 ≤ (b0 :: t).length := ⟨Nat.le_trans (Nat.sub_le ..) hle, hhi⟩
        simp only [Option.map_some, hc, and_self, if_true, pieceText_bytes b0 t p.1 p.2 h1 hle, ihr]

/-- **C06**: `read_and_cut_bytes` is `specBytes` (output and status) on every input, the empty one
    included, for every bounds list with non-zero indexes -/
theorem readAndCutBytes_eq_spec (o : Opt) (data : Bytes)
    (hz : ∀ b ∈ boundsOnly o.bounds.list, b.Nonzero) :
    readAndCutBytes o data = specBytes (cfgOf o) data := by
  by_cases he : data = []
  · subst he; rfl
  · rw [(specBytes_eq_emit _ _ he).1, readAndCutBytes, if_neg (by simpa using he)]
    exact cutBytesLoop_eq_spec data he o _ rfl rfl rfl _ hz

/-- non-vacuity: bytes 00 0A FF 61, bounds `-1,x,2:3` -/
example : readAndCutBytes
    { delimiter := [], bounds := ⟨[.bound { l := .some (-1), r := .some (-1) }, .filler [0x78],
        .bound { l := .some 2, r := .some 3, isLast := true }], .cont⟩, boundsType := .bytes }
    [0x00, 0x0A, 0xFF, 0x61] = Run.ok [0x61, 0x78, 0x0A, 0xFF] := by decide +kernel

end Tuc
