import Tuc.Model.Args
import Tuc.Lemmas.Total
import Tuc.Props.C10Stream
import Tuc.Lemmas.Grammar
/-!
# C04 — `-M` output does not depend on how the input is chunked

The chunk loop is the machine `streamStep` over bytes tagged with "last byte of its chunk".
Chunk independence = the run does not depend on the tags.  The heart of the argument is that
printing a field piece by piece (`print_bof … field_complete = false` once per chunk, then the
completing call) writes the same bytes and leaves the same pending bound as printing it at once
(`printBof_split`).  That is false for a bounds list with two adjacent literal texts (`print_bof`
consumes at most one filler per call; see the counter-example `c04AdjOpt` below), so it is proved
under `NoAdjFillers`, which the bounds parser guarantees (`boundsListOfString_noAdj`).

The canonical run is the one where no byte is tagged (`untag`): the whole record stays pending and
is written by the delimiter / EOL / EOF that ends the field.  A run over an arbitrary tagging is, at
every moment, in one of three relations with it (`streamRun_sim`, `streamRun_doomed`): same state
and same output so far; or the tagged run has already written a non-empty prefix of the pending
piece and is that much ahead, `printBof_split` showing that the next call catches up; or the tagged
run has panicked in `print_bof` and the canonical run is about to make the very same call.
-/
namespace Tuc

/-- no two fillers in a row (what the `-f` parser produces has this form:
    `boundsListOfString_noAdj`) -/
def NoAdjFillers : List BoF → Prop
  | .filler _ :: .filler g :: t => False ∧ NoAdjFillers (.filler g :: t)
  | _ :: t => NoAdjFillers t
  | [] => True

theorem noAdj_tail {a : BoF} {t : List BoF} (h : NoAdjFillers (a :: t)) : NoAdjFillers t := by
  cases a with
  | bound _ => exact h
  | filler _ =>
    cases t with
    | nil => trivial
    | cons b t' =>
      cases b with
      | bound _ => exact h
      | filler _ => exact h.2

theorem noAdj_get (l : List BoF) (h : NoAdjFillers l) (i : Nat) (f g : Bytes)
    (h0 : l[i]? = some (.filler f)) (h1 : l[i + 1]? = some (.filler g)) : False := by
  induction l generalizing i with
  | nil => simp at h0
  | cons a t ih =>
    cases i with
    | zero =>
      cases t with
      | nil => cases h1
      | cons b t' =>
        cases h0
        cases h1
        exact h.1
    | succ k =>
      exact ih (noAdj_tail h) k h0 h1

def BoF.isFiller : BoF → Bool
  | .filler _ => true
  | .bound _ => false

theorem noAdj_cons_cons (a b : BoF) (t : List BoF) :
    NoAdjFillers (a :: b :: t) ↔
      (a.isFiller = false ∨ b.isFiller = false) ∧ NoAdjFillers (b :: t) := by
  cases a with
  | bound _ => exact ⟨fun h => ⟨Or.inl rfl, h⟩, fun h => h.2⟩
  | filler _ =>
    cases b with
    | bound _ => exact ⟨fun h => ⟨Or.inr rfl, h⟩, fun h => h.2⟩
    | filler _ => exact ⟨fun h => h.1.elim, fun h => h.1.elim nofun nofun⟩

theorem markLast_noAdj {l l' : List BoF} (h : markLast l = some l') (hl : NoAdjFillers l) :
    NoAdjFillers l' := by
  obtain ⟨a, b, f, rfl, _, rfl⟩ := markLast_eq_some h
  clear h
  induction a with
  | nil => exact hl
  | cons x t ih =>
    cases t with
    | nil =>
      rw [List.cons_append, List.nil_append, noAdj_cons_cons] at hl ⊢
      exact ⟨hl.1, ih hl.2⟩
    | cons y t' =>
      rw [List.cons_append, List.cons_append, noAdj_cons_cons] at hl ⊢
      exact ⟨hl.1, ih hl.2⟩

theorem noAdjFillers_of_noAdj : ∀ l : List BoF, NoAdj l → NoAdjFillers l
  | [], _ => trivial
  | .bound _ :: t, h => noAdjFillers_of_noAdj t h
  | [.filler _], _ => trivial
  | .filler _ :: .bound _ :: t, h => noAdjFillers_of_noAdj t h.2
  | .filler _ :: .filler _ :: _, h => h.1.elim

theorem parseBoundsList_noAdj (s : List Char) (l : List BoF) (h : parseBoundsList s = some l) :
    NoAdjFillers l := noAdjFillers_of_noAdj l (parse_noAdjFillers s l h)

theorem boundsListOfString_noAdj (s : List Char) (l : UserBoundsList)
    (h : boundsListOfString s = .ok l) : NoAdjFillers l.list := by
  obtain ⟨l0, hl0, hfv⟩ := parsed_fromVec s l h
  exact markLast_noAdj (fromVec_ok hfv).1 (parseBoundsList_noAdj s l0 hl0)

theorem streamOptOf_noAdj (o : Opt) (so : StreamOpt) (h : streamOptOf o = some so)
    (hb : NoAdjFillers o.bounds.list) : NoAdjFillers so.bounds :=
  markLast_noAdj (forwardBoundsOf_facts _ _ (streamOptOf_facts o so h).bounds).marked hb

/-- **A field printed in two pieces**: `p₁` as an unfinished piece at the end of a chunk, then `p₂`,
    unfinished again or completing the field (`p₂` may be empty: the field ended exactly at the
    chunk end).  Never a panic; together the bytes and the `bof_idx` of one call on `p₁ ++ p₂`. -/
theorem printBof_split (o : StreamOpt) (hwf : NoAdjFillers o.bounds) (bofIdx : Nat) (curr : Int)
    (trunc : Bool) (p₁ p₂ : Bytes) (fc : Bool) (w₁ : Bytes) (i₁ : Nat)
    (h₁ : printBof o bofIdx curr trunc p₁ false = some (w₁, i₁)) :
    ∃ w₂ i₂, printBof o i₁ curr true p₂ fc = some (w₂, i₂) ∧
      printBof o bofIdx curr trunc (p₁ ++ p₂) fc = some (w₁ ++ w₂, i₂) := by
  have direct : ∀ i w₁ i₁, (∀ f, o.bounds[i]? ≠ some (.filler f)) →
      printBof o i curr trunc p₁ false = some (w₁, i₁) →
      ∃ w₂ i₂, printBof o i₁ curr true p₂ fc = some (w₂, i₂) ∧
        printBof o i curr trunc (p₁ ++ p₂) fc = some (w₁ ++ w₂, i₂) := by
    intro i w₁ i₁ hnf h₁
    cases h0 : o.bounds[i]? with
    | none =>
      rw [printBof_of_none h0] at h₁
      cases h₁
      exact ⟨[], i, printBof_of_none h0 .., printBof_of_none h0 ..⟩
    | some x =>
      cases x with
      | filler f => exact absurd h0 (hnf f)
      | bound b =>
        cases hm : b.matches curr with
        | none => rw [printBof_bound_none h0 hm] at h₁; cases h₁
        | some m =>
          cases m with
          | false =>
            rw [printBof_bound_false h0 hm] at h₁
            cases h₁
            exact ⟨[], i, printBof_bound_false h0 hm .., printBof_bound_false h0 hm ..⟩
          | true =>
            -- `trunc = true` suppresses the delimiter in front of the second piece
            rw [printBof_of_bound h0, hm] at h₁
            simp only [Bool.false_and, Bool.false_eq_true, if_false, Option.some.injEq,
              Prod.mk.injEq] at h₁
            obtain ⟨rfl, rfl⟩ := h₁
            rw [printBof_of_bound h0, printBof_of_bound h0, hm]
            cases (fc && decide (b.r = .some curr)) <;> simp [List.append_assoc]
  cases h0 : o.bounds[bofIdx]? with
  | none => exact direct bofIdx w₁ i₁ (by simp [h0]) h₁
  | some x =>
    cases x with
    | bound b => exact direct bofIdx w₁ i₁ (by simp [h0]) h₁
    | filler f =>
      -- the filler goes out with the first piece; what follows it is not a filler
      have hn : ∀ g, o.bounds[bofIdx + 1]? ≠ some (.filler g) :=
        fun g hg => noAdj_get _ hwf _ f g h0 hg
      rw [printBof_of_filler h0 hn, Option.map_eq_some_iff] at h₁
      obtain ⟨⟨w, j⟩, hw, he⟩ := h₁
      cases he
      obtain ⟨w₂, i₂, h2, h3⟩ := direct (bofIdx + 1) w j hn hw
      exact ⟨w₂, i₂, h2, by rw [printBof_of_filler h0 hn, h3, Option.map_some, List.append_assoc]⟩

/-- a field that spans several chunks: `print_bof` on the unfinished piece `p₁ ++ p₂` writes what
    it wrote for `p₁`, then what it writes for `p₂` once `prev_chunk_may_be_truncated` is set, and
    returns the same `bof_idx` -/
theorem printBof_append (o : StreamOpt) (hwf : NoAdjFillers o.bounds) (bofIdx : Nat) (curr : Int)
    (trunc : Bool) (p₁ p₂ : Bytes) (w₁ : Bytes) (i₁ : Nat)
    (h₁ : printBof o bofIdx curr trunc p₁ false = some (w₁, i₁)) :
    printBof o bofIdx curr trunc (p₁ ++ p₂) false =
      (printBof o i₁ curr true p₂ false).map fun (w₂, i₂) => (w₁ ++ w₂, i₂) := by
  obtain ⟨w₂, i₂, h2, h3⟩ := printBof_split o hwf bofIdx curr trunc p₁ p₂ false w₁ i₁ h₁
  rw [h2, h3]; rfl

/-- the companion for the completing call (delimiter or EOL found) -/
theorem printBof_complete_append (o : StreamOpt) (hwf : NoAdjFillers o.bounds) (bofIdx : Nat)
    (curr : Int) (trunc : Bool) (p₁ p₂ : Bytes) (w₁ : Bytes) (i₁ : Nat)
    (h₁ : printBof o bofIdx curr trunc p₁ false = some (w₁, i₁)) :
    printBof o bofIdx curr trunc (p₁ ++ p₂) true =
      (printBof o i₁ curr true p₂ true).map fun (w₂, i₂) => (w₁ ++ w₂, i₂) := by
  obtain ⟨w₂, i₂, h2, h3⟩ := printBof_split o hwf bofIdx curr trunc p₁ p₂ true w₁ i₁ h₁
  rw [h2, h3]; rfl

theorem streamStep_tag_irrel (o : StreamOpt) (st : SState) (c : UInt8) (t t' : Bool)
    (h : st.skip = true ∨ c = o.eol.byte ∨ c = o.delimiter) :
    streamStep o st c t = streamStep o st c t' := by
  by_cases hs : st.skip = true
  · rw [streamStep_skip _ _ _ _ hs, streamStep_skip _ _ _ _ hs]
  · have hs' : st.skip = false := by simpa using hs
    by_cases hc : c = o.eol.byte
    · rw [streamStep_eol _ _ _ _ hs' hc, streamStep_eol _ _ _ _ hs' hc]
    · have hd : c = o.delimiter := by
        rcases h with h | h | h
        · exact absurd h hs
        · exact absurd h hc
        · exact h
      cases hp : printBof o st.bofIdx st.currField st.trunc st.piece true with
      | none => rw [streamStep_delim_none _ _ _ _ hs' hc hd hp, streamStep_delim_none _ _ _ _ hs' hc hd hp]
      | some x =>
        rw [streamStep_delim_some _ _ _ _ hs' hc hd x.1 x.2 hp, streamStep_delim_some _ _ _ _ hs' hc hd x.1 x.2 hp]

/-- the third relation of the header -/
theorem streamRun_doomed (o : StreamOpt) (l : List (UInt8 × Bool)) : ∀ st : SState,
    st.skip = false → st.started = true → st.piece ≠ [] →
    (∀ tr p fc, printBof o st.bofIdx st.currField tr p fc = none) →
    streamRun o st l = Run.panic := by
  induction l with
  | nil =>
    intro st hs hst hp hn
    have hp' : st.piece.isEmpty = false := by simpa using hp
    simp [streamRun, streamEof, hs, hst, hp', hn]
  | cons x l ih =>
    obtain ⟨c, t⟩ := x
    intro st hs hst hp hn
    rw [streamRun_cons]
    by_cases hc : c = o.eol.byte
    · have hp' : st.piece.isEmpty = false := by simpa using hp
      rw [streamStep_eol o st c t hs hc]
      simp [hp', endOfRecord, hn, Run.panic_seq]
    · by_cases hd : c = o.delimiter
      · rw [streamStep_delim_none o st c t hs hc hd (hn ..), Run.panic_seq]
      · cases t with
        | true => rw [streamStep_ord_true_none o st c hs hc hd (hn ..), Run.panic_seq]
        | false =>
          rw [streamStep_ord_false o st c hs hc hd, Run.empty_seq]
          exact ih _ hs rfl (by simp) hn

/-- forget the read segmentation: no byte ends a chunk -/
def untag (l : List (UInt8 × Bool)) : List (UInt8 × Bool) := l.map fun x => (x.1, false)

@[simp] theorem untag_nil : untag [] = [] := rfl
@[simp] theorem untag_cons (c : UInt8) (t : Bool) (l : List (UInt8 × Bool)) :
    untag ((c, t) :: l) = (c, false) :: untag l := rfl

theorem endOfRecord_flushed (o : StreamOpt) (hwf : NoAdjFillers o.bounds) (b : Nat) (curr : Int)
    (tr : Bool) (p₁ p₂ w : Bytes) (i₁ : Nat) (sk sd : Bool)
    (h₁ : printBof o b curr tr p₁ false = some (w, i₁)) :
    endOfRecord o { bofIdx := b, currField := curr, trunc := tr, piece := p₁ ++ p₂, skip := sk, started := sd } =
      Run.pre w
        (endOfRecord o { bofIdx := i₁, currField := curr, trunc := true, piece := p₂, skip := sk, started := sd }) := by
  obtain ⟨w₂, i₂, h2, h3⟩ := printBof_split o hwf b curr tr p₁ p₂ true w i₁ h₁
  simp only [endOfRecord, h2, h3]
  rw [Run.seq_ok, Run.seq_ok, Run.pre_pre]

theorem streamEof_started (o : StreamOpt) (hwf : NoAdjFillers o.bounds) (st : SState)
    (hs : st.skip = false) (hst : st.started = true) : streamEof o st = endOfRecord o st := by
  obtain ⟨b, curr, tr, p, sk, sd⟩ := st
  cases hs
  cases hst
  cases p with
  | nil => rfl
  | cons x xs =>
    simp only [streamEof, Bool.not_true, Bool.false_eq_true, if_false, List.isEmpty_cons]
    cases hp : printBof o b curr tr (x :: xs) false with
    | none => simp only [endOfRecord, printBof_none_indep o b curr tr tr (x :: xs) (x :: xs) false true hp]
    | some y =>
      obtain ⟨w, i⟩ := y
      have := endOfRecord_flushed o hwf b curr tr (x :: xs) [] w i false true hp
      rw [List.append_nil] at this
      rw [this]
      exact Run.seq_ok w _

/-- **Simulation.**  By induction on the tagged input, simultaneously: (1) from equal states the
    canonical (untagged) run equals the tagged run; (2) from a state where the tagged run has
    already flushed the non-empty prefix `p₁` of the pending piece, writing `w`, the canonical run
    equals `w` followed by the tagged run.  (In the proof a state is the tuple
    `⟨bofIdx, currField, trunc, piece, skip, started⟩`.) -/
theorem streamRun_sim (o : StreamOpt) (hwf : NoAdjFillers o.bounds) (l : List (UInt8 × Bool)) :
    (∀ st : SState, streamRun o st (untag l) = streamRun o st l) ∧
    (∀ (b : Nat) (curr : Int) (tr : Bool) (p₁ p₂ w : Bytes) (i₁ : Nat), p₁ ≠ [] →
      printBof o b curr tr p₁ false = some (w, i₁) →
      streamRun o { bofIdx := b, currField := curr, trunc := tr, piece := p₁ ++ p₂, started := true } (untag l) =
        Run.pre w
          (streamRun o { bofIdx := i₁, currField := curr, trunc := true, piece := p₂, started := true } l)) := by
  induction l with
  | nil =>
    refine ⟨fun _ => rfl, ?_⟩
    intro b curr tr p₁ p₂ w i₁ _ h₁
    show streamEof o _ = Run.pre w (streamEof o _)
    rw [streamEof_started o hwf _ rfl rfl, streamEof_started o hwf _ rfl rfl,
      endOfRecord_flushed o hwf b curr tr p₁ p₂ w i₁ false true h₁]
  | cons x l ih =>
    obtain ⟨c, t⟩ := x
    obtain ⟨ih1, ih2⟩ := ih
    constructor
    · intro st
      rw [untag_cons, streamRun_cons, streamRun_cons]
      by_cases h : st.skip = true ∨ c = o.eol.byte ∨ c = o.delimiter
      · rw [streamStep_tag_irrel o st c false t h, ih1]
      · have hs : st.skip = false := by
          cases hsk : st.skip with
          | false => rfl
          | true => exact absurd (Or.inl hsk) h
        have hc : c ≠ o.eol.byte := fun hc => h (Or.inr (Or.inl hc))
        have hd : c ≠ o.delimiter := fun hd => h (Or.inr (Or.inr hd))
        cases t with
        | false => rw [ih1]
        | true =>
          -- the canonical run keeps the byte pending, the tagged run flushes the piece
          rw [streamStep_ord_false o st c hs hc hd, Run.empty_seq]
          cases hp : printBof o st.bofIdx st.currField st.trunc (st.piece ++ [c]) false with
          | none =>
            rw [streamStep_ord_true_none o st c hs hc hd hp, Run.panic_seq]
            exact streamRun_doomed o _ _ hs rfl (by simp) fun tr p fc =>
              printBof_none_indep o _ _ st.trunc tr (st.piece ++ [c]) p false fc hp
          | some x =>
            rw [streamStep_ord_true_some o st c hs hc hd x.1 x.2 hp, Run.seq_ok]
            obtain ⟨b, curr, tr, p, sk, sd⟩ := st
            cases hs
            have := ih2 b curr tr (p ++ [c]) [] x.1 x.2 (by simp) hp
            rw [List.append_nil] at this
            exact this
    · intro b curr tr p₁ p₂ w i₁ hne h₁
      rw [untag_cons, streamRun_cons, streamRun_cons]
      by_cases hc : c = o.eol.byte
      · have hp : (p₁ ++ p₂).isEmpty = false := by simp [hne]
        rw [streamStep_eol o ⟨b, curr, tr, p₁ ++ p₂, false, true⟩ c false rfl hc,
          streamStep_eol o ⟨i₁, curr, true, p₂, false, true⟩ c t rfl hc]
        simp only [hp, Bool.not_true, Bool.false_eq_true, and_false, false_and, if_false]
        rw [endOfRecord_flushed o hwf b curr tr p₁ p₂ w i₁ false true h₁, Run.pre_seq, ih1]
      · by_cases hd : c = o.delimiter
        · obtain ⟨w₂, i₂, h2, h3⟩ := printBof_split o hwf b curr tr p₁ p₂ true w i₁ h₁
          rw [streamStep_delim_some o ⟨b, curr, tr, p₁ ++ p₂, false, true⟩ c false rfl hc hd (w ++ w₂) i₂ h3,
            streamStep_delim_some o ⟨i₁, curr, true, p₂, false, true⟩ c t rfl hc hd w₂ i₂ h2]
          by_cases hl : Side.some curr = o.lastInterestingField
          · rw [if_pos hl, if_pos hl, ih1, Run.seq_ok, Run.seq_ok, Run.pre_seq, Run.pre_seq, Run.pre_pre]
          · rw [if_neg hl, if_neg hl, ih1, Run.seq_ok, Run.seq_ok, Run.pre_pre]
        · rw [streamStep_ord_false o ⟨b, curr, tr, p₁ ++ p₂, false, true⟩ c rfl hc hd, Run.empty_seq]
          cases t with
          | false =>
            rw [streamStep_ord_false o ⟨i₁, curr, true, p₂, false, true⟩ c rfl hc hd, Run.empty_seq]
            have := ih2 b curr tr p₁ (p₂ ++ [c]) w i₁ hne h₁
            rw [← List.append_assoc] at this
            exact this
          | true =>
            obtain ⟨w₂, i₂, h2, h3⟩ := printBof_split o hwf b curr tr p₁ (p₂ ++ [c]) false w i₁ h₁
            rw [streamStep_ord_true_some o ⟨i₁, curr, true, p₂, false, true⟩ c rfl hc hd w₂ i₂ h2,
              Run.seq_ok, Run.pre_pre]
            have := ih2 b curr tr (p₁ ++ (p₂ ++ [c])) [] (w ++ w₂) i₂ (by simp [hne]) h3
            rw [List.append_nil, ← List.append_assoc] at this
            exact this

theorem streamRun_untag (o : StreamOpt) (hwf : NoAdjFillers o.bounds) (st : SState)
    (l : List (UInt8 × Bool)) : streamRun o st l = streamRun o st (untag l) :=
  ((streamRun_sim o hwf l).1 st).symm

theorem untag_eq_map (l : List (UInt8 × Bool)) : untag l = untagged (l.map Prod.fst) := by
  simp [untag, untagged, List.map_map, Function.comp_def]

/-- two taggings of the same byte sequence give the same run, from any state -/
theorem tag_independent (o : StreamOpt) (hwf : NoAdjFillers o.bounds) (st : SState)
    (l l' : List (UInt8 × Bool)) (h : l.map Prod.fst = l'.map Prod.fst) :
    streamRun o st l = streamRun o st l' := by
  rw [streamRun_untag o hwf st l, streamRun_untag o hwf st l', untag_eq_map, untag_eq_map, h]

theorem cutBytesStream_canonical (o : StreamOpt) (hwf : NoAdjFillers o.bounds) (segs : List Bytes) :
    cutBytesStream o segs = streamRun o {} (untagged segs.flatten) := by
  unfold cutBytesStream
  rw [streamRun_untag o hwf, untag_eq_map, tagSegments_map_fst]

/-- **C04.**  For bounds without two fillers in a row, the run of the `-M` cutter (bytes written
    *and* status) is the same for every way successive reads split the input.  Empty segments are
    allowed: `tagSegment [] = []`. -/
theorem chunk_independent (o : StreamOpt) (hwf : NoAdjFillers o.bounds) (segs segs' : List Bytes)
    (h : segs.flatten = segs'.flatten) :
    cutBytesStream o segs = cutBytesStream o segs' := by
  rw [cutBytesStream_canonical o hwf segs, cutBytesStream_canonical o hwf segs', h]

/-- … in particular it is what one read of the whole input gives -/
theorem cutBytesStream_one_read (o : StreamOpt) (hwf : NoAdjFillers o.bounds) (segs : List Bytes) :
    cutBytesStream o segs = cutBytesStream o [segs.flatten] :=
  chunk_independent o hwf _ _ (by simp)

/-- a reader that always fills a buffer of `k + 1` bytes (fuel = length of the input) -/
def chunksOfAux (k : Nat) : Nat → Bytes → List Bytes
  | 0, l => [l]
  | n + 1, l => if l = [] then [] else l.take (k + 1) :: chunksOfAux k n (l.drop (k + 1))

/-- the input cut into full buffers of `k + 1` bytes (the last one possibly shorter) -/
def chunksOf (k : Nat) (l : Bytes) : List Bytes := chunksOfAux k l.length l

theorem chunksOfAux_flatten (k n : Nat) (l : Bytes) : (chunksOfAux k n l).flatten = l := by
  induction n generalizing l with
  | zero => simp [chunksOfAux]
  | succ n ih =>
    unfold chunksOfAux
    by_cases hl : l = []
    · simp [hl]
    · rw [if_neg hl, List.flatten_cons, ih, List.take_append_drop]

theorem chunksOf_flatten (k : Nat) (l : Bytes) : (chunksOf k l).flatten = l :=
  chunksOfAux_flatten k _ l

/-- **C04, in words.**  The size of the read buffer does not matter. -/
theorem buffer_size_irrelevant (o : StreamOpt) (hwf : NoAdjFillers o.bounds) (input : Bytes)
    (k k' : Nat) :
    cutBytesStream o (chunksOf k input) = cutBytesStream o (chunksOf k' input) :=
  chunk_independent o hwf _ _ (by rw [chunksOf_flatten, chunksOf_flatten])

/-- … and neither do short reads: any segmentation gives what full buffers of any size give -/
theorem short_reads_irrelevant (o : StreamOpt) (hwf : NoAdjFillers o.bounds) (segs : List Bytes)
    (k : Nat) : cutBytesStream o segs = cutBytesStream o (chunksOf k segs.flatten) :=
  chunk_independent o hwf _ _ (by rw [chunksOf_flatten])

/-! ## a concrete instance: `tuc -M -d - -f 2` on `"ab-cd-e\n"` -/

def c04ExOpt : StreamOpt :=
  { delimiter := 0x2d, replaceDelimiter := none, join := false, eol := .newline,
    fallbackOob := none, bounds := [.bound { l := .some 2, r := .some 2, isLast := true }],
    lastInterestingField := .some 2 }

example : NoAdjFillers c04ExOpt.bounds := by simp [c04ExOpt, NoAdjFillers]

-- "ab-cd-e\n" in one read, in reads of 3 bytes, cut in the middle of the selected field and
-- right before a delimiter, byte by byte: always "cd\n", exit 0
example : cutBytesStream c04ExOpt [[0x61, 0x62, 0x2d, 0x63, 0x64, 0x2d, 0x65, 0x0a]]
    = Run.ok [0x63, 0x64, 0x0a] := by decide
example : cutBytesStream c04ExOpt (chunksOf 2 [0x61, 0x62, 0x2d, 0x63, 0x64, 0x2d, 0x65, 0x0a])
    = Run.ok [0x63, 0x64, 0x0a] := by decide
example : cutBytesStream c04ExOpt [[0x61, 0x62, 0x2d, 0x63], [0x64], [0x2d, 0x65, 0x0a]]
    = Run.ok [0x63, 0x64, 0x0a] := by decide
example : cutBytesStream c04ExOpt [[0x61], [0x62], [0x2d], [0x63], [0x64], [0x2d], [0x65], [0x0a]]
    = Run.ok [0x63, 0x64, 0x0a] := by decide

/-! ## the counter-example: `NoAdjFillers` is needed

With two literal texts in a row (which no format string parses to) the bytes written and even the
status depend on the chunking: in one read `print_bof` consumes `x` only, finds the filler `y`
where it expects a bound and the record ends with the fallback rule (here: exit 1); in two reads
the first call drops the piece `a` for the same reason, the second one consumes `y` and prints
the rest of the field (`xyb`, exit 0). -/

def c04AdjOpt : StreamOpt :=
  { delimiter := 0x2d, replaceDelimiter := none, join := false, eol := .newline,
    fallbackOob := none,
    bounds := [.filler [0x78], .filler [0x79], .bound { l := .some 1, r := .some 1, isLast := true }],
    lastInterestingField := .some 1 }

example : ¬ NoAdjFillers c04AdjOpt.bounds := by simp [c04AdjOpt, NoAdjFillers]
example : cutBytesStream c04AdjOpt [[0x61, 0x62, 0x0a]] = ⟨[0x78, 0x79], .fail⟩ := by decide
example : cutBytesStream c04AdjOpt [[0x61], [0x62, 0x0a]] = Run.ok [0x78, 0x79, 0x62, 0x0a] := by decide

/-- a byte tagged "last of its chunk" leaves no new piece pending: if the pending piece is empty
    before the step, it is empty after it (so what crosses a chunk boundary is counters and flags
    only).  The status of the step plays no part in the proof. -/
theorem piece_empty_at_chunk_end (o : StreamOpt) (st : SState) (c : UInt8) (hp : st.piece = []) :
    (streamStep o st c true).1.status = .ok → (streamStep o st c true).2.piece = [] := by
  intro _
  rcases streamStep_piece o st c true with h | h | ⟨h, _⟩
  · exact h
  · exact h.trans hp
  · cases h

/-- non-vacuity of `NoAdjFillers`: `a{1}b{2}` -/
example : NoAdjFillers [.filler [0x61], .bound { l := .some 1, r := .some 1 }, .filler [0x62],
    .bound { l := .some 2, r := .some 2 }] := by
  simp [NoAdjFillers]

/-- **C04 at the level of `main`.**  With `-M`, for options whose bounds come from the `-f`
    parser, what `main` dispatches to does not depend on how the reads split the input
    (including whether `-M` is accepted at all). -/
theorem dispatch_fixedMemory_chunk_independent (o : Opt) (f : List Char)
    (hf : boundsListOfString f = .ok o.bounds) (segs segs' : List Bytes)
    (h : segs.flatten = segs'.flatten) :
    dispatch o true segs = dispatch o true segs' := by
  rw [dispatch_fixedMemory, dispatch_fixedMemory]
  cases hso : streamOptOf o with
  | none => rfl
  | some so =>
    rw [Option.map_some, Option.map_some,
      chunk_independent so (streamOptOf_noAdj o so hso (boundsListOfString_noAdj f _ hf)) segs segs' h]

end Tuc
