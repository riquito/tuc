import Tuc.Props.C07
import Tuc.Model.CutStr
import Tuc.Model.FastLane
import Tuc.Model.Stream
import Tuc.Model.Lines
import Tuc.Model.Chars
import Tuc.Lemmas.Records
import Tuc.Lemmas.Natural
import Tuc.Lemmas.FastScan
import Tuc.Lemmas.Total
/-!
# C11 — `-z` is newline mode with the roles of LF and NUL exchanged

`swapByte` is the transposition of LF (10) and NUL (0), `swap` its bytewise extension.  For every
engine that reads records or lines, running with the other terminator on the swapped input gives
the swapped output, provided the literal texts of the options (delimiter, replacement, fillers,
fallbacks) contain neither LF nor NUL (argv cannot contain NUL) and `--json` is off.  A regex
delimiter is admitted by `NoLfNulLits` if it finds the same matches in a text and in its swap
(true of the regex of `-c`, `charMatches_swap`); `NoLfNulOpt` excludes it.

Every engine is proved natural in an injective `σ : UInt8 → UInt8` that renames the input and fixes
the literal texts of the options; the general engine and `-l` (`OptFixed`, `Opt.mapLit`) rename the
delimiter with the input, the fast lane and `-M` ask that `σ` fixes the delimiter byte too
(`FastFixed.delimiter`, `StreamFixed.delimiter`), `-b` reads no delimiter (`Tuc.Lemmas.Natural` for
the text primitives, one `*_map` lemma per model function here, up to the whole runs); `-l` also
needs that the UTF-8 test does not see `σ`.  The `-z` statements (all for every input) are the
instances `σ := swapByte`; beside them and the elementary facts about `swapByte`, only the UTF-8
lemmas (section `-c`; `validUtf8_swap` also serves `-l`) are about `swapByte` itself.

`-l`, line-at-a-time path: `read_line_with_eol` (read_utils.rs:16) rejects a line that is not UTF-8
with either terminator (`read_line` for LF, `read_until` followed by `String::from_utf8` for `-z`),
so the model's `fwdLines` tests `!validUtf8 line` unconditionally and `validUtf8_swap` carries the
test across.
-/

namespace Tuc

/-- the transposition of LF and NUL -/
def swapByte (b : UInt8) : UInt8 := if b = 10 then 0 else if b = 0 then 10 else b

def swap : Bytes → Bytes := List.map swapByte

def EOL.swap : EOL → EOL
  | .newline => .zero
  | .zero => .newline

/-- no LF and no NUL in the text -/
def NoLfNul (x : Bytes) : Prop := ∀ b ∈ x, b ≠ 10 ∧ b ≠ 0

instance (x : Bytes) : Decidable (NoLfNul x) := by unfold NoLfNul; infer_instance

theorem swapByte_swapByte (b : UInt8) : swapByte (swapByte b) = b := by
  unfold swapByte
  by_cases h1 : b = 10
  · subst h1; decide
  · by_cases h2 : b = 0
    · subst h2; decide
    · simp [h1, h2]

theorem swapByte_injective : Function.Injective swapByte := by
  intro a b h
  have := congrArg swapByte h
  simpa [swapByte_swapByte] using this

theorem swap_swap (x : Bytes) : swap (swap x) = x := by
  simp [swap, List.map_map, Function.comp_def, swapByte_swapByte]

theorem EOL.swap_swap (e : EOL) : e.swap.swap = e := by cases e <;> rfl

theorem EOL.swap_byte (e : EOL) : e.swap.byte = swapByte e.byte := by cases e <;> decide

theorem swapByte_of_ne {b : UInt8} (h1 : b ≠ 10) (h2 : b ≠ 0) : swapByte b = b := by
  simp [swapByte, h1, h2]

theorem swap_of_noLfNul {x : Bytes} (h : NoLfNul x) : swap x = x := by
  induction x with
  | nil => rfl
  | cons b t ih =>
    have hb := h b (by simp)
    have ht : NoLfNul t := fun c hc => h c (by simp [hc])
    simp only [swap, List.map_cons] at ih ⊢
    rw [ih ht, swapByte_of_ne hb.1 hb.2]

theorem swap_length (x : Bytes) : (swap x).length = x.length := by simp [swap]

/-- `k`, `k'`: the engines differ only in how they write the chosen text -/
theorem fallbackRule_map {σ : UInt8 → UInt8} {own generic : Option Bytes}
    (hown : ∀ f, own = some f → f.map σ = f) (hgen : ∀ f, generic = some f → f.map σ = f)
    (k k' : Bytes → Run) (hk : ∀ f, k' (f.map σ) = (k f).mapOut (List.map σ)) :
    (match (generalizing := false) own with
      | some f => k' f
      | none => match (generalizing := false) generic with
        | some f => k' f
        | none => Run.fail) =
    (match (generalizing := false) own with
      | some f => k f
      | none => match (generalizing := false) generic with
        | some f => k f
        | none => Run.fail).mapOut (List.map σ) := by
  cases h1 : own with
  | some f => have := hk f; rwa [hown f h1] at this
  | none =>
    cases h2 : generic with
    | some f => have := hk f; rwa [hgen f h2] at this
    | none => rfl

section general
variable {σ : UInt8 → UInt8}

/-- the literal text carried by a bound or filler is fixed by `σ` -/
def BoFFixed (σ : UInt8 → UInt8) : BoF → Prop
  | .filler f => f.map σ = f
  | .bound b => ∀ f, b.fallback = some f → f.map σ = f

/-- the options with the delimiter renamed by `σ` and the terminator replaced -/
@[reducible] def Opt.mapLit (σ : UInt8 → UInt8) (e : EOL) (o : Opt) : Opt :=
  { o with delimiter := o.delimiter.map σ, eol := e }

section mapLitProj
variable (σ : UInt8 → UInt8) (e : EOL) (o : Opt)
theorem Opt.mapLit_delimiter : (o.mapLit σ e).delimiter = o.delimiter.map σ := rfl
theorem Opt.mapLit_eol : (o.mapLit σ e).eol = e := rfl
theorem Opt.mapLit_bounds : (o.mapLit σ e).bounds = o.bounds := rfl
theorem Opt.mapLit_boundsType : (o.mapLit σ e).boundsType = o.boundsType := rfl
theorem Opt.mapLit_onlyDelimited : (o.mapLit σ e).onlyDelimited = o.onlyDelimited := rfl
theorem Opt.mapLit_greedyDelimiter : (o.mapLit σ e).greedyDelimiter = o.greedyDelimiter := rfl
theorem Opt.mapLit_compressDelimiter : (o.mapLit σ e).compressDelimiter = o.compressDelimiter := rfl
theorem Opt.mapLit_replaceDelimiter : (o.mapLit σ e).replaceDelimiter = o.replaceDelimiter := rfl
theorem Opt.mapLit_trim : (o.mapLit σ e).trim = o.trim := rfl
theorem Opt.mapLit_complement : (o.mapLit σ e).complement = o.complement := rfl
theorem Opt.mapLit_join : (o.mapLit σ e).join = o.join := rfl
theorem Opt.mapLit_json : (o.mapLit σ e).json = o.json := rfl
theorem Opt.mapLit_fallbackOob : (o.mapLit σ e).fallbackOob = o.fallbackOob := rfl
theorem Opt.mapLit_regexBag : (o.mapLit σ e).regexBag = o.regexBag := rfl
end mapLitProj

/-- `simp only` with the projections of `Opt.mapLit` -/
macro "simp_mapLit" "[" args:Lean.Parser.Tactic.simpLemma,* "]" : tactic =>
  `(tactic| simp only [Opt.mapLit_delimiter, Opt.mapLit_eol, Opt.mapLit_bounds,
    Opt.mapLit_boundsType, Opt.mapLit_onlyDelimited, Opt.mapLit_greedyDelimiter,
    Opt.mapLit_compressDelimiter, Opt.mapLit_replaceDelimiter, Opt.mapLit_trim,
    Opt.mapLit_complement, Opt.mapLit_join, Opt.mapLit_json, Opt.mapLit_fallbackOob,
    Opt.mapLit_regexBag, $args,*])

/-- every literal text of the options other than the delimiter is fixed by `σ`, the regex (if
    any) finds the same matches in a text and in its `σ`-image, and `--json` is off -/
structure OptFixed (σ : UInt8 → UInt8) (o : Opt) : Prop where
  replace : ∀ r, o.replaceDelimiter = some r → r.map σ = r
  fallbackOob : ∀ f, o.fallbackOob = some f → f.map σ = f
  bounds : ∀ b ∈ o.bounds.list, BoFFixed σ b
  regex : ∀ bag, o.regexBag = some bag →
    ∀ l : Bytes, bag.normal (l.map σ) = bag.normal l ∧ bag.greedy (l.map σ) = bag.greedy l
  noJson : o.json = false

theorem maybeReplaceDelimiter_map (hσ : Function.Injective σ) {o : Opt} (ho : OptFixed σ o)
    (e : EOL) (text : Bytes) (c : Bool) :
    maybeReplaceDelimiter (text.map σ) (o.mapLit σ e) c =
      (maybeReplaceDelimiter text o c).map σ := by
  unfold maybeReplaceDelimiter
  simp_mapLit []
  refine ite_map _ rfl ?_
  cases h : o.replaceDelimiter with
  | none => rfl
  | some nd =>
    cases hb : o.regexBag with
    | none =>
      have := replaceAll_map hσ text o.delimiter nd
      rw [ho.replace nd h] at this
      simpa using this
    | some bag =>
      refine ite_map _ rfl ?_
      have := replaceMatches_map σ text nd (bag.normal text) 0
      rw [ho.replace nd h] at this
      simp only [(ho.regex bag hb text).1, this]

theorem joiner_fixed {o : Opt} (ho : OptFixed σ o) :
    (o.replaceDelimiter.getD o.delimiter).map σ = o.replaceDelimiter.getD (o.delimiter.map σ) := by
  cases h : o.replaceDelimiter with
  | none => simp
  | some r => simpa using ho.replace r h

theorem outputBof_map (hσ : Function.Injective σ) {o : Opt} (ho : OptFixed σ o) (e : EOL)
    (line : Bytes) (fields : List Range) (n : Nat) (c : Bool) (bof : BoF) (hb : BoFFixed σ bof) :
    outputBof (line.map σ) fields n (o.mapLit σ e) c bof =
      (outputBof line fields n o c bof).mapOut (List.map σ) := by
  cases bof with
  | filler f => simp only [outputBof, Run.mapOut_ok]; rw [show f.map σ = f from hb]
  | bound b =>
    have hj : ∀ x : Bool,
        (if x then Run.ok (o.replaceDelimiter.getD (o.delimiter.map σ)) else Run.empty) =
        (if x then Run.ok (o.replaceDelimiter.getD o.delimiter) else Run.empty).mapOut (List.map σ) := by
      intro x; cases x
      · rfl
      · simp [joiner_fixed ho]
    simp_mapLit [outputBof, ho.noJson, writeMaybeAsJson, List.length_map, Bool.false_eq_true,
      if_false]
    cases b.tryIntoRange n with
    | some p =>
      obtain ⟨s, e'⟩ := p
      simp only
      cases fields[s]? with
      | none => rfl
      | some fs =>
        cases fields[e' - 1]? with
        | none => rfl
        | some fe =>
          refine ite_map _ ?_ rfl
          simp only [Run.mapOut_seq, ← hj, slice_map, maybeReplaceDelimiter_map hσ ho e, Run.mapOut_ok]
    | none =>
      exact fallbackRule_map hb ho.fallbackOob _ _ fun f => by rw [Run.mapOut_seq, ← hj]; rfl

theorem outputLoop_map (hσ : Function.Injective σ) {o : Opt} (ho : OptFixed σ o) (e : EOL)
    (line : Bytes) (fields : List Range) (n : Nat) (c : Bool) (l : List BoF)
    (h : ∀ b ∈ l, BoFFixed σ b) :
    outputLoop (line.map σ) fields n (o.mapLit σ e) c l =
      (outputLoop line fields n o c l).mapOut (List.map σ) := by
  rw [outputLoop_eq_seqMap, outputLoop_eq_seqMap, Run.mapOut_seqMap]
  exact Run.seqMap_congr fun b hb => outputBof_map hσ ho e _ _ _ _ b (h b hb)

theorem markLast_fixed (l l' : List BoF) (h : markLast l = some l')
    (hl : ∀ b ∈ l, BoFFixed σ b) : ∀ b ∈ l', BoFFixed σ b := by
  intro x hx
  rcases markLast_mem l l' h x hx with h | ⟨b, hb, rfl⟩
  · exact hl x h
  · exact hl (.bound b) hb

theorem fromVec_fixed (l : List BoF) (bl : UserBoundsList) (h : fromVec l = .ok bl)
    (hl : ∀ b ∈ l, BoFFixed σ b) : ∀ b ∈ bl.list, BoFFixed σ b :=
  markLast_fixed l bl.list (fromVec_ok h).1 hl

theorem complementBof_fixed (n : Nat) (b : BoF) (hb : BoFFixed σ b) :
    ∀ x ∈ complementBof n b, BoFFixed σ x := by
  intro x hx
  cases b with
  | filler f => exact List.mem_singleton.1 hx ▸ hb
  | bound u =>
    cases x with
    | filler f => simp only [complementBof] at hx; split at hx <;> simp at hx
    | bound c =>
      -- the bound itself, or new bounds, which carry no fallback
      obtain ⟨b0, e, rfl | ⟨_, _, _, _, _, rfl⟩⟩ := mem_complementBof hx
      · cases e; exact hb
      · exact fun f hf => nomatch hf

theorem complementList_fixed (l : List BoF) (n : Nat) (bl : UserBoundsList)
    (h : complementList l n = .ok bl) (hl : ∀ b ∈ l, BoFFixed σ b) :
    ∀ b ∈ bl.list, BoFFixed σ b := by
  unfold complementList at h
  dsimp only at h
  split at h
  · cases h
  · exact fromVec_fixed _ bl h fun b hb =>
      let ⟨a, ha, hb⟩ := List.mem_flatMap.1 hb
      complementBof_fixed n a (hl a ha) b hb

theorem unpackBof_fixed (n : Nat) (b : BoF) (hb : BoFFixed σ b) :
    ∀ x ∈ unpackBof n b, BoFFixed σ x := by
  intro x hx
  cases b with
  | filler f => exact List.mem_singleton.1 hx ▸ hb
  | bound u =>
    cases x with
    | filler f => simp [unpackBof] at hx
    | bound c =>
      obtain ⟨b0, e, rfl | ⟨_, _, _, _, _, rfl⟩⟩ := mem_unpackBof hx
      · cases e; exact hb
      · exact fun f hf => nomatch hf

theorem unpackList_fixed (l : List BoF) (n : Nat) (bl : UserBoundsList)
    (h : unpackList l n = .ok bl) (hl : ∀ b ∈ l, BoFFixed σ b) :
    ∀ b ∈ bl.list, BoFFixed σ b :=
  fromVec_fixed _ bl h fun b hb =>
    let ⟨a, ha, hb⟩ := List.mem_flatMap.1 hb
    unpackBof_fixed n a (hl a ha) b hb

theorem emitRecord_map (hσ : Function.Injective σ) {o : Opt} (ho : OptFixed σ o) (e : EOL)
    (line : Bytes) (fields : List Range) (c : Bool) (eol : Bytes) :
    emitRecord (line.map σ) fields (o.mapLit σ e) c (eol.map σ) =
      (emitRecord line fields o c eol).mapOut (List.map σ) := by
  simp_mapLit [emitRecord, ho.noJson, Bool.false_or, Bool.false_eq_true,
    if_false, Run.empty_seq, Run.seq_empty]
  refine ite_map _ rfl ?_
  -- the two passes over the bounds list (`-m`, then the unpack pass), each replaced by its result: `σ`
  -- does not enter them, and what comes out of either still has its literal texts fixed by `σ`
  · generalize hbl : (if o.complement = true then complementList o.bounds.list fields.length
      else Res.ok o.bounds) = r
    cases r with
    | fail => rfl
    | panic => rfl
    | ok bl =>
      simp only
      have hbl' : ∀ b ∈ bl.list, BoFFixed σ b := by
        split at hbl
        · exact complementList_fixed _ _ _ hbl ho.bounds
        · cases hbl; exact ho.bounds
      generalize hbl2 : (if (decide (o.boundsType = BoundsType.characters) &&
          o.replaceDelimiter.isSome && bl.list.any needsUnpack) = true then
          unpackList bl.list fields.length else Res.ok bl) = r2
      cases r2 with
      | fail => rfl
      | panic => rfl
      | ok bl2 =>
        simp only
        rw [Run.mapOut_seq, Run.mapOut_ok]
        congr 1
        refine outputLoop_map hσ ho e line fields _ c bl2.list ?_
        split at hbl2
        · exact unpackList_fixed _ _ _ hbl2 hbl'
        · cases hbl2; exact hbl'

theorem trimOf_map (hσ : Function.Injective σ) {o : Opt} (ho : OptFixed σ o) (e : EOL)
    (line : Bytes) : trimOf (o.mapLit σ e) (line.map σ) = (trimOf o line).map σ := by
  unfold trimOf
  simp_mapLit []
  cases o.trim with
  | none => rfl
  | some k =>
    cases hb : o.regexBag with
    | none => exact trimLiteral_map hσ line k o.delimiter
    | some bag =>
      simp only
      rw [(ho.regex bag hb line).2, trimRegex_map]

theorem engineFields_map (hσ : Function.Injective σ) {o : Opt} (ho : OptFixed σ o) (e : EOL)
    (line d : Bytes) (u : Bool) :
    engineFields (o.mapLit σ e) (line.map σ) (d.map σ) u = engineFields o line d u := by
  unfold engineFields
  simp_mapLit []
  cases hb : o.regexBag with
  | none =>
    simp only [fillWithFieldsLocationsGreedy_map hσ, fillWithFieldsLocations_map hσ]
  | some bag =>
    cases u with
    | false => simp only [fillWithFieldsLocationsGreedy_map hσ, fillWithFieldsLocations_map hσ]
    | true =>
      have : (if o.greedyDelimiter = true then bag.greedy else bag.normal) (line.map σ) =
          (if o.greedyDelimiter = true then bag.greedy else bag.normal) line := by
        split
        · exact (ho.regex bag hb line).2
        · exact (ho.regex bag hb line).1
      simp only [this, fillWithFieldsLocationsUsingRegex_map]

theorem compressOf_map (hσ : Function.Injective σ) {o : Opt} (ho : OptFixed σ o) (e : EOL)
    (line : Bytes) :
    compressOf (o.mapLit σ e) (line.map σ) =
      (compressOf o line).map fun p =>
        (p.1.map σ, p.2.1.map σ, p.2.2.1, p.2.2.2.1.map (List.map σ), p.2.2.2.2) := by
  unfold compressOf
  simp_mapLit []
  split
  · cases hb : o.regexBag with
    | none => simp only [Option.map_some, compressDelimiter_map hσ line o.delimiter [] []]
    | some bag =>
      cases hr : o.replaceDelimiter with
      | none => rfl
      | some nd =>
        have := replaceMatches_map σ line nd (bag.greedy line) 0
        rw [ho.replace nd hr] at this
        simp only [Option.map_some, Option.map_none, (ho.regex bag hb line).2, this, ho.replace nd hr]
  · simp only [Option.map_some, Option.map_none]

/-- the run of `afterTrim` (the two scratch buffers it returns beside it are read by nothing) -/
theorem afterTrim_map (hσ : Function.Injective σ) {o : Opt} (ho : OptFixed σ o) (e : EOL)
    (line eol : Bytes) :
    (afterTrim (line.map σ) (o.mapLit σ e) (eol.map σ)).1 =
      (afterTrim line o eol).1.mapOut (List.map σ) := by
  unfold afterTrim
  rw [compressOf_map hσ ho]
  simp_mapLit [List.isEmpty_map, apply_ite Prod.fst]
  refine ite_map _ ?_ ?_
  · cases o.onlyDelimited <;> rfl
  · cases compressOf o line with
    | none => rfl
    | some p => simp only [Option.map_some, engineFields_map hσ ho, emitRecord_map hσ ho]

theorem cutStrCore_map (hσ : Function.Injective σ) {o : Opt} (ho : OptFixed σ o) (e : EOL)
    (line eol : Bytes) :
    (cutStrCore (line.map σ) (o.mapLit σ e) (eol.map σ)).1 =
      (cutStrCore line o eol).1.mapOut (List.map σ) := by
  rw [cutStrCore_eq, cutStrCore_eq, trimOf_map hσ ho]
  simp_mapLit [apply_ite Prod.fst]
  exact ite_map _ rfl (ite_map _ rfl (afterTrim_map hσ ho e _ eol))

/-- **the general engine is natural in `σ`** (the delimiter renamed with the input, the other
    literal texts fixed) -/
theorem readAndCutStr_map (hσ : Function.Injective σ) {o : Opt} (ho : OptFixed σ o) (e : EOL)
    (he : e.byte = σ o.eol.byte) (input : Bytes) :
    readAndCutStr (o.mapLit σ e) (input.map σ) = (readAndCutStr o input).mapOut (List.map σ) := by
  unfold readAndCutStr
  rw [Opt.mapLit_eol, he, records_map hσ, cutRecords_eq_seqMap, cutRecords_eq_seqMap,
    Run.seqMap_map, Run.mapOut_seqMap]
  refine Run.seqMap_congr fun r _ => ?_
  have hc := cutStrCore_map hσ ho e r [o.eol.byte]
  rwa [List.map_cons, List.map_nil, ← he] at hc

end general

/-- `-z` given / not given -/
def Opt.swapped (o : Opt) : Opt := { o with eol := o.eol.swap }

/-- `-z` given / not given, and LF and NUL exchanged in the delimiter (`-l`: the delimiter *is*
    the terminator) -/
def Opt.swappedAll (o : Opt) : Opt := { o with eol := o.eol.swap, delimiter := swap o.delimiter }

/-- the domain of C11 for the general engine, delimiter apart (`regex`: a regex delimiter, if any,
    finds the same matches in a text and in its swap) -/
structure NoLfNulLits (o : Opt) : Prop where
  replace : ∀ r, o.replaceDelimiter = some r → NoLfNul r
  fallbackOob : ∀ f, o.fallbackOob = some f → NoLfNul f
  fillers : ∀ f, BoF.filler f ∈ o.bounds.list → NoLfNul f
  fallbacks : ∀ b f, BoF.bound b ∈ o.bounds.list → b.fallback = some f → NoLfNul f
  regex : ∀ bag, o.regexBag = some bag →
    ∀ l : Bytes, bag.normal (swap l) = bag.normal l ∧ bag.greedy (swap l) = bag.greedy l
  noJson : o.json = false

/-- the domain of `readAndCutStr_swap` and `fieldMode_*_swap`: a literal delimiter (no regex, hence
    not `-c`), no `--json`, and neither LF nor NUL in the delimiter or any other literal text -/
structure NoLfNulOpt (o : Opt) : Prop where
  delimiter : NoLfNul o.delimiter
  replace : ∀ r, o.replaceDelimiter = some r → NoLfNul r
  fallbackOob : ∀ f, o.fallbackOob = some f → NoLfNul f
  fillers : ∀ f, BoF.filler f ∈ o.bounds.list → NoLfNul f
  fallbacks : ∀ b f, BoF.bound b ∈ o.bounds.list → b.fallback = some f → NoLfNul f
  noRegex : o.regexBag = none
  noJson : o.json = false
  notChars : o.boundsType ≠ .characters

theorem NoLfNulOpt.lits {o : Opt} (h : NoLfNulOpt o) : NoLfNulLits o where
  replace := h.replace
  fallbackOob := h.fallbackOob
  fillers := h.fillers
  fallbacks := h.fallbacks
  regex := by intro bag hb; rw [h.noRegex] at hb; cases hb
  noJson := h.noJson

theorem boFFixed_of_noLfNul {l : List BoF} (hf : ∀ f, BoF.filler f ∈ l → NoLfNul f)
    (hb : ∀ b f, BoF.bound b ∈ l → b.fallback = some f → NoLfNul f) :
    ∀ b ∈ l, BoFFixed swapByte b := by
  intro b hbl
  cases b with
  | filler f => exact swap_of_noLfNul (hf f hbl)
  | bound u => exact fun f hfu => swap_of_noLfNul (hb u f hbl hfu)

theorem NoLfNulLits.fixed {o : Opt} (h : NoLfNulLits o) : OptFixed swapByte o where
  replace := fun r hr => swap_of_noLfNul (h.replace r hr)
  fallbackOob := fun f hf => swap_of_noLfNul (h.fallbackOob f hf)
  bounds := boFFixed_of_noLfNul h.fillers h.fallbacks
  regex := h.regex
  noJson := h.noJson

theorem Opt.swappedAll_eq (o : Opt) : o.swappedAll = o.mapLit swapByte o.eol.swap := rfl

theorem Opt.swappedAll_eq_swapped {o : Opt} (h : NoLfNul o.delimiter) : o.swappedAll = o.swapped := by
  simp only [Opt.swappedAll, Opt.swapped, swap_of_noLfNul h]

/-- **C11, general engine**, in the form that also exchanges LF and NUL inside the delimiter (no
    condition on the delimiter; the regex, if any, must not tell LF from NUL). -/
theorem readAndCutStr_swapAll {o : Opt} (h : NoLfNulLits o) (input : Bytes) :
    readAndCutStr o.swappedAll (swap input) = (readAndCutStr o input).mapOut swap :=
  readAndCutStr_map swapByte_injective h.fixed o.eol.swap (EOL.swap_byte o.eol) input

/-- **C11, general engine.** -/
theorem readAndCutStr_swap {o : Opt} (h : NoLfNulOpt o) (input : Bytes) :
    readAndCutStr o.swapped (swap input) = (readAndCutStr o input).mapOut swap := by
  rw [← Opt.swappedAll_eq_swapped h.delimiter]
  exact readAndCutStr_swapAll h.lits input

section fast
variable {σ : UInt8 → UInt8}

theorem dropWhileEq_map (hσ : Function.Injective σ) (d : UInt8) :
    ∀ l : Bytes, dropWhileEq (σ d) (l.map σ) = (dropWhileEq d l).map σ
  | [] => rfl
  | c :: t => by
    simp only [List.map_cons, dropWhileEq]
    by_cases h : c = d
    · subst h; simp [dropWhileEq_map hσ c t]
    · have h' : σ c ≠ σ d := fun e => h (hσ e)
      simp [h, h']

theorem fastTrim_map (hσ : Function.Injective σ) (l : Bytes) (k : Trim) (d : UInt8) :
    fastTrim (l.map σ) k (σ d) = (fastTrim l k d).map σ := by
  cases k <;> simp only [fastTrim, dropWhileEq_map hσ, ← List.map_reverse]

theorem fastScan_map (hσ : Function.Injective σ) (d : UInt8) (lif : Side) (l : Bytes) (pos : Nat)
    (curr : Int) : fastScan (σ d) lif pos curr (l.map σ) = fastScan d lif pos curr l := by
  rw [fastScan_closed, fastScan_closed, show [σ d] = [d].map σ from rfl, findIterAux_map hσ]

/-- every literal text of the fast-lane options is fixed by `σ` -/
structure FastFixed (σ : UInt8 → UInt8) (o : FastOpt) : Prop where
  delimiter : σ o.delimiter = o.delimiter
  fallbackOob : ∀ f, o.fallbackOob = some f → f.map σ = f
  bounds : ∀ b ∈ o.bounds.list, BoFFixed σ b

theorem outputParts_map {o : FastOpt} (ho : FastFixed σ o) (e : EOL) (line : Bytes)
    (b : UserBounds) (hb : BoFFixed σ (.bound b)) (fields : List Nat) :
    outputParts (line.map σ) b fields { o with eol := e } =
      (outputParts line b fields o).mapOut (List.map σ) := by
  have hj : ∀ x : Bool, (if x then Run.ok [o.delimiter] else Run.empty) =
      (if x then Run.ok [o.delimiter] else Run.empty).mapOut (List.map σ) := by
    intro x; cases x
    · rfl
    · simp [ho.delimiter]
  simp only [outputParts, List.length_map]
  refine ite_map _ rfl ?_
  cases b.tryIntoRange (fields.length - 1) with
  | some p =>
    obtain ⟨s, e'⟩ := p
    simp only
    cases fields[s]? with
    | none => rfl
    | some idxStart =>
      cases fields[e']? with
      | none => rfl
      | some idxEnd =>
        refine ite_map _ ?_ rfl
        simp only [Run.mapOut_seq, ← hj, slice_map, Run.mapOut_ok]
  | none =>
    exact fallbackRule_map hb ho.fallbackOob _ _ fun f => by rw [Run.mapOut_seq, ← hj]; rfl

theorem fastOutputLoop_map {o : FastOpt} (ho : FastFixed σ o) (e : EOL) (line : Bytes)
    (fields : List Nat) (l : List BoF) (h : ∀ b ∈ l, BoFFixed σ b) :
    fastOutputLoop (line.map σ) fields { o with eol := e } l =
      (fastOutputLoop line fields o l).mapOut (List.map σ) := by
  rw [fastOutputLoop_eq_seqMap, fastOutputLoop_eq_seqMap, Run.mapOut_seqMap]
  refine Run.seqMap_congr fun b hb => ?_
  cases b with
  | filler f => exact congrArg Run.ok (h _ hb : f.map σ = f).symm
  | bound b => exact outputParts_map ho e line b (h _ hb) fields

theorem fastTrimmed_map (hσ : Function.Injective σ) {o : FastOpt} (ho : FastFixed σ o) (e : EOL)
    (buf : Bytes) : fastTrimmed (buf.map σ) { o with eol := e } = (fastTrimmed buf o).map σ := by
  unfold fastTrimmed
  cases h : o.trim with
  | none => simp only
  | some k =>
    simp only
    have := fastTrim_map hσ buf k o.delimiter
    rw [ho.delimiter] at this
    exact this

theorem fastAfterTrim_map (hσ : Function.Injective σ) {o : FastOpt} (ho : FastFixed σ o)
    (e : EOL) (he : e.byte = σ o.eol.byte) (ln : Bytes) (lif : Side) :
    (fastAfterTrim (ln.map σ) { o with eol := e } lif).1 =
      (fastAfterTrim ln o lif).1.mapOut (List.map σ) := by
  have hscan : fastScan o.delimiter lif 0 0 (ln.map σ) = fastScan o.delimiter lif 0 0 ln := by
    have := fastScan_map hσ o.delimiter lif ln 0 0
    rwa [ho.delimiter] at this
  unfold fastAfterTrim
  simp only [List.isEmpty_map, he, hscan, List.length_map, apply_ite Prod.fst]
  refine ite_map _ ?_ (ite_map _ rfl ?_)
  · cases o.onlyDelimited <;> rfl
  · simp only [fastOutputLoop_map ho e ln _ _ ho.bounds, Run.mapOut_seq, Run.mapOut_ok,
      List.map_cons, List.map_nil]

theorem cutStrFastLaneCore_map (hσ : Function.Injective σ) {o : FastOpt} (ho : FastFixed σ o)
    (e : EOL) (he : e.byte = σ o.eol.byte) (buf : Bytes) (lif : Side) :
    (cutStrFastLaneCore (buf.map σ) { o with eol := e } lif).1 =
      (cutStrFastLaneCore buf o lif).1.mapOut (List.map σ) := by
  rw [cutStrFastLaneCore_eq, cutStrFastLaneCore_eq, fastTrimmed_map hσ ho,
    fastAfterTrim_map hσ ho e he]

theorem readAndCutFast_map (hσ : Function.Injective σ) {o : FastOpt} (ho : FastFixed σ o) (e : EOL)
    (he : e.byte = σ o.eol.byte) (input : Bytes) :
    readAndCutFast { o with eol := e } (input.map σ) =
      (readAndCutFast o input).mapOut (List.map σ) := by
  unfold readAndCutFast
  rw [show ({ o with eol := e } : FastOpt).eol.byte = σ o.eol.byte from he, records_map hσ,
    fastRecords_eq_seqMap, fastRecords_eq_seqMap, Run.seqMap_map, Run.mapOut_seqMap]
  exact Run.seqMap_congr fun r _ => cutStrFastLaneCore_map hσ ho e he r _

end fast

def FastOpt.swapped (o : FastOpt) : FastOpt := { o with eol := o.eol.swap }

/-- the domain of C11 for the fast lane -/
structure NoLfNulFast (o : FastOpt) : Prop where
  delimiter : o.delimiter ≠ 10 ∧ o.delimiter ≠ 0
  fallbackOob : ∀ f, o.fallbackOob = some f → NoLfNul f
  fillers : ∀ f, BoF.filler f ∈ o.bounds.list → NoLfNul f
  fallbacks : ∀ b f, BoF.bound b ∈ o.bounds.list → b.fallback = some f → NoLfNul f

theorem NoLfNulFast.fixed {o : FastOpt} (h : NoLfNulFast o) : FastFixed swapByte o where
  delimiter := swapByte_of_ne h.delimiter.1 h.delimiter.2
  fallbackOob := fun f hf => swap_of_noLfNul (h.fallbackOob f hf)
  bounds := boFFixed_of_noLfNul h.fillers h.fallbacks

/-- **C11, fast lane.** -/
theorem readAndCutFast_swap {o : FastOpt} (h : NoLfNulFast o) (input : Bytes) :
    readAndCutFast o.swapped (swap input) = (readAndCutFast o input).mapOut swap :=
  readAndCutFast_map swapByte_injective h.fixed o.eol.swap (EOL.swap_byte o.eol) input

section stream
variable {σ : UInt8 → UInt8}

/-- every literal text of the `-M` options is fixed by `σ` -/
structure StreamFixed (σ : UInt8 → UInt8) (o : StreamOpt) : Prop where
  delimiter : σ o.delimiter = o.delimiter
  replace : ∀ r, o.replaceDelimiter = some r → σ r = r
  fallbackOob : ∀ f, o.fallbackOob = some f → f.map σ = f
  bounds : ∀ b ∈ o.bounds, BoFFixed σ b

@[reducible] def SState.map (σ : UInt8 → UInt8) (st : SState) : SState := { st with piece := st.piece.map σ }

theorem StreamFixed.joiner {o : StreamOpt} (ho : StreamFixed σ o) : σ o.joiner = o.joiner := by
  unfold StreamOpt.joiner
  cases h : o.replaceDelimiter with
  | none => simpa using ho.delimiter
  | some r => simpa using ho.replace r h

theorem StreamFixed.joiner_ite {o : StreamOpt} (ho : StreamFixed σ o) (x : Bool) :
    (if x then [o.joiner] else []).map σ = if x then [o.joiner] else [] := by
  cases x
  · rfl
  · simp only [if_true, List.map_cons, List.map_nil, ho.joiner]

/-- first half of `print_bof`: a filler standing at `bof_idx`.  `printBof` is `printBofPost` after
    `printBofPre` by `rfl` (`printBof_eq`: the two `let`s of the model), with no hypothesis; the case
    lemmas of C10Stream need one about what follows the filler (`printBof_of_filler`). -/
def printBofPre (o : StreamOpt) (bofIdx : Nat) : Bytes × Nat :=
  match o.bounds[bofIdx]? with
  | some (.filler f) => (f, bofIdx + 1)
  | _ => ([], bofIdx)

/-- second half of `print_bof` -/
def printBofPost (o : StreamOpt) (w0 : Bytes) (i : Nat) (currField : Int) (trunc : Bool)
    (piece : Bytes) (fieldComplete : Bool) : Option (Bytes × Nat) :=
  match o.bounds[i]? with
  | some (.bound b) =>
    match b.matches currField with
    | none => none
    | some false => some (w0, i)
    | some true =>
      let prepend := !trunc && decide (currField > 1) && decide (b.l ≠ .some currField)
      let w1 := (if prepend then [o.joiner] else []) ++ piece
      if fieldComplete && decide (b.r = .some currField) then
        some (w0 ++ w1 ++ (if o.join && !b.isLast then [o.joiner] else []), i + 1)
      else some (w0 ++ w1, i)
  | _ => some (w0, i)

theorem printBof_eq (o : StreamOpt) (bofIdx : Nat) (currField : Int) (trunc : Bool) (piece : Bytes)
    (fc : Bool) :
    printBof o bofIdx currField trunc piece fc =
      printBofPost o (printBofPre o bofIdx).1 (printBofPre o bofIdx).2 currField trunc piece fc := rfl

theorem printBofPre_map {o : StreamOpt} (ho : StreamFixed σ o) (e : EOL) (bofIdx : Nat) :
    printBofPre { o with eol := e } bofIdx = printBofPre o bofIdx ∧
      (printBofPre o bofIdx).1.map σ = (printBofPre o bofIdx).1 := by
  refine ⟨rfl, ?_⟩
  unfold printBofPre
  split
  · rename_i f hf
    exact ho.bounds _ (List.mem_of_getElem? hf)
  · rfl

theorem printBofPost_map {o : StreamOpt} (ho : StreamFixed σ o) (e : EOL) (w0 : Bytes) (i : Nat)
    (currField : Int) (trunc : Bool) (piece : Bytes) (fc : Bool) (hw0 : w0.map σ = w0) :
    printBofPost { o with eol := e } w0 i currField trunc (piece.map σ) fc =
      (printBofPost o w0 i currField trunc piece fc).map (fun p => (p.1.map σ, p.2)) := by
  have hj : ({ o with eol := e } : StreamOpt).joiner = o.joiner := rfl
  have hnone : some (w0, i) = (some (w0, i)).map (fun p : Bytes × Nat => (p.1.map σ, p.2)) := by
    rw [Option.map_some, hw0]
  simp only [printBofPost, hj]
  cases o.bounds[i]? with
  | none => exact hnone
  | some x =>
    cases x with
    | filler f => exact hnone
    | bound b =>
      simp only
      cases b.matches currField with
      | none => rfl
      | some m =>
        cases m with
        | false => exact hnone
        | true =>
          refine ite_map _ ?_ ?_ <;> simp only [Option.map_some, List.map_append, hw0, ho.joiner_ite]

theorem printBof_map {o : StreamOpt} (ho : StreamFixed σ o) (e : EOL) (bofIdx : Nat)
    (currField : Int) (trunc : Bool) (piece : Bytes) (fc : Bool) :
    printBof { o with eol := e } bofIdx currField trunc (piece.map σ) fc =
      (printBof o bofIdx currField trunc piece fc).map (fun p => (p.1.map σ, p.2)) := by
  rw [printBof_eq, printBof_eq, (printBofPre_map ho e bofIdx).1,
    printBofPost_map ho e _ _ _ _ _ _ (printBofPre_map ho e bofIdx).2]

theorem printFillerOrFallbacks_map {o : StreamOpt} (ho : StreamFixed σ o) (e : EOL) (n : Int) :
    ∀ l : List BoF, (∀ b ∈ l, BoFFixed σ b) →
      printFillerOrFallbacks { o with eol := e } n l =
        (printFillerOrFallbacks o n l).mapOut (List.map σ)
  | [], _ => rfl
  | .filler f :: t, h => by
    simp only [printFillerOrFallbacks]
    rw [Run.mapOut_seq, Run.mapOut_ok, show f.map σ = f from (List.forall_mem_cons.1 h).1,
      printFillerOrFallbacks_map ho e n t (List.forall_mem_cons.1 h).2]
  | .bound b :: t, h => by
    have ih := printFillerOrFallbacks_map ho e n t (List.forall_mem_cons.1 h).2
    have hb : ∀ f, b.fallback = some f → f.map σ = f := (List.forall_mem_cons.1 h).1
    have hj : ({ o with eol := e } : StreamOpt).joiner = o.joiner := rfl
    simp only [printFillerOrFallbacks, hj, ih]
    cases b.matches n with
    | none => rfl
    | some m =>
      exact ite_map _ rfl (fallbackRule_map hb ho.fallbackOob _ _ fun f => by
        simp only [Run.mapOut_seq, Run.mapOut_ok, List.map_append, ho.joiner_ite])

theorem drop_fixed {o : StreamOpt} (ho : StreamFixed σ o) (i : Nat) :
    ∀ b ∈ o.bounds.drop i, BoFFixed σ b :=
  fun b hb => ho.bounds b (List.mem_of_mem_drop hb)

theorem endOfRecord_map {o : StreamOpt} (ho : StreamFixed σ o) (e : EOL)
    (he : e.byte = σ o.eol.byte) (st : SState) :
    endOfRecord { o with eol := e } (st.map σ) = (endOfRecord o st).mapOut (List.map σ) := by
  simp only [endOfRecord, printBof_map ho, he]
  cases printBof o st.bofIdx st.currField st.trunc st.piece true with
  | none => rfl
  | some p =>
    simp only [Option.map_some, Run.mapOut_seq, Run.mapOut_ok,
      printFillerOrFallbacks_map ho e _ _ (drop_fixed ho _), List.map_cons, List.map_nil]

theorem streamStep_map (hσ : Function.Injective σ) {o : StreamOpt} (ho : StreamFixed σ o) (e : EOL)
    (he : e.byte = σ o.eol.byte) (st : SState) (c : UInt8) (last : Bool) :
    streamStep { o with eol := e } (st.map σ) (σ c) last =
      Prod.map (Run.mapOut (List.map σ)) (SState.map σ) (streamStep o st c last) := by
  have h1 : (σ c = σ o.eol.byte) = (c = o.eol.byte) :=
    propext ⟨fun h => hσ h, fun h => h ▸ rfl⟩
  have h2 : (σ c = o.delimiter) = (c = o.delimiter) :=
    propext ⟨fun h => hσ (h.trans ho.delimiter.symm), fun h => by rw [h, ho.delimiter]⟩
  unfold streamStep
  simp only [he, h1, h2, SState.map, List.isEmpty_map, printBof_map ho]
  refine ite_map _ (ite_map _ rfl rfl) (ite_map _ (ite_map _ rfl
    (congrArg (·, _) (endOfRecord_map ho e he st))) (ite_map _ ?_ ?_))
  · cases printBof o st.bofIdx st.currField st.trunc st.piece true with
    | none => rfl
    | some p =>
      refine ite_map _ ?_ rfl
      simp only [Run.mapOut_seq, Run.mapOut_ok, Prod.map_apply,
        printFillerOrFallbacks_map ho e _ _ (drop_fixed ho _)]
      rfl
  · cases last with
    | false =>
      simp only [Bool.false_eq_true, if_false, Prod.map_apply, SState.map, List.map_append,
        List.map_cons, List.map_nil]
      rfl
    | true =>
      have := printBof_map ho e st.bofIdx st.currField st.trunc (st.piece ++ [c]) false
      simp only [List.map_append, List.map_cons, List.map_nil] at this
      simp only [if_true, this]
      cases printBof o st.bofIdx st.currField st.trunc (st.piece ++ [c]) false <;> rfl

theorem streamEof_map {o : StreamOpt} (ho : StreamFixed σ o) (e : EOL)
    (he : e.byte = σ o.eol.byte) (st : SState) :
    streamEof { o with eol := e } (st.map σ) = (streamEof o st).mapOut (List.map σ) := by
  unfold streamEof
  simp only [he, List.isEmpty_map, printBof_map ho]
  refine ite_map _ rfl (ite_map _ rfl (ite_map _ (endOfRecord_map ho e he st) ?_))
  cases printBof o st.bofIdx st.currField st.trunc st.piece false with
  | none => rfl
  | some p =>
    simp only [Option.map_some, Run.mapOut_seq, Run.mapOut_ok]
    congr 1
    exact endOfRecord_map ho e he { st with bofIdx := p.2, trunc := true, piece := [] }

theorem streamRun_map (hσ : Function.Injective σ) {o : StreamOpt} (ho : StreamFixed σ o) (e : EOL)
    (he : e.byte = σ o.eol.byte) :
    ∀ (l : List (UInt8 × Bool)) (st : SState),
      streamRun { o with eol := e } (st.map σ) (l.map fun p => (σ p.1, p.2)) =
        (streamRun o st l).mapOut (List.map σ)
  | [], st => streamEof_map ho e he st
  | (c, last) :: t, st => by
    simp only [List.map_cons, streamRun, streamStep_map hσ ho e he, Run.mapOut_seq, Prod.map_fst,
      Prod.map_snd]
    congr 1
    exact streamRun_map hσ ho e he t _

theorem tagSegment_map (σ : UInt8 → UInt8) :
    ∀ s : Bytes, tagSegment (s.map σ) = (tagSegment s).map fun p => (σ p.1, p.2)
  | [] => rfl
  | [c] => rfl
  | c :: d :: t => by
    have := tagSegment_map σ (d :: t)
    simp only [List.map_cons] at this
    simp only [List.map_cons, tagSegment, this]

theorem tagSegments_map (σ : UInt8 → UInt8) (segs : List Bytes) :
    tagSegments (segs.map (List.map σ)) = (tagSegments segs).map fun p => (σ p.1, p.2) := by
  simp only [tagSegments, List.flatMap_map, List.map_flatMap, tagSegment_map]

/-- **`-M` is natural in `σ`**, for every read segmentation -/
theorem cutBytesStream_map (hσ : Function.Injective σ) {o : StreamOpt} (ho : StreamFixed σ o)
    (e : EOL) (he : e.byte = σ o.eol.byte) (segs : List Bytes) :
    cutBytesStream { o with eol := e } (segs.map (List.map σ)) =
      (cutBytesStream o segs).mapOut (List.map σ) := by
  unfold cutBytesStream
  rw [tagSegments_map]
  exact streamRun_map hσ ho e he (tagSegments segs) {}

end stream

def StreamOpt.swapped (o : StreamOpt) : StreamOpt := { o with eol := o.eol.swap }

/-- the domain of C11 for `-M` -/
structure NoLfNulStream (o : StreamOpt) : Prop where
  delimiter : o.delimiter ≠ 10 ∧ o.delimiter ≠ 0
  replace : ∀ r, o.replaceDelimiter = some r → r ≠ 10 ∧ r ≠ 0
  fallbackOob : ∀ f, o.fallbackOob = some f → NoLfNul f
  fillers : ∀ f, BoF.filler f ∈ o.bounds → NoLfNul f
  fallbacks : ∀ b f, BoF.bound b ∈ o.bounds → b.fallback = some f → NoLfNul f

theorem NoLfNulStream.fixed {o : StreamOpt} (h : NoLfNulStream o) : StreamFixed swapByte o where
  delimiter := swapByte_of_ne h.delimiter.1 h.delimiter.2
  replace := fun r hr => swapByte_of_ne (h.replace r hr).1 (h.replace r hr).2
  fallbackOob := fun f hf => swap_of_noLfNul (h.fallbackOob f hf)
  bounds := boFFixed_of_noLfNul h.fillers h.fallbacks

theorem cutBytesStream_swap_of_fixed {o : StreamOpt} (h : StreamFixed swapByte o)
    (segs : List Bytes) :
    cutBytesStream o.swapped (segs.map swap) = (cutBytesStream o segs).mapOut swap :=
  cutBytesStream_map swapByte_injective h o.eol.swap (EOL.swap_byte o.eol) segs

/-- **C11, `-M`**: for every read segmentation. -/
theorem cutBytesStream_swap {o : StreamOpt} (h : NoLfNulStream o) (segs : List Bytes) :
    cutBytesStream o.swapped (segs.map swap) = (cutBytesStream o segs).mapOut swap :=
  cutBytesStream_swap_of_fixed h.fixed segs

/-! ## UTF-8 segmentation and character mode (`-c`)

LF and NUL are both one-byte characters, and no other byte class of Table 3-7 contains one and
not the other, so the segmentation into scalar values commutes with the swap. -/

theorem swapByte_eq_or_le (b : UInt8) : swapByte b = b ∨ (b ≤ 10 ∧ swapByte b ≤ 10) := by
  unfold swapByte
  by_cases h1 : b = 10
  · subst h1; exact Or.inr (by decide)
  · by_cases h2 : b = 0
    · subst h2; exact Or.inr (by decide)
    · rw [if_neg h1, if_neg h2]; exact Or.inl rfl

theorem range_swapByte (lo hi : UInt8) (hlo : 10 < lo) (b : UInt8) :
    (decide (lo ≤ swapByte b) && decide (swapByte b ≤ hi)) = (decide (lo ≤ b) && decide (b ≤ hi)) := by
  rcases swapByte_eq_or_le b with h | ⟨h1, h2⟩
  · rw [h]
  · have low : ∀ x : UInt8, x ≤ 10 → decide (lo ≤ x) = false := fun x hx =>
      decide_eq_false fun h => UInt8.lt_irrefl _ (UInt8.lt_of_lt_of_le hlo (UInt8.le_trans h hx))
    rw [low _ h1, low _ h2, Bool.false_and, Bool.false_and]

theorem isCont_swapByte (b : UInt8) : isCont (swapByte b) = isCont b :=
  range_swapByte 0x80 0xBF (by decide) b

theorem passes_swap {ps : List (UInt8 → Bool)} (hps : ∀ p ∈ ps, ∀ b, p (swapByte b) = p b) :
    ∀ t : Bytes, passes ps (swap t) = passes ps t := by
  induction ps with
  | nil => intro t; rfl
  | cons p ps ih =>
    intro t
    cases t with
    | nil => rfl
    | cons b t =>
      show (p (swapByte b) && passes ps (swap t)) = (p b && passes ps t)
      rw [hps p (List.mem_cons_self ..), ih fun q hq => hps q (List.mem_cons_of_mem _ hq)]

theorem charLen_swap : ∀ l : Bytes, charLen (swap l) = charLen l
  | [] => rfl
  | b0 :: t => by
    show charLen (swapByte b0 :: swap t) = _
    rcases swapByte_eq_or_le b0 with h | ⟨h1, h2⟩
    · -- the first byte is unchanged, and every test of its row is a range test above LF
      rw [h, charLen_eq, charLen_eq]
      cases hr : utf8Row b0 with
      | none => rfl
      | some ps =>
        rw [Option.bind_some, Option.bind_some, passes_swap fun p hp b => ?_]
        rcases (utf8Row_spec hr).2.2 p hp with rfl | rfl | rfl
        · exact isCont_swapByte b
        · simp only [second3, isCont_swapByte, range_swapByte 160 191 (by decide), range_swapByte 128 159 (by decide)]
        · simp only [second4, isCont_swapByte, range_swapByte 144 191 (by decide), range_swapByte 128 143 (by decide)]
    · have low : ∀ x : UInt8, x ≤ 10 → x < 0x80 := fun x hx => UInt8.lt_of_le_of_lt hx (by decide)
      rw [charLen_ascii _ _ (low _ h1), charLen_ascii _ _ (low _ h2)]

theorem utf8Chars_swap_some {l : Bytes} {cs : List Bytes} (h : utf8Chars l = some cs) :
    utf8Chars (swap l) = some (cs.map swap) := by
  obtain ⟨rfl, hc⟩ := (utf8Chars_iff l cs).1 h
  refine (utf8Chars_iff _ _).2 ⟨List.map_flatten.symm, fun c hc' => ?_⟩
  obtain ⟨c0, h0, rfl⟩ := List.mem_map.1 hc'
  rw [charLen_swap, swap_length]
  exact hc c0 h0

theorem utf8Chars_swap (l : Bytes) : utf8Chars (swap l) = (utf8Chars l).map (List.map swap) := by
  cases h : utf8Chars l with
  | some cs => exact utf8Chars_swap_some h
  | none =>
    cases h' : utf8Chars (swap l) with
    | none => rfl
    | some cs' => cases h.symm.trans (swap_swap l ▸ utf8Chars_swap_some h')

theorem validUtf8_swap (l : Bytes) : validUtf8 (swap l) = validUtf8 l := by
  simp [validUtf8, utf8Chars_swap]

theorem boundariesFrom_map_swap : ∀ (cs : List Bytes) (pos : Nat),
    boundariesFrom pos (cs.map (List.map swapByte)) = boundariesFrom pos cs
  | [], _ => rfl
  | c :: t, pos => by
    simp only [List.map_cons, boundariesFrom, List.length_map, boundariesFrom_map_swap t]

theorem charMatches_swap (l : Bytes) : charMatches (swap l) = charMatches l := by
  unfold charMatches
  rw [utf8Chars_swap]
  cases utf8Chars l with
  | none => rfl
  | some cs =>
    simp only [Option.map_some]
    rw [show List.map swap cs = cs.map (List.map swapByte) from rfl, boundariesFrom_map_swap]

/-- the domain of C11 for `-c`: the regex is `charsBag`.  (`parse_args` leaves the delimiter empty
    in this mode, tuc.rs:108, which meets `delimiter`.) -/
structure NoLfNulChars (o : Opt) : Prop where
  delimiter : NoLfNul o.delimiter
  replace : ∀ r, o.replaceDelimiter = some r → NoLfNul r
  fallbackOob : ∀ f, o.fallbackOob = some f → NoLfNul f
  fillers : ∀ f, BoF.filler f ∈ o.bounds.list → NoLfNul f
  fallbacks : ∀ b f, BoF.bound b ∈ o.bounds.list → b.fallback = some f → NoLfNul f
  bag : o.regexBag = some charsBag
  noJson : o.json = false

theorem NoLfNulChars.lits {o : Opt} (h : NoLfNulChars o) : NoLfNulLits o where
  replace := h.replace
  fallbackOob := h.fallbackOob
  fillers := h.fillers
  fallbacks := h.fallbacks
  regex := by
    intro bag hb l
    rw [h.bag] at hb
    cases hb
    exact ⟨charMatches_swap l, charMatches_swap l⟩
  noJson := h.noJson

/-- **C11, `-c`** (for every input, UTF-8 or not: the model's "no match" on text that is not
    UTF-8 is symmetric too). -/
theorem readAndCutStr_swap_chars {o : Opt} (h : NoLfNulChars o) (input : Bytes) :
    readAndCutStr o.swapped (swap input) = (readAndCutStr o input).mapOut swap := by
  rw [← Opt.swappedAll_eq_swapped h.delimiter]
  exact readAndCutStr_swapAll h.lits input

section lines
variable {σ : UInt8 → UInt8}

theorem lineJoiner_mapLit (e : EOL) (o : Opt) (he : e.byte = σ o.eol.byte) (rest : List BoF) :
    lineJoiner (o.mapLit σ e) rest = (lineJoiner o rest).map σ := by
  unfold lineJoiner
  simp_mapLit [he]
  split <;> rfl

theorem fwdLine_map (e : EOL) (o : Opt) (he : e.byte = σ o.eol.byte) (line : Bytes) (idx : Int) :
    ∀ (l : List BoF) (addNl : Bool), (∀ b ∈ l, BoFFixed σ b) →
      fwdLine (o.mapLit σ e) (line.map σ) idx l addNl =
        ((fwdLine o line idx l addNl).1.map σ, (fwdLine o line idx l addNl).2.1,
          (fwdLine o line idx l addNl).2.2)
  | [], _, _ => rfl
  | .filler f :: t, addNl, h => by
    have ih := fwdLine_map e o he line idx t addNl (List.forall_mem_cons.1 h).2
    have hf : f.map σ = f := (List.forall_mem_cons.1 h).1
    simp only [fwdLine, ih, lineJoiner_mapLit e o he, List.map_append, hf]
  | .bound b :: t, addNl, h => by
    have ih := fwdLine_map e o he line idx t false (List.forall_mem_cons.1 h).2
    simp_mapLit [fwdLine, he, ih, lineJoiner_mapLit e o he]
    -- the two `if`s of this arm (the bound matches the line; it ends on it); in each of the two arms that write,
    -- `add_newline_next` decides whether the terminator goes in front of the line
    refine ite_map (fun x : Bytes × List BoF × Bool => (x.1.map σ, x.2)) (ite_map
      (fun x : Bytes × List BoF × Bool => (x.1.map σ, x.2)) ?_ ?_) rfl <;>
      cases addNl <;> simp only [List.map_append] <;> rfl

theorem fwdLine_rest_mem (o : Opt) (line : Bytes) (idx : Int) (l : List BoF) (addNl : Bool) :
    ∀ b ∈ (fwdLine o line idx l addNl).2.1, b ∈ l := by
  fun_induction fwdLine o line idx l addNl with
  -- `[]`; a bound that matches and goes on; a bound that does not match: the list is handed back whole
  | case1 | case4 | case5 => exact fun _ h => h
  -- a filler; a bound that ends on this line: the head is consumed and the walk goes on in the tail
  | case2 _ _ _ _ _ _ e ih | case3 _ _ _ _ _ _ _ _ _ e ih =>
    exact fun b hb => List.mem_cons_of_mem _ (ih b (e ▸ hb))

theorem fwdEnd_map (e : EOL) (o : Opt) (he : e.byte = σ o.eol.byte)
    (hoob : ∀ f, o.fallbackOob = some f → f.map σ = f) :
    ∀ (l : List BoF) (a : Bool), (∀ b ∈ l, BoFFixed σ b) →
      fwdEnd (o.mapLit σ e) l a = (fwdEnd o l a).mapOut (List.map σ)
  | [], _, _ => by simp [fwdEnd, he]
  | .filler f :: t, a, h => by
    have ih := fwdEnd_map e o he hoob t a (List.forall_mem_cons.1 h).2
    have hf : f.map σ = f := (List.forall_mem_cons.1 h).1
    simp only [fwdEnd, ih, lineJoiner_mapLit e o he, Run.mapOut_pre, List.map_append, hf]
  | .bound b :: t, a, h => by
    have ih := fwdEnd_map e o he hoob t false (List.forall_mem_cons.1 h).2
    have hb : ∀ f, b.fallback = some f → f.map σ = f := (List.forall_mem_cons.1 h).1
    simp_mapLit [fwdEnd, ih, lineJoiner_mapLit e o he]
    exact ite_map _ (ite_map _ rfl (Run.mapOut_pre σ _ _).symm)
      (fallbackRule_map hb hoob _ _ fun f => by rw [Run.mapOut_pre, List.map_append])

theorem stripEol_map (hσ : Function.Injective σ) (eol : UInt8) (l : Bytes) :
    stripEol (σ eol) (l.map σ) = (stripEol eol l).map σ := by
  unfold stripEol
  rw [List.getLast?_map]
  cases l.getLast? with
  | none => rfl
  | some c =>
    simp only [Option.map_some]
    by_cases h : c = eol
    · subst h; simp [List.map_dropLast]
    · have h' : σ c ≠ σ eol := fun e => h (hσ e)
      simp [h, h']

theorem fwdLines_map {o : Opt} (ho : OptFixed σ o)
    (hv : ∀ l : Bytes, validUtf8 (l.map σ) = validUtf8 l) (e : EOL) (he : e.byte = σ o.eol.byte) :
    ∀ (recs : List Bytes) (idx : Int) (rest : List BoF) (a : Bool),
      (∀ b ∈ rest, BoFFixed σ b) →
      fwdLines (o.mapLit σ e) (recs.map (List.map σ)) idx rest a =
        (fwdLines o recs idx rest a).mapOut (List.map σ)
  | [], idx, rest, a, hr => by
    simp only [List.map_nil, fwdLines]
    exact fwdEnd_map e o he ho.fallbackOob rest a hr
  | line :: t, idx, rest, a, hr => by
    have hl := fwdLine_map e o he line (idx + 1) rest a hr
    have hrest : ∀ b ∈ (fwdLine o line (idx + 1) rest a).2.1, BoFFixed σ b :=
      fun b hb => hr b (fwdLine_rest_mem o line (idx + 1) rest a b hb)
    have ih := fwdLines_map ho hv e he t (idx + 1) (fwdLine o line (idx + 1) rest a).2.1
      (fwdLine o line (idx + 1) rest a).2.2 hrest
    simp_mapLit [List.map_cons, fwdLines, hv line, hl, ih, he]
    refine ite_map _ rfl (ite_map _ ?_ (Run.mapOut_pre σ _ _).symm)
    simp only [Run.mapOut_ok, List.map_append, List.map_cons, List.map_nil]

theorem cutLinesForwardOnly_map (hσ : Function.Injective σ) {o : Opt} (ho : OptFixed σ o)
    (hv : ∀ l : Bytes, validUtf8 (l.map σ) = validUtf8 l) (e : EOL) (he : e.byte = σ o.eol.byte)
    (input : Bytes) :
    cutLinesForwardOnly (o.mapLit σ e) (input.map σ) =
      (cutLinesForwardOnly o input).mapOut (List.map σ) := by
  unfold cutLinesForwardOnly
  rw [Opt.mapLit_eol, he, records_map hσ]
  exact fwdLines_map ho hv e he _ 0 _ false ho.bounds

theorem cutLines_map (hσ : Function.Injective σ) {o : Opt} (ho : OptFixed σ o)
    (hv : ∀ l : Bytes, validUtf8 (l.map σ) = validUtf8 l) (e : EOL) (he : e.byte = σ o.eol.byte)
    (input : Bytes) :
    cutLines (o.mapLit σ e) (input.map σ) = (cutLines o input).mapOut (List.map σ) := by
  unfold cutLines
  rw [hv]
  split
  · rfl
  · have hc := cutStrCore_map hσ ho e (stripEol o.eol.byte input) [o.eol.byte]
    rwa [List.map_cons, List.map_nil, ← stripEol_map hσ, ← he] at hc

/-- **`-l` is natural in `σ`** (both algorithms), for a `σ` that the UTF-8 test of the line reader
    does not see -/
theorem readAndCutLines_map (hσ : Function.Injective σ) {o : Opt} (ho : OptFixed σ o)
    (hv : ∀ l : Bytes, validUtf8 (l.map σ) = validUtf8 l) (e : EOL) (he : e.byte = σ o.eol.byte)
    (input : Bytes) :
    readAndCutLines (o.mapLit σ e) (input.map σ) = (readAndCutLines o input).mapOut (List.map σ) := by
  unfold readAndCutLines
  simp_mapLit []
  split
  · exact cutLinesForwardOnly_map hσ ho hv e he input
  · exact cutLines_map hσ ho hv e he input

end lines

/-- **C11, `-l`** (both algorithms, every input).  `o.swappedAll` also exchanges LF and NUL in the
    delimiter: in line mode the delimiter is the terminator. -/
theorem readAndCutLines_swap {o : Opt} (h : NoLfNulLits o) (input : Bytes) :
    readAndCutLines o.swappedAll (swap input) = (readAndCutLines o input).mapOut swap :=
  readAndCutLines_map swapByte_injective h.fixed validUtf8_swap o.eol.swap (EOL.swap_byte o.eol) input

/-- `readAndCutLines_swap` again; the hypothesis that the list is served by the buffered algorithm
    is not used. -/
theorem readAndCutLines_swap_buffered {o : Opt} (h : NoLfNulLits o) (input : Bytes)
    (_hb : (!o.complement && !o.compressDelimiter && isForwardOnly o.bounds.list) = false) :
    readAndCutLines o.swappedAll (swap input) = (readAndCutLines o input).mapOut swap :=
  readAndCutLines_swap h input

/-! ## Byte mode (`-b`, `read_and_cut_bytes`)

Not an engine "that reads records or lines": neither the terminator nor the delimiter is read, so
the statement is about any two option records with the same bounds and `--fallback-oob`. -/

section bytes
variable {σ : UInt8 → UInt8}

theorem cutBytesLoop_map {o o' : Opt} (hfb : o'.fallbackOob = o.fallbackOob)
    (hoob : ∀ f, o.fallbackOob = some f → f.map σ = f) (data : Bytes) :
    ∀ l : List BoF, (∀ b ∈ l, BoFFixed σ b) →
      cutBytesLoop (data.map σ) o' l = (cutBytesLoop data o l).mapOut (List.map σ)
  | [], _ => rfl
  | x :: t, h => by
    have ih := cutBytesLoop_map hfb hoob data t fun b hb => h b (List.mem_cons_of_mem _ hb)
    have hx : BoFFixed σ x := h x (List.mem_cons_self ..)
    cases x with
    | filler f => rw [cutBytesLoop, cutBytesLoop, ih, Run.mapOut_pre, show f.map σ = f from hx]
    | bound b =>
      simp only [cutBytesLoop, List.length_map, hfb]
      cases b.tryIntoRange data.length with
      | some p =>
        dsimp only
        split
        · rw [ih, Run.mapOut_pre, slice_map]
        · rfl
      | none =>
        exact fallbackRule_map hx hoob (fun f => Run.pre f (cutBytesLoop data o t))
          (fun f => Run.pre f (cutBytesLoop (data.map σ) o' t)) fun f => by rw [ih, Run.mapOut_pre]

theorem readAndCutBytes_map {o o' : Opt} (hb : o'.bounds = o.bounds) (hfb : o'.fallbackOob = o.fallbackOob)
    (hoob : ∀ f, o.fallbackOob = some f → f.map σ = f) (hbs : ∀ b ∈ o.bounds.list, BoFFixed σ b)
    (data : Bytes) :
    readAndCutBytes o' (data.map σ) = (readAndCutBytes o data).mapOut (List.map σ) := by
  unfold readAndCutBytes
  rw [List.isEmpty_map, hb]
  split
  · rfl
  · exact cutBytesLoop_map hfb hoob data _ hbs

end bytes

/-- **C11, `-b`**: the terminator plays no role there, `-z` only renames the bytes -/
theorem readAndCutBytes_swap {o : Opt} (h : NoLfNulLits o) (data : Bytes) :
    readAndCutBytes o.swapped (swap data) = (readAndCutBytes o data).mapOut swap :=
  readAndCutBytes_map (o := o) (o' := o.swapped) rfl rfl h.fixed.fallbackOob h.fixed.bounds data

/-- `FastOpt::try_from` reads the terminator only to copy it -/
theorem fastOptOf_swapped (o : Opt) : fastOptOf o.swapped = (fastOptOf o).map FastOpt.swapped := by
  unfold fastOptOf Opt.swapped
  dsimp only
  rcases o.delimiter with _ | ⟨d, _ | ⟨d2, t⟩⟩
  · rfl
  · dsimp only
    cases (o.complement || o.greedyDelimiter || o.compressDelimiter || o.json
        || o.boundsType != .fields || o.replaceDelimiter.isSome || o.regexBag.isSome) <;> rfl
  · rfl

theorem NoLfNulOpt.fast {o : Opt} (h : NoLfNulOpt o) {fo : FastOpt} (hf : fastOptOf o = some fo) :
    NoLfNulFast fo := by
  have F := fastOptOf_facts hf
  refine ⟨h.delimiter _ (F.delimiter ▸ List.mem_singleton_self _), ?_, ?_, ?_⟩
  · rw [F.fallback]; exact h.fallbackOob
  · rw [F.bounds]; exact h.fillers
  · rw [F.bounds]; exact h.fallbacks

/-- `StreamOpt::try_from` reads the terminator only to copy it -/
theorem streamOptOf_swapped (o : Opt) :
    streamOptOf o.swapped = (streamOptOf o).map StreamOpt.swapped := by
  rw [OptLit.streamOptOf_nf, OptLit.streamOptOf_nf, show OptLit.streamFlagsOk o.swapped = OptLit.streamFlagsOk o from rfl,
    show o.swapped.bounds = o.bounds from rfl]
  split
  · cases forwardBoundsOf o.bounds with
    | none => rfl
    | some bs =>
      simp only [Option.bind_some]
      cases lastBoundRight (boundsOnly bs) <;> rfl
  · rfl

theorem NoLfNulOpt.streamFixed {o : Opt} (h : NoLfNulOpt o) {so : StreamOpt}
    (hs : streamOptOf o = some so) : StreamFixed swapByte so := by
  have F := streamOptOf_facts o so hs
  have hdd := h.delimiter so.delimiter (F.delimiter ▸ List.mem_singleton_self _)
  refine ⟨swapByte_of_ne hdd.1 hdd.2, ?_, ?_,
    markLast_fixed _ _ (forwardBoundsOf_facts _ _ F.bounds).marked h.lits.fixed.bounds⟩
  · intro r hrr
    have := h.replace [r] (by rw [F.replace, hrr]; rfl) r (List.mem_singleton_self _)
    exact swapByte_of_ne this.1 this.2
  · intro f hff
    exact swap_of_noLfNul (h.fallbackOob f (F.fallback ▸ hff))

/-- **C11, field mode, whichever engine `main` picks**: if the fast lane applies to `o` (as `fo`), it
    applies to `o` with `-z` toggled (as `fo.swapped`), and the two runs correspond.  (That it
    applies to both or to neither is `fastOptOf_swapped`.) -/
theorem fieldMode_fast_swap {o : Opt} (h : NoLfNulOpt o) {fo : FastOpt} (hf : fastOptOf o = some fo)
    (input : Bytes) :
    fastOptOf o.swapped = some fo.swapped ∧
      readAndCutFast fo.swapped (swap input) = (readAndCutFast fo input).mapOut swap :=
  ⟨by rw [fastOptOf_swapped, hf]; rfl, readAndCutFast_swap (h.fast hf) input⟩

/-- **C11, field mode, `-M`**: if the fixed-memory cutter applies to `o` (as `so`), it applies to `o`
    with `-z` toggled (as `so.swapped`), and the two runs correspond for every read segmentation. -/
theorem fieldMode_stream_swap {o : Opt} (h : NoLfNulOpt o) {so : StreamOpt}
    (hs : streamOptOf o = some so) (segs : List Bytes) :
    streamOptOf o.swapped = some so.swapped ∧
      cutBytesStream so.swapped (segs.map swap) = (cutBytesStream so segs).mapOut swap :=
  ⟨by rw [streamOptOf_swapped, hs]; rfl, cutBytesStream_swap_of_fixed (h.streamFixed hs) segs⟩

section examples

/-- `-d - -f 2,1` -/
def exOpt : Opt :=
  { delimiter := [45],
    bounds := { list := [.bound { l := .some 2, r := .some 2 },
                         .bound { l := .some 1, r := .some 1, isLast := true }],
                lastInteresting := .some 2 } }

/-- `a-b\nc-d\n` -/
def exInput : Bytes := [97, 45, 98, 10, 99, 45, 100, 10]

example : readAndCutStr exOpt exInput = ⟨[98, 97, 10, 100, 99, 10], .ok⟩ := by decide
example : readAndCutStr exOpt.swapped (swap exInput) = ⟨[98, 97, 0, 100, 99, 0], .ok⟩ := by decide
example : readAndCutStr exOpt.swapped (swap exInput) = (readAndCutStr exOpt exInput).mapOut swap := by
  decide

/-- `-l 1` (the delimiter of line mode is the terminator, tuc.rs:254–257) -/
def exLines : Opt :=
  { delimiter := [10], boundsType := .lines, join := true,
    bounds := { list := [.bound { l := .some 1, r := .some 1, isLast := true }],
                lastInteresting := .some 1 } }

/-- a line that is not UTF-8 is rejected in both modes -/
example : readAndCutLines exLines [0xFF, 10] = ⟨[], .fail⟩ ∧
    readAndCutLines exLines.swappedAll (swap [0xFF, 10]) = ⟨[], .fail⟩ := by decide

example : readAndCutLines exLines.swappedAll (swap [97, 10, 98, 10]) =
    (readAndCutLines exLines [97, 10, 98, 10]).mapOut swap := by decide

end examples

end Tuc
