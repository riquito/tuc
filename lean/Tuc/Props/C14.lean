import Tuc.Model.Faults
import Tuc.Lemmas.Run
import Tuc.Lemmas.FastScan
import Tuc.Props.C10
import Tuc.Props.C04
/-!
# C14 — failures are reported, never swallowed, and never corrupt earlier output

Write side: `deliver` (a writer that accepts so many bytes and then fails).  Read side:
`dispatchReadFault` (the reader fails after the reads `segs`); `readFault_cases` puts the engines
side by side, and the statements are read off it: the exit status is not 0 — except for `-l` served
one line at a time when every bound had been served before the fault (the reader is never called
again; then the run is exactly the fault-free run on any continuation) —, and what was delivered is
a prefix of the fault-free output on the whole input: for any option record when that run reads the
same pieces up to the fault, in whatever pieces it reads the input when the bounds come from the
parser (`-M`: C04).  A record that fails leaves the complete output of every earlier record in place
(general engine and fast lane, from C10).
-/
namespace Tuc

/-- whatever the fault position, what reaches stdout is a prefix of the fault-free output -/
theorem deliver_prefix (r : Run) (lim : Option Nat) : (deliver r lim).out <+: r.out := by
  unfold deliver
  cases lim with
  | none => exact List.prefix_refl _
  | some k =>
    simp only []
    split
    · exact List.prefix_refl _
    · exact List.take_prefix _ _

/-- a write fault that cuts anything off never ends in a successful exit -/
theorem deliver_cut_fails (r : Run) (k : Nat) (h : k < r.out.length) :
    (deliver r (some k)).status ≠ .ok := by
  unfold deliver
  have : ¬ (r.out.length ≤ k) := by omega
  simp only [this, if_false]
  cases hs : r.status <;> simp

/-- when a run succeeds, all of its output has been delivered -/
theorem success_complete (r : Run) (lim : Option Nat) (h : (deliver r lim).status = .ok) :
    deliver r lim = r := by
  unfold deliver at h ⊢
  cases lim with
  | none => rfl
  | some k =>
    simp only [] at h ⊢
    split
    · rfl
    · rename_i hk
      simp only [hk, if_false] at h
      cases hs : r.status <;> simp [hs] at h

/-- a fault never turns a failure into a success, and never produces a panic -/
theorem deliver_status (r : Run) (lim : Option Nat) :
    (deliver r lim).status = r.status ∨ ((deliver r lim).status = .fail ∧ r.status = .ok) := by
  unfold deliver
  cases lim with
  | none => exact Or.inl rfl
  | some k =>
    simp only []
    split
    · exact Or.inl rfl
    · cases hs : r.status <;> simp

theorem deliver_safe (r : Run) (lim : Option Nat) (h : r.Safe) : (deliver r lim).Safe := by
  rcases deliver_status r lim with e | ⟨e, -⟩
  · rw [Run.Safe, e]; exact h
  · exact Or.inr e

theorem thenReadError_not_ok (r : Run) : r.thenReadError.status ≠ .ok := by
  unfold Run.thenReadError
  cases hs : r.status <;> simp [hs]

theorem thenReadError_out (r : Run) : r.thenReadError.out = r.out := by
  unfold Run.thenReadError
  cases hs : r.status <;> simp

theorem completeRecords_def (eol : UInt8) (pre : Bytes) :
    completeRecords eol pre =
      match pre.getLast? with
      | some c => if c = eol then records eol pre else (records eol pre).dropLast
      | none => records eol pre := rfl

theorem completeRecords_of_noeol (eol : UInt8) (l : Bytes) (h : ∀ c ∈ l, c ≠ eol) :
    completeRecords eol l = [] := by
  rw [completeRecords_def, records_of_noeol eol l h]
  cases hl : l.getLast? with
  | none => rw [List.getLast?_eq_none_iff.1 hl]; rfl
  | some c =>
    dsimp only
    rw [if_neg (h c (List.mem_of_getLast? hl))]
    split <;> rfl

theorem completeRecords_of_eol (eol : UInt8) (l rest : Bytes) (h : ∀ c ∈ l, c ≠ eol) :
    completeRecords eol (l ++ eol :: rest) = l :: completeRecords eol rest := by
  rw [completeRecords_def, completeRecords_def, records_of_eol eol l rest h]
  cases rest with
  | nil => simp [records, splitRecords]
  | cons c t =>
    have hne : records eol (c :: t) ≠ [] := fun e => nomatch (records_eq_nil_iff eol _).1 e
    rw [List.getLast?_append, List.getLast?_cons_cons,
      List.getLast?_eq_some_getLast (List.cons_ne_nil c t), Option.some_or]
    dsimp only
    split
    · rfl
    · exact List.dropLast_cons_of_ne_nil hne

theorem completeRecords_prefix (eol : UInt8) (pre rest : Bytes) :
    completeRecords eol pre <+: records eol (pre ++ rest) := by
  induction pre using lines_ind (eol := eol) with
  | last l h => rw [completeRecords_of_noeol eol l h]; exact List.nil_prefix
  | step l r h ih =>
    rw [completeRecords_of_eol eol l r h, List.append_assoc, List.cons_append,
      records_of_eol eol l _ h]
    exact (List.prefix_cons_inj _).2 ih

theorem cutRecords_prefix (o : Opt) (rs rs' : List Bytes) (h : rs <+: rs') :
    (cutRecords o rs [] []).out <+: (cutRecords o rs' [] []).out := by
  simp only [cutRecords_eq_seqMap]; exact Run.seqMap_out_prefix _ h

theorem fastRecords_prefix (fo : FastOpt) (lif : Side) (rs rs' : List Bytes) (h : rs <+: rs') :
    (fastRecords fo lif rs []).out <+: (fastRecords fo lif rs' []).out := by
  simp only [fastRecords_eq_seqMap]; exact Run.seqMap_out_prefix _ h

/-- the two machines without the EOF step write the same: `streamRunOpen` stops at a failed step,
    `streamRunPrefix` (C10) goes on stepping and `Run.seq` drops what follows -/
theorem streamRunOpen_fst (o : StreamOpt) :
    ∀ (l : List (UInt8 × Bool)) (st : SState), (streamRunOpen o st l).1 = (streamRunPrefix o st l).1
  | [], _ => rfl
  | (c, last) :: t, st => by
    simp only [streamRunOpen, streamRunPrefix]
    cases hs : (streamStep o st c last).1.status
    case ok => simp only; rw [streamRunOpen_fst o t]
    all_goals simp only; rw [Run.seq_of_not_ok _ _ (by rw [hs]; simp)]

/-- **`-M` is monotone**: what has been written when the reader fails after the reads `segsPre`
    is the beginning of what is written when it goes on with `segsRest` -/
theorem stream_monotone (so : StreamOpt) (segsPre segsRest : List Bytes) :
    (streamRunOpen so {} (tagSegments segsPre)).1.out <+:
      (cutBytesStream so (segsPre ++ segsRest)).out := by
  unfold cutBytesStream
  rw [tagSegments_append, streamRun_append, streamRunOpen_fst]
  exact Run.seq_out_prefix _ _

theorem fwdLinesOpen_spec (o : Opt) (more : List Bytes) :
    ∀ (ls : List Bytes) (idx : Int) (rest : List BoF) (a : Bool),
      (fwdLinesOpen o ls idx rest a).1.out <+: (fwdLines o (ls ++ more) idx rest a).out ∧
      ((fwdLinesOpen o ls idx rest a).2 = true →
        fwdLines o (ls ++ more) idx rest a = (fwdLinesOpen o ls idx rest a).1 ∧
          (fwdLinesOpen o ls idx rest a).1.status = .ok) := by
  intro ls
  induction ls with
  | nil => intro idx rest a; exact ⟨List.nil_prefix, nofun⟩
  | cons line t ih =>
    intro idx rest a
    simp only [fwdLinesOpen, List.cons_append, fwdLines]
    split
    · exact ⟨List.prefix_refl _, nofun⟩
    · split
      · exact ⟨List.prefix_refl _, fun _ => ⟨rfl, rfl⟩⟩
      · have := ih (idx + 1) (fwdLine o line (idx + 1) rest a).2.1 (fwdLine o line (idx + 1) rest a).2.2
        exact ⟨Run.pre_out_prefix this.1, fun h => ⟨by rw [(this.2 h).1], (this.2 h).2⟩⟩

theorem dispatchReadFault_fixedMemory (o : Opt) (segs : List Bytes) :
    dispatchReadFault o true segs =
      (streamOptOf o).map fun so => (streamRunOpen so {} (tagSegments segs)).1.thenReadError := by
  unfold dispatchReadFault
  cases streamOptOf o <;> rfl

theorem dispatchReadFault_of_bytes {o : Opt} (h : o.boundsType = .bytes) (segs : List Bytes) :
    dispatchReadFault o false segs = some Run.fail := by
  simp only [dispatchReadFault, Bool.false_eq_true, if_false, if_pos h]

theorem dispatchReadFault_of_lines {o : Opt} (h : o.boundsType = .lines) (segs : List Bytes) :
    dispatchReadFault o false segs =
      some (if !o.complement && !o.compressDelimiter && isForwardOnly o.bounds.list then
        if (fwdLinesOpen o (completeRecords o.eol.byte segs.flatten) 0 o.bounds.list false).2 then
          (fwdLinesOpen o (completeRecords o.eol.byte segs.flatten) 0 o.bounds.list false).1
        else (fwdLinesOpen o (completeRecords o.eol.byte segs.flatten) 0 o.bounds.list false).1.thenReadError
      else Run.fail) := by
  simp only [dispatchReadFault, h, Bool.false_eq_true, if_false, reduceCtorEq, if_true]
  split <;> rfl

theorem dispatchReadFault_of_fields {o : Opt} (hb : o.boundsType ≠ .bytes) (hl : o.boundsType ≠ .lines)
    (segs : List Bytes) :
    dispatchReadFault o false segs =
      some (match fastOptOf o with
        | some fo =>
          fastRecords fo fo.bounds.lastInteresting (completeRecords o.eol.byte segs.flatten) []
        | none => cutRecords o (completeRecords o.eol.byte segs.flatten) [] []).thenReadError := by
  simp only [dispatchReadFault, Bool.false_eq_true, if_false, if_neg hb, if_neg hl]
  cases fastOptOf o <;> rfl

/-- **The engines at a read fault, side by side.**  Either `-M` rejects the options, with or without
    fault; or there are the fault-free run `E` of the engine (a function of the reads) and a run
    `r` — what the engine did before the fault — such that the faulted run is `r` followed by the
    read error, and `r.out` begins the output of every fault-free run that goes on reading.
    `served`: the one-line-at-a-time `-l` loop had left before the fault; then the run is `r`. -/
theorem readFault_cases (o : Opt) (M : Bool) (segs : List Bytes) :
    (dispatchReadFault o M segs = none ∧ ∀ segs', dispatch o M segs' = none) ∨
    ∃ (r : Run) (served : Bool) (E : List Bytes → Run),
      dispatchReadFault o M segs = some (if served then r else r.thenReadError) ∧
      (∀ segs', dispatch o M segs' = some (E segs')) ∧
      (∀ rest, r.out <+: (E (segs ++ rest)).out) ∧
      (served = true → M = false ∧ o.boundsType = .lines ∧
        (!o.complement && !o.compressDelimiter && isForwardOnly o.bounds.list) = true ∧
        fwdLinesOpen o (completeRecords o.eol.byte segs.flatten) 0 o.bounds.list false = (r, true)) := by
  cases M with
  | true =>
    rw [dispatchReadFault_fixedMemory]
    cases hso : streamOptOf o with
    | none => exact Or.inl ⟨rfl, fun _ => by rw [dispatch_fixedMemory, hso]; rfl⟩
    | some so =>
      exact Or.inr ⟨_, false, cutBytesStream so, rfl, fun _ => by rw [dispatch_fixedMemory, hso]; rfl,
        stream_monotone so segs, nofun⟩
  | false =>
    have hpre := fun rest : List Bytes => completeRecords_prefix o.eol.byte segs.flatten rest.flatten
    by_cases hb : o.boundsType = .bytes
    · -- `read_to_end` fails before anything is cut
      exact Or.inr ⟨Run.empty, false, _, dispatchReadFault_of_bytes hb segs, (dispatch_bytes o · hb),
        fun _ => List.nil_prefix, nofun⟩
    · by_cases hlines : o.boundsType = .lines
      · rw [dispatchReadFault_of_lines hlines]
        by_cases hfw : (!o.complement && !o.compressDelimiter && isForwardOnly o.bounds.list) = true
        · refine Or.inr ⟨_, _, _, by rw [if_pos hfw], (dispatch_lines o · hlines), fun rest => ?_,
            fun hd => ⟨rfl, hlines, hfw, Prod.ext rfl hd⟩⟩
          obtain ⟨more, hmore⟩ := hpre rest
          rw [readAndCutLines, if_pos hfw, cutLinesForwardOnly, List.flatten_append, ← hmore]
          exact (fwdLinesOpen_spec o more _ 0 o.bounds.list false).1
        · exact Or.inr ⟨Run.empty, false, _, by rw [if_neg hfw]; rfl, (dispatch_lines o · hlines),
            fun _ => List.nil_prefix, nofun⟩
      · refine Or.inr ⟨_, false, _, dispatchReadFault_of_fields hb hlines segs,
          dispatch_of_fields hb hlines, fun rest => ?_, nofun⟩
        rw [List.flatten_append]
        cases hfo : fastOptOf o with
        | some fo =>
          show (fastRecords fo _ _ []).out <+: (readAndCutFast fo _).out
          rw [readAndCutFast, (fastOptOf_facts hfo).eol]
          exact fastRecords_prefix fo _ _ _ (hpre rest)
        | none => exact cutRecords_prefix o _ _ (hpre rest)

/-- **C14, read faults are never swallowed.**  Whatever the mode, when the reader fails the exit
    status is not 0 — with one exception: `-l` read one line at a time, when every bound had been
    served by the lines read before the fault; the loop has left by then and the reader is never
    called again. -/
theorem read_fault_not_ok (o : Opt) (M : Bool) (segs : List Bytes) (r : Run)
    (h : dispatchReadFault o M segs = some r) :
    r.status ≠ .ok ∨
    (M = false ∧ o.boundsType = .lines ∧
      (!o.complement && !o.compressDelimiter && isForwardOnly o.bounds.list) = true ∧
      fwdLinesOpen o (completeRecords o.eol.byte segs.flatten) 0 o.bounds.list false = (r, true)) := by
  rcases readFault_cases o M segs with ⟨hn, _⟩ | ⟨r₀, served, _, hr, _, _, hs⟩
  · rw [hn] at h; cases h
  · rw [hr, Option.some.injEq] at h
    subst h
    cases served with
    | true => exact Or.inr (hs rfl)
    | false => exact Or.inl (thenReadError_not_ok _)

/-- …and in the exceptional case nothing is lost: the run is a success and it is exactly the
    fault-free run on the input continued in any way (`rest` = what the reader would have gone on
    to deliver) -/
theorem read_fault_served (o : Opt) (pre rest : Bytes) (r : Run)
    (hlines : o.boundsType = .lines)
    (hfw : (!o.complement && !o.compressDelimiter && isForwardOnly o.bounds.list) = true)
    (h : fwdLinesOpen o (completeRecords o.eol.byte pre) 0 o.bounds.list false = (r, true)) :
    r.status = .ok ∧ ∀ segs' : List Bytes, segs'.flatten = pre ++ rest →
      dispatch o false segs' = some r := by
  obtain ⟨more, hmore⟩ := completeRecords_prefix o.eol.byte pre rest
  have := (fwdLinesOpen_spec o more (completeRecords o.eol.byte pre) 0 o.bounds.list false).2
  rw [h] at this
  replace this := this rfl
  refine ⟨this.2, ?_⟩
  intro segs' hsegs
  rw [dispatch_lines o _ hlines, hsegs, readAndCutLines, if_pos hfw, cutLinesForwardOnly, ← hmore, this.1]

/-- **C14, read faults: monotonicity.**  The reader fails after the reads `segsPre`; had it gone on
    with `segsRest`, the output would have started with exactly the bytes delivered before the
    fault. -/
theorem read_fault_prefix (o : Opt) (M : Bool) (segsPre segsRest : List Bytes) (r r' : Run)
    (h : dispatchReadFault o M segsPre = some r)
    (h' : dispatch o M (segsPre ++ segsRest) = some r') : r.out <+: r'.out := by
  rcases readFault_cases o M segsPre with ⟨hn, _⟩ | ⟨r₀, served, E, hr, hE, hp, _⟩
  · rw [hn] at h; cases h
  · rw [hr, Option.some.injEq] at h
    rw [hE, Option.some.injEq] at h'
    subst h h'
    cases served
    · rw [if_neg Bool.false_ne_true, thenReadError_out]; exact hp segsRest
    · exact hp segsRest

/-- `read_fault_prefix` against the fault-free run on the whole input read in *any* pieces `segsAll`
    (for bounds that come from the parser: with `-M` this is chunk independence, C04) -/
theorem read_fault_prefix_any_segmentation (o : Opt) (f : List Char)
    (hf : boundsListOfString f = .ok o.bounds) (M : Bool) (segsPre segsAll : List Bytes)
    (rest : Bytes) (hall : segsAll.flatten = segsPre.flatten ++ rest) (r r' : Run)
    (h : dispatchReadFault o M segsPre = some r) (h' : dispatch o M segsAll = some r') :
    r.out <+: r'.out := by
  have hfl : segsAll.flatten = (segsPre ++ [rest]).flatten := by simp [hall]
  have : dispatch o M segsAll = dispatch o M (segsPre ++ [rest]) := by
    cases M with
    | true => exact dispatch_fixedMemory_chunk_independent o f hf _ _ hfl
    | false => exact dispatch_flatten o _ _ hfl
  rw [this] at h'
  exact read_fault_prefix o M segsPre [rest] r r' h h'

/-- a read fault and the fault-free run are rejected up front in the same cases -/
theorem read_fault_rejected_iff (o : Opt) (M : Bool) (segs segs' : List Bytes) :
    dispatchReadFault o M segs = none ↔ dispatch o M segs' = none := by
  rcases readFault_cases o M segs with ⟨hn, hd⟩ | ⟨_, _, _, hr, hE, _, _⟩
  · rw [hn, hd]
  · rw [hr, hE]; exact ⟨nofun, nofun⟩

/-- **C14, failing record.**  The output for `A ‖ B`, where `A` ends with an EOL, starts with the
    complete output for `A` — whether a record of `B` fails or not (and if cutting `A` went well
    the rest is the output for `B`: C10). -/
theorem failing_record (o : Opt) (a b : Bytes) :
    (readAndCutStr o (a ++ [o.eol.byte])).out <+: (readAndCutStr o (a ++ [o.eol.byte] ++ b)).out := by
  rw [readAndCutStr_append]
  exact Run.seq_out_prefix _ _

theorem failing_record_fast (fo : FastOpt) (a b : Bytes) :
    (readAndCutFast fo (a ++ [fo.eol.byte])).out <+:
      (readAndCutFast fo (a ++ [fo.eol.byte] ++ b)).out := by
  rw [readAndCutFast_append]
  exact Run.seq_out_prefix _ _

/-- the failure itself is reported: if cutting `A` went well, the run on `A ‖ B` ends with the status
    of the run on `B` (it fails if a record of `B` fails) and writes the output for `A`, then that
    for `B` -/
theorem failing_record_status (o : Opt) (a b : Bytes)
    (ha : (readAndCutStr o (a ++ [o.eol.byte])).status = .ok) :
    (readAndCutStr o (a ++ [o.eol.byte] ++ b)).status = (readAndCutStr o b).status ∧
    (readAndCutStr o (a ++ [o.eol.byte] ++ b)).out =
      (readAndCutStr o (a ++ [o.eol.byte])).out ++ (readAndCutStr o b).out := by
  rw [readAndCutStr_append]
  exact ⟨Run.seq_status_of_ok ha, Run.seq_out_of_ok ha⟩

/-! ### concrete data: `-f 2` over `a⇥b⏎c⏎…` -/

def c14Opt : Opt :=
  { delimiter := [9], bounds := ⟨[.bound { l := .some 2, r := .some 2, isLast := true }], .some 2⟩ }

/-- the general engine behind the same request (`-g` keeps it off the fast lane) -/
def c14OptGeneral : Opt := { c14Opt with greedyDelimiter := true }

-- the reader fails after `a⇥b⏎c⇥`: record 1 has been cut, the exit status is 1 …
example : dispatchReadFault c14Opt false [[97, 9, 98, 10], [99, 9]] = some ⟨[98, 10], .fail⟩ := by
  decide
-- … and `b⏎` is the beginning of what the fault-free run on `a⇥b⏎c⇥d⏎` prints
example : dispatch c14Opt false [[97, 9, 98, 10], [99, 9], [100, 10]] = some ⟨[98, 10, 100, 10], .ok⟩ := by
  decide
example : dispatchReadFault c14OptGeneral false [[97, 9, 98, 10], [99, 9]] = some ⟨[98, 10], .fail⟩ := by
  decide
example : dispatch c14OptGeneral false [[97, 9, 98, 10, 99, 9, 100, 10]]
    = some ⟨[98, 10, 100, 10], .ok⟩ := by decide
-- `-M`: the bytes of field 2 are printed as they arrive
example : dispatchReadFault c14Opt true [[97, 9, 98, 10], [99, 9, 100]] = some ⟨[98, 10, 100], .fail⟩ := by
  decide
example : dispatch c14Opt true [[97, 9, 98, 10], [99, 9, 100], [101, 10]]
    = some ⟨[98, 10, 100, 101, 10], .ok⟩ := by decide
-- a failing record: `c⏎` has no field 2; the output of record 1 is complete, the status is 1
example : readAndCutStr c14OptGeneral [97, 9, 98, 10, 99, 10, 100, 9, 101, 10] = ⟨[98, 10], .fail⟩ := by
  decide
example : readAndCutStr c14OptGeneral [97, 9, 98, 10] = ⟨[98, 10], .ok⟩ := by decide
example : dispatch c14Opt false [[97, 9, 98, 10, 99, 10, 100, 9, 101, 10]] = some ⟨[98, 10], .fail⟩ := by
  decide

end Tuc
