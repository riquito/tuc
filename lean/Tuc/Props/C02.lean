import Tuc.Model.CutStr
import Tuc.Model.FastLane
import Tuc.Lemmas.Records
import Tuc.Lemmas.Bounds
import Tuc.Lemmas.FastScan
import Tuc.Lemmas.CutStrSpec
/-!
# C02 — the one-byte fast path is indistinguishable from the general path

The eligibility test `fastOptOf` is exactly the documented domain (`fastOptOf_isSome_iff`; with
what is carried over: `fastOptOf_eq_some_iff` in `Tuc/Lemmas/FastScan.lean`).

The fast path keeps a vector of start offsets where the general path keeps ranges;
`StartsDescribe` says that the two describe the same fields, and then a bound prints the same on
both paths.  The `memchr` loop (compared with `find_iter` in `Tuc/Lemmas/FastScan.lean`) yields a
describing vector for all the fields or, when it stops after the `k`-th delimiter, for exactly the
first `k`.  The early stop is harmless: a positive early-stop field `k` means that every bound is
positive, closed on the right and `≤ k` there, and such a bound resolves the same against `k` and
against the real number of fields.  `-s` agrees since `curr_field = 0 ⇔ one field`.

The hypothesis "no index 0" is necessary (see the `example` after the main theorem); the parser
never produces the index 0.
-/
namespace Tuc

/-- the fast path is taken exactly for: a one-byte delimiter, field mode, and none of
    `-m -g -p --json -r -e` -/
theorem fastOptOf_isSome_iff (o : Opt) :
    (fastOptOf o).isSome ↔
      (∃ d, o.delimiter = [d]) ∧ o.complement = false ∧ o.greedyDelimiter = false ∧
      o.compressDelimiter = false ∧ o.json = false ∧ o.boundsType = .fields ∧
      o.replaceDelimiter = none ∧ o.regexBag.isSome = false := by
  simp only [Option.isSome_eq_false_iff, Option.isNone_iff_eq_none]
  constructor
  · intro h
    obtain ⟨fo, hfo⟩ := Option.isSome_iff_exists.1 h
    have F := fastOptOf_facts hfo
    exact ⟨⟨_, F.delimiter⟩, F.complement, F.greedy, F.compress, F.json, F.fields, F.replace, F.regex⟩
  · rintro ⟨⟨d, hd⟩, hg⟩
    rw [(fastOptOf_eq_some_iff o ⟨d, o.join, o.eol, o.bounds, o.onlyDelimited, o.trim,
      o.fallbackOob⟩).2 ⟨⟨hd, hg⟩, rfl, rfl, rfl, rfl, rfl, rfl⟩]
    rfl

/-- the fields described by a start-offset vector: `starts = [r₀.start, r₁.start, …, rₙ₋₁.start,
    rₙ₋₁.stop + 1]` where consecutive ranges are one delimiter byte apart -/
inductive StartsDescribe : List Nat → List Range → Prop
  | last (r : Range) : StartsDescribe [r.start, r.stop + 1] [r]
  | cons (r : Range) {ss : List Nat} {rs : List Range} :
      StartsDescribe ((r.stop + 1) :: ss) rs → StartsDescribe (r.start :: (r.stop + 1) :: ss) (r :: rs)

theorem StartsDescribe.length {ss : List Nat} {rs : List Range} (h : StartsDescribe ss rs) :
    ss.length = rs.length + 1 := by
  induction h with
  | last r => rfl
  | cons r _ ih => simp only [List.length_cons] at ih ⊢; omega

theorem StartsDescribe.getElem? {ss : List Nat} {rs : List Range} (h : StartsDescribe ss rs)
    (i : Nat) (r : Range) (hi : rs[i]? = some r) :
    ss[i]? = some r.start ∧ ss[i + 1]? = some (r.stop + 1) := by
  induction h generalizing i with
  | last r0 =>
    cases i with
    | zero => cases hi; exact ⟨rfl, rfl⟩
    | succ k => cases hi
  | cons r0 _ ih =>
    cases i with
    | zero => cases hi; exact ⟨rfl, rfl⟩
    | succ k => exact ih k hi

theorem outputParts_eq_outputBof (line : Bytes) (b : UserBounds) (starts : List Nat)
    (ranges : List Range) (o : Opt) (fo : FastOpt) (ho : fastOptOf o = some fo)
    (hd : StartsDescribe starts ranges) (hz : b.l ≠ .some 0) :
    outputParts line b starts fo = outputBof line ranges ranges.length o false (.bound b) := by
  have F := fastOptOf_facts ho
  have hlen := hd.length
  have hne : starts.isEmpty = false := by
    cases starts with
    | nil => cases hlen
    | cons _ _ => rfl
  simp only [outputParts, outputBof, hne, hlen, Nat.add_sub_cancel, F.join, F.fallback, F.replace, F.delimiter,
    F.json, F.fields, writeMaybeAsJson, maybeReplaceDelimiter, Option.getD_none, Bool.false_eq_true, if_false,
    reduceCtorEq]
  cases hr : b.tryIntoRange ranges.length with
  | none => rfl
  | some p =>
    obtain ⟨s, e⟩ := p
    have hb := tryIntoRange_bounds b ranges.length s e hz hr
    have hs : s < ranges.length := by omega
    have he : e - 1 < ranges.length := by omega
    have h1 := (hd.getElem? s _ (List.getElem?_eq_getElem hs)).1
    have h2 := (hd.getElem? (e - 1) _ (List.getElem?_eq_getElem he)).2
    rw [show e - 1 + 1 = e by omega] at h2
    -- `1 ≤ stop + 1` is the test that `fields[r.end] - 1` does not underflow
    simp only [List.getElem?_eq_getElem hs, List.getElem?_eq_getElem he, h1, h2,
      Nat.add_sub_cancel, Nat.le_add_left, true_and]

/-- non-vacuity: `a-bc` with delimiter `-`: starts `[0,2,5]` describe ranges `[0,1) [2,4)` -/
example : StartsDescribe [0, 2, 5] [⟨0, 1⟩, ⟨2, 4⟩] :=
  .cons ⟨0, 1⟩ (.last ⟨2, 4⟩)

theorem startsDescribe_full (n : Nat) : ∀ (ms : List Nat) (prev : Nat),
    StartsDescribe (prev :: ms.map (· + 1) ++ [n + 1]) (rangesBetween 1 n prev ms) := by
  intro ms
  induction ms with
  | nil => intro prev; exact .last ⟨prev, n⟩
  | cons i t ih => intro prev; exact .cons ⟨prev, i⟩ (ih (i + 1))

theorem startsDescribe_take (n : Nat) : ∀ (ms : List Nat) (prev k : Nat), 1 ≤ k → k ≤ ms.length →
    StartsDescribe (prev :: (ms.take k).map (· + 1)) ((rangesBetween 1 n prev ms).take k) := by
  intro ms
  induction ms with
  | nil => intro prev k h1 h2; simp at h2; omega
  | cons i t ih =>
    intro prev k h1 h2
    obtain ⟨k', rfl⟩ : ∃ k', k = k' + 1 := ⟨k - 1, by omega⟩
    by_cases hk : k' = 0
    · subst hk
      exact .last ⟨prev, i⟩
    · simp only [List.take_succ_cons, List.map_cons, rangesBetween]
      exact .cons ⟨prev, i⟩ (ih (i + 1) k' (by omega) (by simpa using h2))

/-- the scan that is not stopped early (`hno`: `lif` is no field number strictly inside the record): with
    the fake end `len + 1` appended, the starts it pushes describe ALL the fields the general path splits
    the record into, and the counter ends at their number minus one -/
theorem fastScan_full (d : UInt8) (lif : Side) (line : Bytes) (hline : line ≠ [])
    (hno : ∀ j : Nat, 1 ≤ j → j < (fillWithFieldsLocations [] line [d]).length → lif ≠ .some j) :
    StartsDescribe (0 :: (fastScan d lif 0 0 line).1 ++ [line.length + 1])
      (fillWithFieldsLocations [] line [d]) ∧
    (fastScan d lif 0 0 line).2 = ((fillWithFieldsLocations [] line [d]).length : Int) - 1 := by
  rw [fill_single d line hline, rangesBetween_length] at hno ⊢
  rw [fastScan_closed, scanCount_of_no_stop fun i h1 h2 => by simpa using hno i h1 (by omega),
    List.take_length]
  exact ⟨startsDescribe_full _ _ _, by simp only; omega⟩

theorem noStop_cases (lif : Side) (n : Nat)
    (h : lif = .cont ∨ ∃ v, lif = .some v ∧ (v ≤ 0 ∨ (n : Int) ≤ v)) :
    ∀ j : Nat, 1 ≤ j → j < n → lif ≠ .some j := by
  intro j h1 h2 he
  rcases h with h | ⟨v, h, hv⟩
  · rw [h] at he; cases he
  · rw [h] at he
    simp only [Side.some.injEq] at he
    omega

/-- the scan stopped at field `k`, a field number strictly inside the record: it has pushed `k` starts,
    which — without a fake end: the start of field `k + 1` is there — describe the first `k` fields, and
    the counter is `k` -/
theorem fastScan_earlyStop (d : UInt8) (line : Bytes) (hline : line ≠ []) (k : Nat) (hk1 : 1 ≤ k)
    (hk : k < (fillWithFieldsLocations [] line [d]).length) :
    (0 :: (fastScan d (.some k) 0 0 line).1).length = k + 1 ∧
    StartsDescribe (0 :: (fastScan d (.some k) 0 0 line).1)
      ((fillWithFieldsLocations [] line [d]).take k) ∧
    (fastScan d (.some k) 0 0 line).2 = k := by
  rw [fill_single d line hline, rangesBetween_length] at hk
  rw [fill_single d line hline]
  have h := scanCount_of_stop 0 hk1 (show k ≤ (findIterAux [d] 0 0 line).length by omega)
  rw [Int.zero_add] at h
  rw [fastScan_closed, h, Int.zero_add]
  refine ⟨?_, startsDescribe_take _ _ _ _ hk1 (by omega), rfl⟩
  simp only [List.length_cons, List.length_map, List.length_take]
  omega

/-- `a-b-c-d`, delimiter `-`, early stop at field 2: the scan pushes the starts of fields 2 and 3
    and stops; `[0, 2, 4]` describes exactly the first two fields `[0,1) [2,3)`. -/
example : fastScan 45 (.some 2) 0 0 [97, 45, 98, 45, 99, 45, 100] = ([2, 4], 2) := by decide
example : (fillWithFieldsLocations [] [97, 45, 98, 45, 99, 45, 100] [45]).take 2
    = [⟨0, 1⟩, ⟨2, 3⟩] := by decide
example : StartsDescribe (0 :: (fastScan 45 (.some 2) 0 0 [97, 45, 98, 45, 99, 45, 100]).1)
    ((fillWithFieldsLocations [] [97, 45, 98, 45, 99, 45, 100] [45]).take 2) :=
  (fastScan_earlyStop 45 _ (by decide) 2 (by decide) (by decide)).2.1
/-- without the early stop the scan of the same record pushes the starts of fields 2, 3 and 4
    (`curr_field = 3`); the fake end is appended afterwards (`fastAfterTrim`) -/
example : fastScan 45 .cont 0 0 [97, 45, 98, 45, 99, 45, 100] = ([2, 4, 6], 3) := by decide

/-- the two cases as `fastAfterTrim` meets them.  The `if` is its own: it appends the fake end exactly
    when the counter is not `lif`, i.e. when the scan was not stopped.  Either way the vector describes
    the first `m` fields, `m` = all of them or the field the scan stopped at; and the counter is 0
    exactly for a record of one field (the test of `-s`) -/
theorem fastScan_describes (d : UInt8) (lif : Side) (line : Bytes) (hline : line ≠ [])
    (hlif : lif ≠ .some 0) :
    ((fastScan d lif 0 0 line).2 = 0 ↔ (fillWithFieldsLocations [] line [d]).length = 1) ∧
    ∃ m, 1 ≤ m ∧ m ≤ (fillWithFieldsLocations [] line [d]).length ∧
      (m = (fillWithFieldsLocations [] line [d]).length ∨ lif = .some m) ∧
      StartsDescribe
        (if Side.some (fastScan d lif 0 0 line).2 ≠ lif
          then 0 :: (fastScan d lif 0 0 line).1 ++ [line.length + 1]
          else 0 :: (fastScan d lif 0 0 line).1)
        ((fillWithFieldsLocations [] line [d]).take m) := by
  have hn : 1 ≤ (fillWithFieldsLocations [] line [d]).length := by
    rw [fill_single _ _ hline, rangesBetween_length]; omega
  have hfull := fastScan_full d lif line hline
  have hearly := fun k => fastScan_earlyStop d line hline k
  generalize fillWithFieldsLocations [] line [d] = R at hn hfull hearly ⊢
  by_cases hstop : ∃ k : Nat, 1 ≤ k ∧ k < R.length ∧ lif = .some k
  · obtain ⟨k, hk1, hk, rfl⟩ := hstop
    obtain ⟨-, hsd, hcur⟩ := hearly k hk1 hk
    refine ⟨by omega, k, hk1, by omega, Or.inr rfl, ?_⟩
    rw [hcur, if_neg (fun h => h rfl)]
    exact hsd
  · obtain ⟨hsd, hcur⟩ := hfull (fun j h1 h2 h3 => hstop ⟨j, h1, h2, h3⟩)
    have hne : Side.some (fastScan d lif 0 0 line).2 ≠ lif := by
      rw [hcur]
      intro h
      by_cases h1 : R.length = 1
      · exact hlif (by rw [← h, h1]; rfl)
      · exact hstop ⟨R.length - 1, by omega, by omega, by rw [← h]; congr 1; omega⟩
    refine ⟨by omega, _, hn, Nat.le_refl _, Or.inl rfl, ?_⟩
    rw [if_pos hne, List.take_length]
    exact hsd

theorem fastOutputLoop_eq (line : Bytes) (starts : List Nat) (ranges : List Range) (n : Nat)
    (o : Opt) (fo : FastOpt) (cw : Bool) : ∀ (list : List BoF),
    (∀ b, BoF.bound b ∈ list →
      outputParts line b starts fo = outputBof line ranges n o cw (.bound b)) →
    fastOutputLoop line starts fo list = outputLoop line ranges n o cw list := by
  intro list h
  rw [fastOutputLoop_eq_seqMap, outputLoop_eq_seqMap]
  refine Run.seqMap_congr fun x hx => ?_
  cases x with
  | filler f => rfl
  | bound b => exact h b hx

/-- a bound the early stop at `k` is sound for prints the same from the first `k` ranges, told that the
    record has `k` fields, as from all ranges (`earlyStop_sound`: it resolves the same against both
    counts, and both its ends are among the first `k`) -/
theorem outputBof_take (line : Bytes) (ranges : List Range) (k : Nat) (hk : k ≤ ranges.length)
    (o : Opt) (cw : Bool) (b : UserBounds) (hw : b.Within k) :
    outputBof line (ranges.take k) k o cw (.bound b) =
      outputBof line ranges ranges.length o cw (.bound b) := by
  unfold outputBof
  simp only [← earlyStop_sound b k ranges.length hw hk]
  cases hr : b.tryIntoRange k with
  | none => rfl
  | some p =>
    obtain ⟨s, e⟩ := p
    have hb := tryIntoRange_bounds b k s e hw.left_ne_zero hr
    simp only [List.getElem?_take_of_lt (show s < k by omega),
      List.getElem?_take_of_lt (show e - 1 < k by omega)]

/-- the normal form of `cutStrCore` on the trimmed record, for an invocation that
    qualifies for the fast path: split on the one byte, `-s`, output loop, eol -/
def generalAfterTrim (buf : Bytes) (o : Opt) (d : UInt8) (eol : Bytes) : Run :=
  if buf.isEmpty then (if !o.onlyDelimited then Run.ok eol else Run.empty)
  else
    let fields := fillWithFieldsLocations [] buf [d]
    if o.onlyDelimited && fields.length == 1 then Run.empty
    else (outputLoop buf fields fields.length o false o.bounds.list).seq (Run.ok eol)

/-- every other pass of the general engine is switched off (`cutStrCore_fields` of `Lemmas/CutStrSpec`
    read under `FastOptFacts`), and the fast path's byte-wise trim is the general one -/
theorem cutStrCore_fast (line : Bytes) (o : Opt) (fo : FastOpt) (ho : fastOptOf o = some fo)
    (eol : Bytes) :
    (cutStrCore line o eol).1 = generalAfterTrim (fastTrimmed line fo) o fo.delimiter eol := by
  have F := fastOptOf_facts ho
  have ht : trimmed o line = fastTrimmed line fo := by
    unfold trimmed fastTrimmed
    rw [F.trim, F.delimiter]
    cases o.trim <;> simp only [fastTrim_eq_trimLiteral]
  rw [cutStrCore_fields line o eol F.regex (Or.inl F.fields), ht]
  simp only [generalAfterTrim, compressed, F.compress, Bool.false_eq_true, if_false,
    engineFields_literal (show o.boundsType ≠ .characters by rw [F.fields]; nofun), F.greedy, F.delimiter,
    emitRecord_eq, loopBounds, F.complement, F.json, F.fields, reduceCtorEq, decide_false, Bool.false_or,
    Bool.false_and, Res.bind, Run.empty_seq, Run.seq_empty]

/-- one trimmed record: the fast path (scan to `lastInteresting`, `output_parts` on the start offsets)
    is the general path's `generalAfterTrim` (full split, `outputBof` on the ranges) -/
theorem fastAfterTrim_eq (o : Opt) (fo : FastOpt) (ho : fastOptOf o = some fo)
    (l : List BoF) (hfv : fromVec l = .ok o.bounds)
    (hnz : ∀ b, BoF.bound b ∈ o.bounds.list → b.Nonzero) (buf : Bytes) :
    (fastAfterTrim buf fo o.bounds.lastInteresting).1 =
      generalAfterTrim buf o fo.delimiter [o.eol.byte] := by
  have F := fastOptOf_facts ho
  unfold fastAfterTrim generalAfterTrim
  rw [F.eol, F.onlyDelimited, F.bounds]
  by_cases hemp : buf.isEmpty = true
  · simp only [hemp, if_true]
  · have hne : buf ≠ [] := fun h => hemp (h ▸ rfl)
    have hlif : o.bounds.lastInteresting ≠ .some 0 := by
      intro h0
      rcases lastInteresting_mem l o.bounds hfv with h | ⟨b, hb, hbr⟩
      · rw [h] at h0; cases h0
      · exact (hbr ▸ (hnz b hb).2 : o.bounds.lastInteresting.Nonzero).ne_some_zero h0
    obtain ⟨h0, m, hm1, hmn, hm, hsd⟩ :=
      fastScan_describes fo.delimiter o.bounds.lastInteresting buf hne hlif
    have hs : ((fastScan fo.delimiter o.bounds.lastInteresting 0 0 buf).2 == 0) =
        ((fillWithFieldsLocations [] buf [fo.delimiter]).length == 1) := by
      rw [Bool.eq_iff_iff, beq_iff_eq, beq_iff_eq]
      exact h0
    simp only [hemp, Bool.false_eq_true, if_false, hs, Bool.and_comm]
    by_cases hsel : (o.onlyDelimited &&
        (fillWithFieldsLocations [] buf [fo.delimiter]).length == 1) = true
    · simp only [hsel, if_true]
    · simp only [hsel, Bool.false_eq_true, if_false]
      congr 1
      refine fastOutputLoop_eq buf _ _ _ o fo false _ (fun b hb => ?_)
      rw [outputParts_eq_outputBof buf b _ _ o fo ho hsd (hnz b hb).1.ne_some_zero,
        List.length_take, Nat.min_eq_left hmn]
      -- the scan stopped early only if the first `m` ranges are all this bound needs
      rcases hm with rfl | hl
      · rw [List.take_length]
      · exact outputBof_take buf _ m hmn o false b
          (lastInteresting_spec l o.bounds m hfv hl (by omega) b hb)

/-- **C02, one record.**  For an invocation that qualifies for the fast path, with a
    `fromVec`-built bounds list without the index 0 (what the parser produces), the fast path
    writes the same bytes and ends with the same status as the general path on every record —
    including the early stop at `lastInteresting`, empty records, `-s`, fallbacks and
    out-of-range reports. -/
theorem cutStrFastLane_eq_cutStr (o : Opt) (fo : FastOpt) (ho : fastOptOf o = some fo)
    (l : List BoF) (hfv : fromVec l = .ok o.bounds)
    (hnz : ∀ b, BoF.bound b ∈ o.bounds.list → b.Nonzero) (line : Bytes) :
    (cutStrFastLaneCore line fo o.bounds.lastInteresting).1 =
      (cutStrCore line o [o.eol.byte]).1 := by
  rw [cutStrFastLaneCore_eq, cutStrCore_fast line o fo ho]
  exact fastAfterTrim_eq o fo ho l hfv hnz _

/-- **C02.**  Whenever an invocation qualifies for the one-byte fast path and its bounds list is
    built by `fromVec` and has no index 0 (what the parser produces), the fast path and the general
    path deliver the same bytes and the same exit status for every input. -/
theorem readAndCutFast_eq_readAndCutStr (o : Opt) (fo : FastOpt) (ho : fastOptOf o = some fo)
    (l : List BoF) (hfv : fromVec l = .ok o.bounds)
    (hnz : ∀ b, BoF.bound b ∈ o.bounds.list → b.Nonzero) (input : Bytes) :
    readAndCutFast fo input = readAndCutStr o input := by
  have F := fastOptOf_facts ho
  unfold readAndCutFast readAndCutStr
  rw [F.eol, F.bounds, fastRecords_eq_seqMap, cutRecords_eq_seqMap]
  exact Run.seqMap_congr fun r _ => cutStrFastLane_eq_cutStr o fo ho l hfv hnz r

/-- the hypothesis "no index 0" cannot be dropped: with the (unparsable) bound `0` and a record
    without delimiter, `lastInteresting = .some 0 = curr_field`, the fake end is not pushed, and the
    fast path panics where the general path prints the record -/
example :
    fromVec [.bound { l := .some 0, r := .some 0 }] =
      .ok { list := [.bound { l := .some 0, r := .some 0, isLast := true }],
            lastInteresting := .some 0 } ∧
    (fastOptOf { delimiter := [45], bounds :=
        { list := [.bound { l := .some 0, r := .some 0, isLast := true }],
          lastInteresting := .some 0 } }).map (fun fo => readAndCutFast fo [120, 10])
      = some Run.panic ∧
    readAndCutStr { delimiter := [45], bounds :=
        { list := [.bound { l := .some 0, r := .some 0, isLast := true }],
          lastInteresting := .some 0 } } [120, 10] = Run.ok [120, 10] := by
  decide

end Tuc
