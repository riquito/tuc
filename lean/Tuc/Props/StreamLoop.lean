import Tuc.Model.StreamLoop
import Tuc.Lemmas.Total
import Tuc.Props.C10Stream

/-!
# Tuc.Props.StreamLoop — the chunk loop of `cut_bytes_stream` refines to the tagged-byte machine

`Tuc.Model.StreamLoop` transcribes `cut_bytes_stream` (stream.rs:278-421) statement by statement;
`Tuc.Model.Stream` — what C03, C04, C10, C11, C13, C14 are about — is a machine over bytes tagged
"last byte of its chunk".  They are the same function of the option record and of the list of reads
(output **and** status), for reads that are non-empty and option records without negative indexes
(`cutBytesStreamLoop_eq`) — so for everything `StreamOpt::try_from` accepts (`cutBytesStreamLoop_of_opt`;
`readAndCutBytesStreamLoop_eq` / `_of_opt` for `read_and_cut_bytes_stream`, whose
`last_interesting_field` is the right side of the last bound) —, from any state with `curr_field ≥ 1`
in which `'new_chunk` is about to read and for any fuel ≥ `fuelFor stdin` (`newChunk_eq`,
`newChunk_fuel_irrelevant`).  As a
by-product the checked operations of the literal model (`chunk[chunk_idx]`, `&chunk[a..b]`) never fail.

The ideas.  `skip` of the machine is a ghost variable: a state with `bof_idx = bounds.len()` whose
field is the last interesting one behaves like the skip state (`streamRun_skip_irrel`), and the
look-ahead `memchr(eol, …)` is the machine walking to the EOL in skip mode.  One chunk
(`chunkRest_sim`) is an induction over the suffix still to be scanned, with
`chunk = pre ++ piece ++ suf`, `chunk_part_start_idx = bytes_to_consume = |pre|`, `piece` the
machine's pending piece and the iterator at `|pre| + |piece|`.  An iteration of `'new_chunk`
consumes at least one byte (`chunkBody_vars`), which bounds the fuel.  `print_filler_or_fallbacks` is
transcribed from the Rust text (`printFillerOrFallbacksLit`); it is `printFillerOrFallbacks` of
`Tuc.Model.Stream` when no index is negative (`printFillerOrFallbacksLit_eq`).
-/

namespace Tuc
namespace StreamLoop

theorem ok_nil : Run.ok [] = Run.empty := rfl

theorem printBof_at_end (o : StreamOpt) (k : Int) (tr : Bool) (p : Bytes) (fc : Bool) :
    printBof o o.bounds.length k tr p fc = Option.some ([], o.bounds.length) :=
  printBof_of_none (List.getElem?_eq_none (Nat.le_refl _)) k tr p fc

theorem endOfRecord_at_end (o : StreamOpt) (st : SState) (h : st.bofIdx = o.bounds.length) :
    endOfRecord o st = Run.ok [o.eol.byte] := by
  simp [endOfRecord, h, printBof_at_end, printFillerOrFallbacks, Run.seq, Run.empty, Run.ok]

/-- the machine skipping to the EOL of its record, in field `k`: every bound done
    (`bof_idx = bounds.len()`), nothing pending, `trunc = false` -/
def skipState (o : StreamOpt) (k : Int) (started : Bool) : SState :=
  ⟨o.bounds.length, k, false, [], true, started⟩

theorem streamRun_skip_irrel (o : StreamOpt) (l : List (UInt8 × Bool)) : ∀ st : SState,
    st.skip = false → st.bofIdx = o.bounds.length → Side.some st.currField = o.lastInterestingField →
    streamRun o st l = streamRun o (skipState o st.currField st.started) l := by
  induction l with
  | nil =>
    intro st hs hb hl
    obtain ⟨b, k, tr, p, sk, sd⟩ := st
    simp only at hs hb hl
    subst hs hb
    cases sd
    · simp [streamRun, streamEof, skipState]
    · cases p with
      | nil => simp [streamRun, streamEof, skipState, endOfRecord_at_end]
      | cons c p =>
        simp [streamRun, streamEof, skipState, endOfRecord_at_end, printBof_at_end, Run.seq, Run.ok]
  | cons x l ih =>
    obtain ⟨c, t⟩ := x
    intro st hs hb hl
    rw [streamRun_cons, streamRun_cons, streamStep_skip _ (skipState o st.currField st.started) _ _ rfl]
    by_cases hc : c = o.eol.byte
    · rw [streamStep_eol _ _ _ _ hs hc, if_pos hc, endOfRecord_at_end o st hb]
      split <;> rfl
    · rw [if_neg hc]
      by_cases hd : c = o.delimiter
      · rw [streamStep_delim_some _ _ _ _ hs hc hd [] o.bounds.length (by rw [hb]; exact printBof_at_end ..),
          if_pos hl]
        simp [printFillerOrFallbacks, Run.seq_ok, Run.pre, Run.empty, skipState]
      · cases t with
        | false =>
          rw [streamStep_ord_false _ _ _ hs hc hd]
          simp only [Run.empty_seq]
          exact (ih { st with piece := st.piece ++ [c], started := true } hs hb hl).trans rfl
        | true =>
          rw [streamStep_ord_true_some _ _ _ hs hc hd [] o.bounds.length (by rw [hb]; exact printBof_at_end ..)]
          rw [ok_nil, Run.empty_seq]
          exact (ih { st with bofIdx := o.bounds.length, trunc := true, piece := [], started := true }
            hs rfl hl).trans rfl

theorem tagSegment_append_cons (a : Bytes) (c : UInt8) (b : Bytes) :
    tagSegment (a ++ c :: b) = untagged a ++ tagSegment (c :: b) := by
  induction a with
  | nil => rfl
  | cons x a ih => rw [List.cons_append, tagSegment_cons, ih]; simp

theorem streamRun_skip_scan_eol (o : StreamOpt) (k : Int) (rest : List (UInt8 × Bool))
    (suf : Bytes) (s : Bool) (i : Nat) (h : memchr o.eol.byte suf = Option.some i) :
    streamRun o (skipState o k s) (tagSegment suf ++ rest) =
      (Run.ok [o.eol.byte]).seq (streamRun o {} (tagSegment (suf.drop (i + 1)) ++ rest)) := by
  obtain ⟨a, b, rfl, ha, rfl⟩ := memchr_some h
  rw [tagSegment_append_cons, List.append_assoc,
    streamRun_skip_append o _ (untagged a) _ rfl (untagged_noeol ha), tagSegment_cons, List.cons_append,
    streamRun_skip_eol o _ _ _ rfl]
  simp

theorem streamRun_skip_scan_none (o : StreamOpt) (k : Int) (rest : List (UInt8 × Bool))
    (suf : Bytes) (s : Bool) (h : memchr o.eol.byte suf = none) :
    streamRun o (skipState o k s) (tagSegment suf ++ rest) =
      streamRun o (skipState o k (s || !suf.isEmpty)) rest := by
  rw [streamRun_skip_append o rest (tagSegment suf) _ rfl fun x hx =>
    memchr_none h x.1 (by rw [← tagSegment_map_fst suf]; exact List.mem_map_of_mem hx)]
  cases suf with
  | nil => rfl
  | cons c t => rw [tagSegment_cons]; rfl

theorem slice_mid (a b c : Bytes) : slice (a ++ b ++ c) a.length (a.length + b.length) = b := by
  simp [slice]

theorem getElem?_mid (a b : Bytes) (c : UInt8) (d : Bytes) :
    (a ++ b ++ c :: d)[a.length + b.length]? = Option.some c := by
  rw [← List.length_append, List.getElem?_append_right (Nat.le_refl _)]
  simp

theorem drop_mid (a b : Bytes) (c : UInt8) (d : Bytes) :
    (a ++ b ++ c :: d).drop (a.length + b.length + 1) = d := by
  have : a ++ b ++ c :: d = (a ++ b ++ [c]) ++ d := by simp
  rw [this, List.drop_left' (by simp; omega)]

theorem drop_min_length {α : Type} (l : List α) (i : Nat) : l.drop (min i l.length) = l.drop i := by
  by_cases h : i ≤ l.length
  · rw [Nat.min_eq_left h]
  · have h' : l.length ≤ i := by omega
    rw [Nat.min_eq_right h', List.drop_length, List.drop_eq_nil_of_le h']

theorem printBofCall_mid {o : StreamOpt} {i : Nat} {k : Int} {chunk pre piece suf : Bytes}
    (hch : chunk = pre ++ piece ++ suf) {tr fc : Bool} {w : Bytes} {i' : Nat}
    (h : printBof o i k tr piece fc = Option.some (w, i')) :
    printBofCall o i k chunk pre.length (pre.length + piece.length) tr fc = (Run.ok w, i') := by
  subst hch
  unfold printBofCall
  rw [slice_mid, if_pos (by simp), h]

/-- `tuc -M … -d - -f 1` -/
def exOptF1 : StreamOpt :=
  { delimiter := 0x2d, replaceDelimiter := none, join := false, eol := .newline,
    fallbackOob := none, bounds := [.bound { l := .some 1, r := .some 1, isLast := true }],
    lastInterestingField := .some 1 }

theorem matches_ne_none (b : UserBounds) (k : Int) (hk : 1 ≤ k) (hl : b.l.isNeg = false)
    (hr : b.r.isNeg = false) : b.matches k ≠ none := by
  obtain ⟨m, hm⟩ := matches_isSome b k hk ⟨hl, hr⟩
  rw [hm]; exact Option.some_ne_none m

/-- the literal `print_filler_or_fallbacks` is `printFillerOrFallbacks` of `Tuc.Model.Stream` for a
    positive field number and bounds without negative indexes (there `matches` is not an `Err`) -/
theorem printFillerOrFallbacksLit_eq (o : StreamOpt) (k : Int) (hk : 1 ≤ k) : ∀ l : List BoF,
    hasNegativeIndices l = false →
    printFillerOrFallbacksLit o k l = printFillerOrFallbacks o k l := by
  intro l
  induction l with
  | nil => intro _; rfl
  | cons x t ih =>
    intro hn
    cases x with
    | filler f =>
      have ht : hasNegativeIndices t = false := by simpa [hasNegativeIndices, boundsOnly] using hn
      simp only [printFillerOrFallbacksLit, printFillerOrFallbacks, ih ht]
    | bound b =>
      simp only [hasNegativeIndices, boundsOnly, List.any_cons, Bool.or_eq_false_iff] at hn
      have ht : hasNegativeIndices t = false := hn.2
      have hm := matches_ne_none b k hk hn.1.1 hn.1.2
      cases hmk : b.matches k with
      | none => exact absurd hmk hm
      | some m =>
        -- both texts continue iff the bound is open and reached; otherwise the same fallback rule
        simp only [printFillerOrFallbacksLit, printFillerOrFallbacks, hmk, ih ht]
        by_cases hc : b.r = .cont ∧ m = true
        · obtain ⟨hc, rfl⟩ := hc
          simp only [hc, if_true, and_self]
        · have hc' : (if b.r = .cont then some m else some false) = some false := by
            by_cases hr : b.r = .cont
            · cases m
              · rw [if_pos hr]
              · exact absurd ⟨hr, rfl⟩ hc
            · rw [if_neg hr]
          simp only [hc', if_neg hc]
          cases b.fallback <;> cases o.fallbackOob <;> rfl

theorem hasNegativeIndices_drop (l : List BoF) (i : Nat) (h : hasNegativeIndices l = false) :
    hasNegativeIndices (l.drop i) = false := by
  unfold hasNegativeIndices at h ⊢
  rw [List.any_eq_false] at h ⊢
  exact fun b hb => h b (mem_boundsOnly_iff.2 (List.mem_of_mem_drop (mem_boundsOnly_iff.1 hb)))

/-- the difference is real outside that domain (`-f -1` is not a forward bound:
    `StreamOpt::try_from` rejects it): the Rust code reports "Out of bounds" (exit 1),
    `printFillerOrFallbacks` says `panic` -/
example : printFillerOrFallbacksLit exOptF1 1 [.bound { l := .some (-1), r := .some (-1) }] = Run.fail
    ∧ printFillerOrFallbacks exOptF1 1 [.bound { l := .some (-1), r := .some (-1) }] = Run.panic := by
  decide

theorem printFillerOrFallbacksCall_eq (o : StreamOpt) (i : Nat) (k : Int)
    (hneg : hasNegativeIndices o.bounds = false) (hk : 1 ≤ k) :
    printFillerOrFallbacksCall o i k = (printFillerOrFallbacks o k (o.bounds.drop i), o.bounds.length) := by
  unfold printFillerOrFallbacksCall
  rw [drop_min_length, printFillerOrFallbacksLit_eq o k hk _ (hasNegativeIndices_drop _ _ hneg)]

theorem forBody_emptyRecord {o : StreamOpt} {chunk : Bytes} {idx : Nat} {v : Vars}
    (hc : chunk[idx]? = Option.some o.eol.byte) (h1 : v.currField = 1)
    (h2 : v.prevChunkMayBeTruncated = false) (h3 : v.chunkPartStartIdx = idx) :
    forBody o chunk idx v =
      (Run.ok [o.eol.byte], { v with eolReached := true, bytesToConsume := idx + 1 }, true) := by
  simp [forBody, hc, h1, h2, h3]

theorem forBody_eol {o : StreamOpt} {chunk : Bytes} {idx : Nat} {v : Vars}
    (hneg : hasNegativeIndices o.bounds = false) (hk : 1 ≤ v.currField)
    (hc : chunk[idx]? = Option.some o.eol.byte)
    (hne : ¬(v.currField = 1 ∧ v.prevChunkMayBeTruncated = false ∧ v.chunkPartStartIdx = idx)) :
    forBody o chunk idx v =
      ((printBofCall o v.bofIdx v.currField chunk v.chunkPartStartIdx idx v.prevChunkMayBeTruncated true).1.seq
        ((printFillerOrFallbacks o v.currField (o.bounds.drop
          (printBofCall o v.bofIdx v.currField chunk v.chunkPartStartIdx idx v.prevChunkMayBeTruncated true).2)).seq
          (Run.ok [o.eol.byte])),
       { v with eolReached := true, bytesToConsume := idx + 1, bofIdx := o.bounds.length,
                prevChunkMayBeTruncated := false, chunkPartStartIdx := idx + 1 }, true) := by
  have hne' : (v.currField == 1 && !v.prevChunkMayBeTruncated && v.chunkPartStartIdx == idx) = false := by
    cases h : (v.currField == 1 && !v.prevChunkMayBeTruncated && v.chunkPartStartIdx == idx) with
    | false => rfl
    | true => exact absurd (by simpa [and_assoc] using h) hne
  simp [forBody, hc, hne', printFillerOrFallbacksCall_eq o _ _ hneg hk]

theorem forBody_delim_stop_some {o : StreamOpt} {chunk : Bytes} {idx : Nat} {v : Vars} {c : UInt8}
    (hneg : hasNegativeIndices o.bounds = false) (hk : 1 ≤ v.currField)
    (hc : chunk[idx]? = Option.some c) (hce : c ≠ o.eol.byte)
    (hl : Side.some v.currField = o.lastInterestingField) (j : Nat)
    (hm : memchr o.eol.byte (chunk.drop (idx + 1)) = Option.some j) :
    forBody o chunk idx v =
      ((printBofCall o v.bofIdx v.currField chunk v.chunkPartStartIdx idx v.prevChunkMayBeTruncated true).1.seq
        ((printFillerOrFallbacks o v.currField (o.bounds.drop
          (printBofCall o v.bofIdx v.currField chunk v.chunkPartStartIdx idx v.prevChunkMayBeTruncated true).2)).seq
          (Run.ok [o.eol.byte])),
       { v with eolReached := true, bytesToConsume := idx + 1 + j + 1, bofIdx := o.bounds.length,
                prevChunkMayBeTruncated := false, chunkPartStartIdx := idx + 1 }, true) := by
  simp [forBody, hc, hce, hl, hm, printFillerOrFallbacksCall_eq o _ _ hneg hk]

theorem forBody_delim_stop_none {o : StreamOpt} {chunk : Bytes} {idx : Nat} {v : Vars} {c : UInt8}
    (hneg : hasNegativeIndices o.bounds = false) (hk : 1 ≤ v.currField)
    (hc : chunk[idx]? = Option.some c) (hce : c ≠ o.eol.byte)
    (hl : Side.some v.currField = o.lastInterestingField)
    (hm : memchr o.eol.byte (chunk.drop (idx + 1)) = none) :
    forBody o chunk idx v =
      ((printBofCall o v.bofIdx v.currField chunk v.chunkPartStartIdx idx v.prevChunkMayBeTruncated true).1.seq
        (printFillerOrFallbacks o v.currField (o.bounds.drop
          (printBofCall o v.bofIdx v.currField chunk v.chunkPartStartIdx idx v.prevChunkMayBeTruncated true).2)),
       { v with eolReached := false, bytesToConsume := idx + 1, bofIdx := o.bounds.length,
                prevChunkMayBeTruncated := false, chunkPartStartIdx := idx + 1 }, true) := by
  simp [forBody, hc, hce, hl, hm, printFillerOrFallbacksCall_eq o _ _ hneg hk]

theorem forBody_delim_cont {o : StreamOpt} {chunk : Bytes} {idx : Nat} {v : Vars} {c : UInt8}
    (hc : chunk[idx]? = Option.some c) (hce : c ≠ o.eol.byte)
    (hl : ¬ Side.some v.currField = o.lastInterestingField) :
    forBody o chunk idx v =
      ((printBofCall o v.bofIdx v.currField chunk v.chunkPartStartIdx idx v.prevChunkMayBeTruncated true).1,
       { v with eolReached := false, bytesToConsume := idx + 1,
                bofIdx := (printBofCall o v.bofIdx v.currField chunk v.chunkPartStartIdx idx
                            v.prevChunkMayBeTruncated true).2,
                prevChunkMayBeTruncated := false, chunkPartStartIdx := idx + 1,
                currField := v.currField + 1 }, false) := by
  simp [forBody, hc, hce, hl]

theorem remainingData_eol (o : StreamOpt) (chunk : Bytes) (v : Vars) (h : v.eolReached = true) :
    remainingData o chunk v = (Run.empty, v) := by
  simp [remainingData, h]

theorem remainingData_used (o : StreamOpt) (chunk : Bytes) (v : Vars) (h : v.eolReached = false)
    (hu : chunk.length ≤ v.bytesToConsume) :
    remainingData o chunk v = (Run.empty, { v with bytesToConsume := chunk.length }) := by
  have : ¬ v.bytesToConsume < chunk.length := by omega
  simp [remainingData, h, this]

theorem remainingData_unused (o : StreamOpt) (chunk : Bytes) (v : Vars) (h : v.eolReached = false)
    (hu : v.bytesToConsume < chunk.length) :
    remainingData o chunk v =
      ((printBofCall o v.bofIdx v.currField chunk v.chunkPartStartIdx chunk.length
          v.prevChunkMayBeTruncated false).1,
       { v with bofIdx := (printBofCall o v.bofIdx v.currField chunk v.chunkPartStartIdx chunk.length
                             v.prevChunkMayBeTruncated false).2,
                prevChunkMayBeTruncated := true, bytesToConsume := chunk.length }) := by
  simp [remainingData, h, hu]

/-- l.311-388 from the position the iterator is at -/
def chunkRest (o : StreamOpt) (chunk : Bytes) (iter : List Nat) (v : Vars) : Run × Vars :=
  ((forLoop o chunk iter v).1.seq (remainingData o chunk (forLoop o chunk iter v).2).1,
   (remainingData o chunk (forLoop o chunk iter v).2).2)

theorem chunkBody_eq (o : StreamOpt) (chunk : Bytes) (v : Vars) :
    chunkBody o chunk v =
      chunkRest o chunk (memchr2IterFrom o.delimiter o.eol.byte 0 chunk)
        { v with emptyLine := false, chunkPartStartIdx := 0, bytesToConsume := 0 } := rfl

theorem chunkRest_nil (o : StreamOpt) (chunk : Bytes) (v : Vars) :
    chunkRest o chunk [] v = remainingData o chunk v := by
  simp [chunkRest, forLoop]

theorem chunkRest_break {o : StreamOpt} {chunk : Bytes} {idx : Nat} {iter : List Nat} {v v' : Vars}
    {r : Run} (h : forBody o chunk idx v = (r, v', true)) :
    chunkRest o chunk (idx :: iter) v =
      (r.seq (remainingData o chunk v').1, (remainingData o chunk v').2) := by
  simp [chunkRest, forLoop, h]

theorem chunkRest_continue {o : StreamOpt} {chunk : Bytes} {idx : Nat} {iter : List Nat} {v v' : Vars}
    {r : Run} (h : forBody o chunk idx v = (r, v', false)) :
    chunkRest o chunk (idx :: iter) v =
      (r.seq (chunkRest o chunk iter v').1, (chunkRest o chunk iter v').2) := by
  simp [chunkRest, forLoop, h, Run.seq_assoc]

theorem printBofCall_at_end (o : StreamOpt) (k : Int) (chunk : Bytes) (a b : Nat) (tr fc : Bool)
    (h : a ≤ b ∧ b ≤ chunk.length) :
    printBofCall o o.bounds.length k chunk a b tr fc = (Run.ok [], o.bounds.length) := by
  unfold printBofCall
  rw [if_pos h, printBof_at_end]

/-- what the tagged machine still has to do once the literal code is done with the chunk -/
def cont (o : StreamOpt) (chunk : Bytes) (rest : List (UInt8 × Bool)) (s : Bool) (v' : Vars) : Run :=
  if v'.eolReached then streamRun o {} (tagSegment (chunk.drop v'.bytesToConsume) ++ rest)
  else streamRun o ⟨v'.bofIdx, v'.currField, v'.prevChunkMayBeTruncated, [], false, s⟩ rest

/-- one chunk, from the iterator's position on: with `chunk = pre ++ piece ++ suf`, `pre` consumed,
    `piece` the machine's pending piece and `suf` still to be scanned, the machine on `suf` (then on
    `rest`) is the literal code on the rest of the chunk followed by `cont`.  Without negative
    indexes `print_bof` cannot panic (`printBof_isSome`), so there is no failed call to follow.
    `streamRun_skip_irrel` is used where the literal code stops at the last interesting field and
    the EOL is not in the chunk: the machine is then in `skipState`, `cont` resumes in a non-skip
    state with `bof_idx = bounds.len()`. -/
theorem chunkRest_sim (o : StreamOpt) (hneg : hasNegativeIndices o.bounds = false) (chunk : Bytes)
    (rest : List (UInt8 × Bool)) :
    ∀ (suf pre piece : Bytes) (v : Vars) (s : Bool), 1 ≤ v.currField →
    chunk = pre ++ piece ++ suf → (suf = [] → piece = []) → v.eolReached = false →
    v.chunkPartStartIdx = pre.length → v.bytesToConsume = pre.length →
    streamRun o ⟨v.bofIdx, v.currField, v.prevChunkMayBeTruncated, piece, false, s⟩
        (tagSegment suf ++ rest) =
      (chunkRest o chunk (memchr2IterFrom o.delimiter o.eol.byte (pre.length + piece.length) suf) v).1.seq
        (cont o chunk rest (s || !suf.isEmpty)
          (chunkRest o chunk (memchr2IterFrom o.delimiter o.eol.byte (pre.length + piece.length) suf) v).2) := by
  have total := printBof_isSome o ((noNeg_iff_hasNegativeIndices _).2 hneg)
  intro suf
  induction suf with
  | nil =>
    intro pre piece v s hk hch hp he hs hb
    cases hp rfl
    have hlen : chunk.length = pre.length := by simp [hch]
    rw [memchr2IterFrom, chunkRest_nil, remainingData_used o chunk v he (by omega)]
    simp [cont, he, tagSegment]
  | cons c suf' ih =>
    intro pre piece v s hk hch hp he hs hb
    -- `chunk` stays a variable; all that is used of it: the byte at the iterator's position, what
    -- follows it, its length
    have hget : chunk[pre.length + piece.length]? = Option.some c := by
      rw [hch]; exact getElem?_mid pre piece c suf'
    have hdrop : chunk.drop (pre.length + piece.length + 1) = suf' := by
      rw [hch]; exact drop_mid pre piece c suf'
    have hlen : chunk.length = pre.length + piece.length + suf'.length + 1 := by
      simp [hch]; omega
    have hch' : chunk = pre ++ (piece ++ [c]) ++ suf' := by simp [hch]
    rw [tagSegment_cons, List.cons_append, streamRun_cons]
    by_cases hc : c = o.eol.byte
    · rw [memchr2IterFrom, if_pos (Or.inr hc),
        streamStep_eol o ⟨v.bofIdx, v.currField, v.prevChunkMayBeTruncated, piece, false, s⟩ c _ rfl hc]
      subst hc
      by_cases hempty : v.currField = 1 ∧ v.prevChunkMayBeTruncated = false ∧ piece = []
      · obtain ⟨h1, h2, h3⟩ := hempty
        subst h3
        rw [chunkRest_break (forBody_emptyRecord hget h1 h2 hs),
          remainingData_eol o chunk _ rfl]
        simp [cont, h1, h2, show chunk.drop (pre.length + 1) = suf' from hdrop]
      · have hne : ¬(v.currField = 1 ∧ v.prevChunkMayBeTruncated = false ∧
            v.chunkPartStartIdx = pre.length + piece.length) := by
          intro ⟨h1, h2, h3⟩
          exact hempty ⟨h1, h2, List.eq_nil_of_length_eq_zero (by omega)⟩
        obtain ⟨w, i, hpb⟩ := total v.bofIdx v.currField hk v.prevChunkMayBeTruncated piece true
        rw [chunkRest_break (forBody_eol hneg hk hget hne),
          remainingData_eol o chunk _ rfl, if_neg (by simpa using hempty), hs,
          printBofCall_mid hch hpb]
        simp [endOfRecord, hpb, cont, hdrop, Run.seq_assoc]
    · by_cases hd : c = o.delimiter
      · obtain ⟨w, i, hpb⟩ := total v.bofIdx v.currField hk v.prevChunkMayBeTruncated piece true
        rw [memchr2IterFrom, if_pos (Or.inl hd),
          streamStep_delim_some o ⟨v.bofIdx, v.currField, v.prevChunkMayBeTruncated, piece, false, s⟩
            c _ rfl hc hd w i hpb]
        dsimp only
        by_cases hl : Side.some v.currField = o.lastInterestingField
        · rw [if_pos hl]
          -- the delimiter closes the last interesting field: the literal loop breaks and skips to the EOL by `memchr`
          -- (l.355), the machine enters `skipState`; they agree whether the EOL is in this chunk (`some j`) or not
          -- (`none`: the "partial field" of l.373-383 prints nothing, all bounds being used up, `printBofCall_at_end`;
          -- it sets `prev_chunk_may_be_truncated`, which a skipping machine does not look at, `streamRun_skip_irrel`)
          have hsk : ({ bofIdx := o.bounds.length, currField := v.currField, skip := true,
                        started := true } : SState) = skipState o v.currField true := rfl
          dsimp only
          rw [hsk]
          cases hm : memchr o.eol.byte suf' with
          | some j =>
            rw [chunkRest_break
              (forBody_delim_stop_some hneg hk hget hc hl j (by rw [hdrop]; exact hm)), hs,
              printBofCall_mid hch hpb, remainingData_eol o chunk _ rfl,
              streamRun_skip_scan_eol o _ _ _ _ j hm]
            have hdd : List.drop (pre.length + piece.length + 1 + j + 1) chunk = suf'.drop (j + 1) := by
              rw [show pre.length + piece.length + 1 + j + 1 = (pre.length + piece.length + 1) + (j + 1) by omega,
                ← List.drop_drop, hdrop]
            simp only [cont, if_true]
            rw [hdd]
            simp [Run.seq_assoc]
          | none =>
            rw [chunkRest_break
              (forBody_delim_stop_none hneg hk hget hc hl (by rw [hdrop]; exact hm)), hs,
              printBofCall_mid hch hpb, streamRun_skip_scan_none o _ _ _ _ hm]
            by_cases hsuf : suf' = []
            · subst hsuf
              rw [remainingData_used o chunk _ rfl (by simp [hlen])]
              have key := streamRun_skip_irrel o rest ⟨o.bounds.length, v.currField, false, [], false, true⟩
                rfl rfl hl
              simp [cont, key]
            · have hpos : 0 < suf'.length := List.length_pos_iff.mpr hsuf
              rw [remainingData_unused o chunk _ rfl (by simp [hlen]; omega)]
              dsimp only
              rw [printBofCall_at_end o _ chunk _ _ _ _ (by omega)]
              have key := streamRun_skip_irrel o rest ⟨o.bounds.length, v.currField, true, [], false, true⟩
                rfl rfl hl
              simp [cont, key, ok_nil]
        · rw [if_neg hl]
          dsimp only
          rw [chunkRest_continue (forBody_delim_cont hget hc hl), hs,
            printBofCall_mid hch hpb]
          dsimp only
          have hq : (pre ++ piece ++ [c]).length + ([] : Bytes).length =
              pre.length + piece.length + 1 := by simp; omega
          have ih' := ih (pre ++ piece ++ [c]) []
            { v with eolReached := false, bytesToConsume := pre.length + piece.length + 1, bofIdx := i,
                     prevChunkMayBeTruncated := false,
                     chunkPartStartIdx := pre.length + piece.length + 1,
                     currField := v.currField + 1 } true
            (show (1 : Int) ≤ v.currField + 1 by omega) (by simp [hch]) (fun _ => rfl) rfl hq.symm hq.symm
          rw [hq] at ih'
          rw [Run.seq_assoc]
          congr 1
          simpa using ih'
      · rw [memchr2IterFrom, if_neg (by simp [hc, hd])]
        cases suf' with
        | nil =>
          -- the last byte of the chunk: the partial field is flushed
          have hl2 : chunk.length = pre.length + (piece ++ [c]).length := by simp [hlen]; omega
          obtain ⟨w, i, hpb⟩ := total v.bofIdx v.currField hk v.prevChunkMayBeTruncated (piece ++ [c]) false
          rw [memchr2IterFrom, chunkRest_nil, remainingData_unused o chunk v he (by omega), hs,
            List.isEmpty_nil, hl2,
            streamStep_ord_true_some o ⟨v.bofIdx, v.currField, v.prevChunkMayBeTruncated, piece, false, s⟩
              c rfl hc hd w i hpb, printBofCall_mid hch' hpb]
          simp [cont, he, tagSegment]
        | cons c' suf'' =>
          rw [List.isEmpty_cons,
            streamStep_ord_false o ⟨v.bofIdx, v.currField, v.prevChunkMayBeTruncated, piece, false, s⟩
              c rfl hc hd]
          dsimp only
          rw [Run.empty_seq]
          have hq : pre.length + (piece ++ [c]).length = pre.length + piece.length + 1 := by simp; omega
          have ih' := ih pre (piece ++ [c]) v true hk hch' (fun h => by cases h) he hs hb
          rw [hq] at ih'
          simpa using ih'

/-- an EOL is only ever reached by consuming it -/
def Consumed (v : Vars) : Prop := v.eolReached = true → 1 ≤ v.bytesToConsume

theorem printBof_idx (o : StreamOpt) (i : Nat) (k : Int) (tr : Bool) (piece : Bytes) (fc : Bool)
    (w : Bytes) (i' : Nat) (h : printBof o i k tr piece fc = some (w, i'))
    (hi : i ≤ o.bounds.length) : i' ≤ o.bounds.length := by
  unfold printBof at h
  split at h
  rename_i w0 i1 heq
  have h1 : i1 ≤ o.bounds.length := by
    split at heq
    · rename_i f hf
      obtain ⟨hlt, _⟩ := List.getElem?_eq_some_iff.1 hf
      injection heq with _ e
      omega
    · injection heq with _ e
      omega
  split at h
  · rename_i b hb
    obtain ⟨hlt, _⟩ := List.getElem?_eq_some_iff.1 hb
    split at h
    · cases h
    · injection h with h; injection h with _ e; omega
    · split at h <;> (injection h with h; injection h with _ e; omega)
  · injection h with h; injection h with _ e; omega

theorem printBofCall_idx (o : StreamOpt) (i : Nat) (k : Int) (chunk : Bytes) (a b : Nat) (tr fc : Bool)
    (hi : i ≤ o.bounds.length) : (printBofCall o i k chunk a b tr fc).2 ≤ o.bounds.length := by
  unfold printBofCall
  split
  · split
    · exact hi
    · rename_i w i' h
      exact printBof_idx o i k tr _ fc w i' h hi
  · exact hi

/-- what the body of `'new_chunk` may do to the variables while a chunk of `len` bytes is borrowed, at each of its
    levels (one turn of the `for`, the `for`, l.367-388, the whole body) -/
structure Keeps (o : StreamOpt) (len : Nat) (v v' : Vars) : Prop where
  eof : v'.eof = v.eof
  emptyLine : v'.emptyLine = v.emptyLine
  currField : v.currField ≤ v'.currField
  consumed : Consumed v → Consumed v'
  cps : v.chunkPartStartIdx ≤ len → v'.chunkPartStartIdx ≤ len
  btc : v.bytesToConsume ≤ len → v'.bytesToConsume ≤ len
  bof : v.bofIdx ≤ o.bounds.length → v'.bofIdx ≤ o.bounds.length

theorem Keeps.refl (o : StreamOpt) (len : Nat) (v : Vars) : Keeps o len v v :=
  ⟨rfl, rfl, Int.le_refl _, id, id, id, id⟩

theorem Keeps.trans {o : StreamOpt} {len : Nat} {v v' v'' : Vars} (a : Keeps o len v v') (b : Keeps o len v' v'') :
    Keeps o len v v'' :=
  ⟨b.eof.trans a.eof, b.emptyLine.trans a.emptyLine, Int.le_trans a.currField b.currField,
    fun h => b.consumed (a.consumed h), fun h => b.cps (a.cps h), fun h => b.btc (a.btc h), fun h => b.bof (a.bof h)⟩

theorem forBody_vars (o : StreamOpt) (chunk : Bytes) (idx : Nat) (v : Vars) :
    Keeps o chunk.length v (forBody o chunk idx v).2.1 ∧
      ((forBody o chunk idx v).2.2 = false → (forBody o chunk idx v).2.1.chunkPartStartIdx = idx + 1) := by
  let P (z : Run × Vars × Bool) : Prop :=
    Keeps o chunk.length v z.2.1 ∧ (z.2.2 = false → z.2.1.chunkPartStartIdx = idx + 1)
  have c1 : ∀ n : Nat, 1 ≤ n + 1 := fun n => Nat.le_add_left 1 n
  unfold forBody
  cases hg : chunk[idx]? with
  | none => exact ⟨Keeps.refl _ _ _, fun e => nomatch e⟩
  | some c =>
    have hlt : idx + 1 ≤ chunk.length := (List.getElem?_eq_some_iff.mp hg).1
    dsimp only
    -- a turn that leaves the loop after l.340: `chunk_part_start_idx = idx + 1`, `bof_idx = bounds.len()`
    have brk : ∀ (r : Run) (v' : Vars), v'.eof = v.eof → v'.emptyLine = v.emptyLine → v'.currField = v.currField →
        1 ≤ v'.bytesToConsume → v'.bytesToConsume ≤ chunk.length → v'.chunkPartStartIdx = idx + 1 →
        v'.bofIdx = o.bounds.length → P (r, v', true) :=
      fun _ _ h1 h2 h3 h4 h5 h6 h7 =>
        ⟨⟨h1, h2, Int.le_of_eq h3.symm, fun _ _ => h4, fun _ => h6 ▸ hlt, fun _ => h5, fun _ => Nat.le_of_eq h7⟩,
          fun e => nomatch e⟩
    -- the `if`s of the body one after the other; the leaves in the order of
    -- the text: empty record (l.321), EOL (l.343-346), `?_` = the last interesting field (l.350-361, the `cases he`
    -- below), otherwise `curr_field += 1` and the loop goes on (l.364)
    refine ite_ind (P := P) ⟨⟨rfl, rfl, Int.le_refl _, fun _ _ => c1 _, id, fun _ => hlt, id⟩, fun e => nomatch e⟩
      (ite_ind (P := P) (brk _ _ rfl rfl rfl (c1 _) hlt rfl rfl)
      (ite_ind (P := P) ?_ ⟨⟨rfl, rfl, Int.le_add_one (Int.le_refl _), fun _ _ => c1 _, fun _ => hlt, fun _ => hlt,
        printBofCall_idx o v.bofIdx v.currField chunk v.chunkPartStartIdx idx v.prevChunkMayBeTruncated true⟩,
        fun _ => rfl⟩))
    cases he : memchr o.eol.byte (chunk.drop (idx + 1)) with
    | none => exact brk _ _ rfl rfl rfl (c1 _) hlt rfl rfl
    | some eolIdx =>
      have := memchr_lt _ _ _ he
      rw [List.length_drop] at this
      exact brk _ _ rfl rfl rfl (c1 _) (show idx + 1 + eolIdx + 1 ≤ chunk.length by omega) rfl rfl

theorem forLoop_vars (o : StreamOpt) (chunk : Bytes) (iter : List Nat) : ∀ v : Vars,
    Keeps o chunk.length v (forLoop o chunk iter v).2 := by
  induction iter with
  | nil => intro v; exact Keeps.refl _ _ _
  | cons idx iter ih =>
    intro v
    unfold forLoop
    dsimp only
    split
    · exact (forBody_vars o chunk idx v).1
    · exact (forBody_vars o chunk idx v).1.trans (ih _)

theorem remainingData_vars (o : StreamOpt) (chunk : Bytes) (v : Vars) :
    Keeps o chunk.length v (remainingData o chunk v).2 ∧
      (remainingData o chunk v).2.eolReached = v.eolReached ∧
      (v.eolReached = false → (remainingData o chunk v).2.bytesToConsume = chunk.length) := by
  cases he : v.eolReached with
  | true => rw [remainingData_eol o chunk v he]; exact ⟨Keeps.refl _ _ _, he, fun h => nomatch h⟩
  | false =>
    have noEol : ∀ {n : Nat}, v.eolReached = true → 1 ≤ n := fun h => absurd (he.symm.trans h) Bool.false_ne_true
    by_cases hu : v.bytesToConsume < chunk.length
    · rw [remainingData_unused o chunk v he hu]
      exact ⟨⟨rfl, rfl, Int.le_refl _, fun _ => noEol, id, fun _ => Nat.le_refl _, printBofCall_idx o _ _ _ _ _ _ _⟩,
        he, fun _ => rfl⟩
    · rw [remainingData_used o chunk v he (by omega)]
      exact ⟨⟨rfl, rfl, Int.le_refl _, fun _ => noEol, id, fun _ => Nat.le_refl _, id⟩, he, fun _ => rfl⟩

/-- the whole body of `'new_chunk` (l.307-388), from the variables as l.307-308 re-declare them -/
theorem chunkBody_vars (o : StreamOpt) (chunk : Bytes) (v : Vars) :
    Keeps o chunk.length { v with emptyLine := false, chunkPartStartIdx := 0, bytesToConsume := 0 }
        (chunkBody o chunk v).2 ∧
      ((chunkBody o chunk v).2.eolReached = false → (chunkBody o chunk v).2.bytesToConsume = chunk.length) := by
  rw [chunkBody_eq]
  unfold chunkRest
  have h1 := remainingData_vars o chunk (forLoop o chunk (memchr2IterFrom o.delimiter o.eol.byte 0 chunk)
    { v with emptyLine := false, chunkPartStartIdx := 0, bytesToConsume := 0 }).2
  exact ⟨(forLoop_vars o chunk _ _).trans h1.1, fun he => h1.2.2 (h1.2.1 ▸ he)⟩

theorem forBody_currField (o : StreamOpt) (chunk : Bytes) (idx : Nat) (v : Vars) :
    v.currField ≤ (forBody o chunk idx v).2.1.currField :=
  (forBody_vars o chunk idx v).1.currField

theorem forLoop_currField (o : StreamOpt) (chunk : Bytes) (iter : List Nat) : ∀ v : Vars,
    v.currField ≤ (forLoop o chunk iter v).2.currField :=
  fun v => (forLoop_vars o chunk iter v).currField

theorem chunkBody_currField (o : StreamOpt) (chunk : Bytes) (v : Vars) :
    v.currField ≤ (chunkBody o chunk v).2.currField :=
  (chunkBody_vars o chunk v).1.currField

theorem consume_cons (n : Nat) (chunk : Bytes) (t : List Bytes) :
    consume n (chunk :: t) = if n < chunk.length then chunk.drop n :: t else t := rfl

theorem tagSegments_consume (n : Nat) (chunk : Bytes) (t : List Bytes) :
    tagSegments (consume n (chunk :: t)) = tagSegment (chunk.drop n) ++ tagSegments t := by
  rw [consume_cons]
  by_cases h : n < chunk.length
  · rw [if_pos h, tagSegments_cons]
  · rw [if_neg h, List.drop_eq_nil_of_le (by omega)]
    rfl

theorem totalBytes_consume (n : Nat) (chunk : Bytes) (t : List Bytes) (hn : 1 ≤ n) (hc : chunk ≠ []) :
    totalBytes (consume n (chunk :: t)) + 1 ≤ totalBytes (chunk :: t) := by
  have : 0 < chunk.length := List.length_pos_iff.mpr hc
  rw [consume_cons]
  by_cases h : n < chunk.length
  · rw [if_pos h]; simp [totalBytes]; omega
  · rw [if_neg h]; simp [totalBytes]; omega

theorem consume_nonempty (n : Nat) (stdin : List Bytes) (h : ∀ s ∈ stdin, s ≠ []) :
    ∀ s ∈ consume n stdin, s ≠ [] := by
  cases stdin with
  | nil => intro s hs; simp [consume] at hs
  | cons chunk t =>
    rw [consume_cons]
    by_cases hn : n < chunk.length
    · rw [if_pos hn]
      intro s hs
      rcases List.mem_cons.mp hs with rfl | hs
      · intro h0
        have := congrArg List.length h0
        simp at this
        omega
      · exact h s (List.mem_cons_of_mem _ hs)
    · rw [if_neg hn]
      intro s hs
      exact h s (List.mem_cons_of_mem _ hs)

theorem consume_all (chunk : Bytes) (t : List Bytes) : consume chunk.length (chunk :: t) = t := by
  simp [consume]

theorem reader_cons {chunk : Bytes} {more : List Bytes} (hne : ∀ s ∈ chunk :: more, s ≠ []) :
    0 < chunk.length ∧ (∀ s ∈ more, s ≠ []) ∧
    totalBytes (chunk :: more) = chunk.length + totalBytes more ∧ fillBuf (chunk :: more) = chunk :=
  ⟨List.length_pos_iff.mpr (hne chunk List.mem_cons_self), fun s hs => hne s (List.mem_cons_of_mem _ hs), rfl, rfl⟩

theorem whileStep_eof (o : StreamOpt) (v : Vars) (he : v.eolReached = false) (hf : v.eof = false) :
    whileStep o [] v =
      .leave (if v.emptyLine then { v with eof := true, eolReached := true } else { v with eof := true }) := by
  simp [whileStep, he, hf, fillBuf]

theorem whileStep_chunk (o : StreamOpt) (chunk : Bytes) (t : List Bytes) (v : Vars)
    (he : v.eolReached = false) (hf : v.eof = false) (hc : chunk ≠ []) :
    whileStep o (chunk :: t) v =
      .again (chunkBody o chunk v).1 (consume (chunkBody o chunk v).2.bytesToConsume (chunk :: t))
        (chunkBody o chunk v).2 := by
  simp [whileStep, he, hf, fillBuf, hc]

theorem whileStep_done (o : StreamOpt) (stdin : List Bytes) (v : Vars) (he : v.eolReached = true) :
    whileStep o stdin v = .leave v := by
  simp [whileStep, he]

theorem whileStep_cases (o : StreamOpt) (stdin : List Bytes) (v : Vars) :
    (fillBuf stdin ≠ [] ∧
      whileStep o stdin v = .again (chunkBody o (fillBuf stdin) v).1
        (consume (chunkBody o (fillBuf stdin) v).2.bytesToConsume stdin)
        (chunkBody o (fillBuf stdin) v).2) ∨
    (∃ v', whileStep o stdin v = .leave v' ∧ v'.bofIdx = v.bofIdx ∧ v'.currField = v.currField) := by
  unfold whileStep
  by_cases h : (!v.eolReached && !v.eof) = true
  · rw [if_pos h]
    by_cases he : (fillBuf stdin).isEmpty = true
    · rw [if_pos he]
      refine Or.inr ⟨_, rfl, ?_⟩
      dsimp only
      split <;> exact ⟨rfl, rfl⟩
    · rw [if_neg he]
      exact Or.inl ⟨fun e => he (by rw [e]; rfl), rfl⟩
  · rw [if_neg h]
    exact Or.inr ⟨v, rfl, rfl, rfl⟩

theorem newChunk_succ (o : StreamOpt) (fuel : Nat) (stdin : List Bytes) (v : Vars) :
    newChunk o (fuel + 1) stdin v =
      match whileStep o stdin v with
      | .again r stdin' v' => r.seq (newChunk o fuel stdin' v')
      | .leave v' =>
        if (afterNewChunk o v').2 then (afterNewChunk o v').1
        else (afterNewChunk o v').1.seq (newChunk o fuel stdin (newLineVars v'.eof)) := rfl

theorem newChunk_after_eol (o : StreamOpt) (fuel : Nat) (stdin : List Bytes) (v : Vars)
    (he : v.eolReached = true) (hf : v.eof = false) :
    newChunk o (fuel + 1) stdin v = newChunk o fuel stdin (newLineVars false) := by
  rw [newChunk_succ, whileStep_done _ _ _ he]
  simp [afterNewChunk, he, hf]

/-- `fill_buf()` returns nothing at a point where `'new_chunk` reads (stream.rs:395 "Handle EOF at
    end of line"): the literal code ends the way the machine ends its input, `streamEof` -/
theorem newChunk_at_eof (o : StreamOpt) (hneg : hasNegativeIndices o.bounds = false) (fuel : Nat)
    (v : Vars) (hk : 1 ≤ v.currField) (he : v.eolReached = false) (hf : v.eof = false) :
    newChunk o (fuel + 1) [] v =
      streamEof o ⟨v.bofIdx, v.currField, v.prevChunkMayBeTruncated, [], false, !v.emptyLine⟩ := by
  rw [newChunk_succ, whileStep_eof _ _ he hf]
  cases hel : v.emptyLine
  · have hsl : slice ([] : Bytes) 0 0 = [] := rfl
    obtain ⟨w, i, hpb⟩ := printBof_isSome o ((noNeg_iff_hasNegativeIndices _).2 hneg) v.bofIdx v.currField hk
      v.prevChunkMayBeTruncated [] true
    simp [afterNewChunk, he, printBofCall, hsl, hpb, printFillerOrFallbacksCall_eq o _ _ hneg hk, streamEof,
      endOfRecord]
  · simp [afterNewChunk, streamEof]

/-- **The chunk loop is the tagged-byte machine**, from any state with `curr_field ≥ 1` in which
    `'new_chunk` is about to read (`eol_reached = false`, `eof = false`), for any amount of fuel from
    `fuelFor stdin` on. -/
theorem newChunk_eq (o : StreamOpt) (hneg : hasNegativeIndices o.bounds = false) :
    ∀ (fuel : Nat) (stdin : List Bytes) (v : Vars),
    (∀ s ∈ stdin, s ≠ []) → fuelFor stdin ≤ fuel → 1 ≤ v.currField → v.eolReached = false →
    v.eof = false →
    newChunk o fuel stdin v =
      streamRun o ⟨v.bofIdx, v.currField, v.prevChunkMayBeTruncated, [], false, !v.emptyLine⟩
        (tagSegments stdin) := by
  intro fuel
  induction fuel using Nat.strongRecOn with
  | _ fuel ih =>
    intro stdin v hne hfuel hk he hf
    cases fuel with
    | zero => simp [fuelFor] at hfuel
    | succ fuel =>
      cases stdin with
      | nil => exact newChunk_at_eof o hneg fuel v hk he hf
      | cons chunk t =>
        obtain ⟨hclen, hmore, htb, -⟩ := reader_cons hne
        have hc : chunk ≠ [] := List.ne_nil_of_length_pos hclen
        rw [newChunk_succ, whileStep_chunk _ _ _ _ he hf hc, tagSegments_cons]
        dsimp only
        have hrun := chunkRest_sim o hneg chunk (tagSegments t) chunk [] []
          { v with emptyLine := false, chunkPartStartIdx := 0, bytesToConsume := 0 } (!v.emptyLine)
          hk (by simp) (fun _ => rfl) he rfl rfl
        rw [show ([] : Bytes).length + ([] : Bytes).length = 0 from rfl, ← chunkBody_eq] at hrun
        obtain ⟨hkeep, hwhole⟩ := chunkBody_vars o chunk v
        refine Eq.trans ?_ hrun.symm
        congr 1
        unfold cont
        unfold fuelFor at hfuel
        cases hel : (chunkBody o chunk v).2.eolReached with
        | true =>
          simp only [if_true]
          have htb' := totalBytes_consume _ chunk t
            (hkeep.consumed (fun h => absurd (he.symm.trans h) Bool.false_ne_true) hel) hc
          obtain ⟨fuel', rfl⟩ : ∃ f, fuel = f + 1 := ⟨fuel - 1, by omega⟩
          rw [newChunk_after_eol _ _ _ _ hel (hkeep.eof.trans hf),
            ih fuel' (by omega) _ (newLineVars false) (consume_nonempty _ _ hne)
              (by unfold fuelFor; omega) (Int.le_refl 1) rfl rfl,
            tagSegments_consume]
          rfl
        | false =>
          simp only [Bool.false_eq_true, if_false]
          rw [hwhole hel, consume_all,
            ih fuel (by omega) t _ hmore (by unfold fuelFor; omega)
              (Int.le_trans hk hkeep.currField) hel (hkeep.eof.trans hf),
            show (chunkBody o chunk v).2.emptyLine = false from hkeep.emptyLine, List.isEmpty_eq_false_iff.2 hc]
          simp

/-- **Refinement.**  The literal transcription of `cut_bytes_stream` and the tagged-byte machine
    deliver the same bytes and end with the same status, for every list of non-empty reads and
    every option record without negative indexes — nothing else is assumed about the bounds
    (adjacent fillers, unsorted or repeated bounds, any `is_last`) or about
    `last_interesting_field`.

    * `h` is the `BufRead` contract the code relies on: an empty `fill_buf()` *is* EOF for the
      Rust loop (l.297), whereas `tagSegments` silently drops an empty segment; the harness'
      `SegReader` never hands out an empty chunk before the end (`l.max(1)`).
    * `hneg` is one of the checks of `ForwardBounds::try_from` (`is_forward_only`, l.25), so it
      holds for everything `StreamOpt::try_from` accepts (`cutBytesStreamLoop_of_opt`).  It is
      needed for one reason only: l.255 of `print_filler_or_fallbacks` does not evaluate
      `matches` for a closed bound, `printFillerOrFallbacks` of `Tuc.Model.Stream` does
      (`printFillerOrFallbacksLit_eq`; the `example`s below show both hypotheses are needed). -/
theorem cutBytesStreamLoop_eq (o : StreamOpt) (segs : List Bytes) (h : ∀ s ∈ segs, s ≠ [])
    (hneg : hasNegativeIndices o.bounds = false) :
    cutBytesStreamLoop o segs = cutBytesStream o segs :=
  newChunk_eq o hneg _ segs (newLineVars false) h (Nat.le_refl _) (Int.le_refl 1) rfl rfl

/-- the fuel suffices: any larger amount gives the same run (so `Run.hang` is never an artefact
    of `fuelFor`) -/
theorem newChunk_fuel_irrelevant (o : StreamOpt) (segs : List Bytes) (h : ∀ s ∈ segs, s ≠ [])
    (hneg : hasNegativeIndices o.bounds = false) (fuel : Nat) (hfuel : fuelFor segs ≤ fuel) :
    newChunk o fuel segs (newLineVars false) = cutBytesStreamLoop o segs := by
  rw [cutBytesStreamLoop_eq o segs h hneg]
  exact newChunk_eq o hneg fuel segs (newLineVars false) h hfuel (Int.le_refl 1) rfl rfl

/-- the first hypothesis of `cutBytesStreamLoop_eq` is needed: an empty read in the middle is EOF
    for the loop, and is invisible to `tagSegments` -/
example : cutBytesStreamLoop exOptF1 [[], [0x61]] = Run.empty
    ∧ cutBytesStream exOptF1 [[], [0x61]] = Run.ok [0x61, 0x0a] := by
  decide

/-- a record of options `StreamOpt::try_from` cannot produce: the second bound is `-2:-1` -/
def exOptNeg : StreamOpt :=
  { exOptF1 with
      bounds := [.bound { l := .some 1, r := .some 1 }, .bound { l := .some (-2), r := .some (-1), isLast := true }],
      lastInterestingField := .some (-1) }

/-- the second hypothesis is needed too: on `"a\n"` the Rust text reaches l.255 with the closed
    bound `-2:-1`, does not call `matches`, and ends with "Out of bounds" (`Err`); the tagged-byte
    model (through `printFillerOrFallbacks`) says `panic` -/
example : cutBytesStreamLoop exOptNeg [[0x61, 0x0a]] = ⟨[0x61], .fail⟩
    ∧ cutBytesStream exOptNeg [[0x61, 0x0a]] = ⟨[0x61], .panic⟩ := by
  decide

theorem lastBoundIdx_snoc (l : List BoF) (x : BoF) :
    lastBoundIdx (l ++ [x]) =
      match x with
      | .bound _ => Option.some l.length
      | .filler _ => lastBoundIdx l := by
  unfold lastBoundIdx
  rw [List.zipIdx_append, List.reverse_append, List.zipIdx_singleton]
  cases x <;> simp

theorem lastBoundIdx_get (l : List BoF) (i : Nat) (h : lastBoundIdx l = Option.some i) :
    ∃ b, l[i]? = Option.some (.bound b) := by
  unfold lastBoundIdx at h
  rw [Option.map_eq_some_iff] at h
  obtain ⟨⟨bof, j⟩, hf, hj⟩ := h
  simp only at hj
  subst hj
  have hp := List.find?_some hf
  have hm := List.mem_of_find?_eq_some hf
  rw [List.mem_reverse, List.mem_zipIdx_iff_getElem?] at hm
  cases bof with
  | bound b => exact ⟨b, hm⟩
  | filler f => simp at hp

theorem getLastBound_snoc_bound (l : List BoF) (b : UserBounds) :
    getLastBound (l ++ [.bound b]) = Option.some b := by
  unfold getLastBound
  rw [lastBoundIdx_snoc]
  simp

theorem getLastBound_snoc_filler (l : List BoF) (f : Bytes) :
    getLastBound (l ++ [.filler f]) = getLastBound l := by
  unfold getLastBound
  rw [lastBoundIdx_snoc]
  cases h : lastBoundIdx l with
  | none => rfl
  | some i =>
    obtain ⟨b, hb⟩ := lastBoundIdx_get l i h
    have hi : i < l.length := (List.getElem?_eq_some_iff.mp hb).1
    simp only
    rw [List.getElem?_append_left hi]

theorem lastBoundRight_snoc (bs : List UserBounds) (b : UserBounds) :
    lastBoundRight (bs ++ [b]) = Option.some b.r := by
  induction bs with
  | nil => rfl
  | cons a bs ih =>
    cases bs with
    | nil => rfl
    | cons a' bs' => exact ih

theorem getLastBound_r_rev (r : List BoF) :
    (getLastBound r.reverse).map (·.r) = lastBoundRight (boundsOnly r.reverse) := by
  induction r with
  | nil => rfl
  | cons x r ih =>
    rw [List.reverse_cons, boundsOnly_append]
    cases x with
    | bound b => rw [getLastBound_snoc_bound]; exact (lastBoundRight_snoc _ b).symm
    | filler f =>
      rw [getLastBound_snoc_filler, ih]
      simp [boundsOnly]

/-- `opt.bounds.get_last_bound().r` (computed through `last_bound_idx`) is what `streamOptOf`
    stores in `lastInterestingField` -/
theorem getLastBound_r (l : List BoF) :
    (getLastBound l).map (·.r) = lastBoundRight (boundsOnly l) := by
  have := getLastBound_r_rev l.reverse
  rwa [List.reverse_reverse] at this

/-- `read_and_cut_bytes_stream`, literally, against the machine: for an option record whose
    `lastInterestingField` is the `r` of the last bound (what `streamOptOf` builds) -/
theorem readAndCutBytesStreamLoop_eq (o : StreamOpt) (segs : List Bytes) (h : ∀ s ∈ segs, s ≠ [])
    (hneg : hasNegativeIndices o.bounds = false)
    (hl : lastBoundRight (boundsOnly o.bounds) = Option.some o.lastInterestingField) :
    readAndCutBytesStreamLoop o segs = cutBytesStream o segs := by
  have hr := getLastBound_r o.bounds
  rw [hl] at hr
  unfold readAndCutBytesStreamLoop
  cases hg : getLastBound o.bounds with
  | none => rw [hg] at hr; simp at hr
  | some b =>
    rw [hg] at hr
    simp only [Option.map_some, Option.some.injEq] at hr
    simp only [hr]
    exact cutBytesStreamLoop_eq o segs h hneg

/-- what `StreamOpt::try_from(&opt)` accepts has no negative index (`is_forward_only`, l.25) -/
theorem streamOptOf_noNeg (opt : Opt) (o : StreamOpt) (h : streamOptOf opt = Option.some o) :
    hasNegativeIndices o.bounds = false :=
  (noNeg_iff_hasNegativeIndices _).1 (forwardBoundsOf_noNeg _ _ (streamOptOf_facts opt o h).bounds)

/-- **Refinement, for everything `StreamOpt::try_from(&opt)` accepts**: both hypotheses about the
    option record are discharged -/
theorem cutBytesStreamLoop_of_opt (opt : Opt) (o : StreamOpt) (ho : streamOptOf opt = Option.some o)
    (segs : List Bytes) (h : ∀ s ∈ segs, s ≠ []) :
    cutBytesStreamLoop o segs = cutBytesStream o segs :=
  cutBytesStreamLoop_eq o segs h (streamOptOf_noNeg opt o ho)

theorem readAndCutBytesStreamLoop_of_opt (opt : Opt) (o : StreamOpt) (ho : streamOptOf opt = Option.some o)
    (segs : List Bytes) (h : ∀ s ∈ segs, s ≠ []) :
    readAndCutBytesStreamLoop o segs = cutBytesStream o segs :=
  readAndCutBytesStreamLoop_eq o segs h (streamOptOf_noNeg opt o ho) (streamOptOf_facts opt o ho).last

/-! ## concrete runs

Options built the way `main` builds them (`boundsListOfString`, `streamOptOf`), delimiter `-`.
Every expected value below is what the real code delivers for that input and that sequence of
reads (in-process harness, `SegReader`): `ok` = `Ok(())`, `fail` = `Err`. -/

/-- `tuc -M … -d - -f <bounds>` (+ `-j`, `-r`, `--fallback-oob`, `-z`) -/
def mkOpt (bounds : String) (join : Bool := false) (repl : Option Bytes := none)
    (fb : Option Bytes := none) (eol : EOL := .newline) : StreamOpt :=
  match boundsListOfString bounds.toList with
  | .ok l =>
    match streamOptOf { delimiter := [0x2d], bounds := l, join := join, replaceDelimiter := repl,
                        fallbackOob := fb, eol := eol } with
    | Option.some o => o
    | none => { exOptF1 with bounds := [] }
  | _ => { exOptF1 with bounds := [] }

/-- split `input` into reads of the given lengths (the rest, if any, is one more read) -/
def segsOf (l : Bytes) : List Nat → List Bytes
  | [] => if l.isEmpty then [] else [l]
  | n :: ns => if l.isEmpty then [] else l.take (max n 1) :: segsOf (l.drop (max n 1)) ns

/-- both models (and the literal `read_and_cut_bytes_stream`) on one case -/
def both (o : StreamOpt) (input : String) (seg : List Nat) (expected : Run) : Bool :=
  let segs := segsOf input.toUTF8.toList seg
  cutBytesStreamLoop o segs == expected && readAndCutBytesStreamLoop o segs == expected
    && cutBytesStream o segs == expected

def okS (s : String) : Run := Run.ok s.toUTF8.toList

-- EOL is the first byte of a chunk
#guard both (mkOpt "2") "a-b\nc-d\n" [3, 5] (okS "b\nd\n")
-- the delimiter is the last byte of a chunk
#guard both (mkOpt "1,2") "a-b\n" [2, 2] (okS "ab\n")
-- early stop, the EOL comes two chunks later
#guard both (mkOpt "2") "a-b-c-de\nf-g\n" [4, 3, 6] (okS "b\ng\n")
-- early stop, the EOL is in the same chunk (`memchr` finds it)
#guard both (mkOpt "1") "a-b-c\nd-e-f\n" [12] (okS "a\nd\n")
-- early stop at the end of a chunk, the next chunk starts with the EOL (the "empty record" branch
-- is taken although the record is not empty; nothing is left to print, so it does not show)
#guard both (mkOpt "1") "a-\nb\n" [2, 3] (okS "a\nb\n")
-- empty records, one per chunk and inside a chunk
#guard both (mkOpt "1") "\n\na\n\n" [1, 1, 3] (okS "\n\na\n\n")
-- last record without EOL
#guard both (mkOpt "2") "a-b\nc-d" [5, 2] (okS "b\nd\n")
-- EOF right after a delimiter: the last field is empty
#guard both (mkOpt "2") "a-" [2] (okS "\n")
-- -z: NUL ends the records, LF is an ordinary byte
#guard both (mkOpt "2" (eol := .zero)) "a-b\n\x00c-d\x00" [3, 2, 4] (okS "b\n\x00d\x00")
-- a field cut in three pieces, join and replaced delimiter
#guard both (mkOpt "1,2:3" (join := true) (repl := Option.some [0x2f])) "abc-def-g-h\n" [2, 3, 1, 3, 3]
  (okS "abc/def/g\n")
-- fillers and fallbacks at the EOL, byte by byte
#guard both (mkOpt "{1}x{3=fb}y") "a-b\nc\n" [1, 1, 1, 1, 1, 1] (okS "axfby\ncxfby\n")
-- out of bounds: `Err`, the first record has been written
#guard both (mkOpt "2") "a-b\nc\n" [4, 2] ⟨"b\n".toUTF8.toList, .fail⟩
-- open range to the end of the record over chunk borders
#guard both (mkOpt "2:") "a-b-c\nd-e" [3, 4, 2] (okS "b-c\ne\n")
-- generic fallback, byte by byte
#guard both (mkOpt "3" (fb := Option.some [0x46])) "a-b\n" [1, 1, 1, 1] (okS "F\n")

/-! ## exhaustive comparison on a small space

Independent of the proof (it runs the two definitions): every input up to 6 bytes over
`{a, -, LF}` × every segmentation × 14 option records the parser produces, the same with NUL as
a fourth letter up to 5 bytes for `-z`, and 7 hand-made option records nothing parses to
(adjacent fillers, negative sides whose `matches` is an `Err`, delimiter = EOL, no bounds,
`last_interesting_field` that is not the last bound's). -/

def wordsN (alpha : List UInt8) : Nat → List Bytes
  | 0 => [[]]
  | n + 1 => (wordsN alpha n).flatMap fun w => alpha.map fun c => c :: w

def wordsUpTo (alpha : List UInt8) (n : Nat) : List Bytes :=
  (List.range (n + 1)).flatMap (wordsN alpha)

/-- all the ways to cut `l` into non-empty reads -/
def segmentations : Bytes → List (List Bytes)
  | [] => [[]]
  | c :: t =>
    (segmentations t).flatMap fun s =>
      match s with
      | [] => [[[c]]]
      | h :: more => [(c :: h) :: more, [c] :: h :: more]

def optsParsed : List StreamOpt :=
  [ mkOpt "1", mkOpt "2", mkOpt "1,3", mkOpt "2:", mkOpt ":2", mkOpt "1:2,4" (join := true),
    mkOpt "{1}x{2}", mkOpt "x{2=fb}y", mkOpt "3" (fb := Option.some [0x46]),
    mkOpt "1,2" (join := true) (repl := Option.some [0x2f]), mkOpt "2,3:" (join := true),
    mkOpt "x{1}y{3}z" (fb := Option.some [0x46]), mkOpt "1" (eol := .zero), mkOpt "2" (eol := .zero) ]

/-- option records nothing parses to.  `cutBytesStreamLoop_eq` covers all but the third and the
    fourth, whose negative sides violate `hneg`; the comparison below finds no difference on those
    two either (unlike on `exOptNeg`). -/
def optsWild : List StreamOpt :=
  [ { exOptF1 with
        bounds := [.filler [0x78], .filler [0x79], .bound { l := .some 1, r := .some 1, isLast := true }] },
    { exOptF1 with
        join := true, fallbackOob := Option.some [0x46], lastInterestingField := .some 2,
        bounds := [.bound { l := .some 2, r := .some 2 }, .filler [0x79], .bound { l := .some 1, r := .some 3 }] },
    { exOptF1 with
        bounds := [.bound { l := .some (-1), r := .some (-1), isLast := true }],
        lastInterestingField := .some (-1) },
    { exOptF1 with
        fallbackOob := Option.some [0x46],
        bounds := [.bound { l := .some 1, r := .some 1 }, .bound { l := .some (-1), r := .cont, isLast := true }] },
    { exOptF1 with
        delimiter := 0x0a, fallbackOob := Option.some [0x46], lastInterestingField := .some 2,
        bounds := [.bound { l := .some 1, r := .some 2, isLast := true }] },
    { exOptF1 with
        bounds := [], lastInterestingField := .cont },
    { exOptF1 with
        bounds := [.bound { l := .some 1, r := .cont, isLast := true }] } ]

/-- number of (option, segmented input) pairs on which the two models differ -/
def disagreements (opts : List StreamOpt) (alpha : List UInt8) (n : Nat) : Nat :=
  (opts.map fun o =>
    ((wordsUpTo alpha n).map fun w =>
      ((segmentations w).filter fun s => cutBytesStreamLoop o s != cutBytesStream o s).length).sum).sum

def countCases (opts : List StreamOpt) (alpha : List UInt8) (n : Nat) : Nat :=
  opts.length * ((wordsUpTo alpha n).map fun w => (segmentations w).length).sum

-- every option text above parses and is accepted by `StreamOpt::try_from`
#guard optsParsed.all fun o => !o.bounds.isEmpty
#guard (segmentations [1, 2, 3]).length == 4
#guard countCases (optsParsed.filter (·.eol == .newline)) [0x61, 0x2d, 0x0a] 6 == 335928
#guard disagreements (optsParsed.filter (·.eol == .newline)) [0x61, 0x2d, 0x0a] 6 == 0
#guard countCases (optsParsed.filter (·.eol == .zero)) [0x61, 0x2d, 0x00, 0x0a] 5 == 37450
#guard disagreements (optsParsed.filter (·.eol == .zero)) [0x61, 0x2d, 0x00, 0x0a] 5 == 0
#guard countCases optsWild [0x61, 0x2d, 0x0a] 5 == 32662
#guard disagreements optsWild [0x61, 0x2d, 0x0a] 5 == 0

end StreamLoop
end Tuc
