import Tuc.Model.Argv
import Tuc.Lemmas.Grammar
import Tuc.Lemmas.UnpackSpec
/-!
# The text of a bounds list: `boundsToText`, read back by `UserBoundsList::from_str`

The printer of the bounds language, next to its grammar (`Tuc.Spec.Grammar`, `Tuc.Lemmas.Grammar`).
`Tuc.Props.MainLevel2` §4 uses it for the program-level forms of C09 and C15 in which the second
command line is COMPUTED from the first.  Numbers are printed in decimal (`natToText`, structural
recursion with fuel so that `decide` evaluates it), a bound as `N` or `L:R`, a list as its bounds
joined by `,`.  Only lists made of bounds without fallbacks are printed (`PrintableList`; decidable
form `printableListB`): format text and fallbacks would need the inverse of `utf8` and of the
filler un-escaping.  That the text is read back is shown against the grammar (`specIndex`,
`specRange`, `specBound`, `specParse`), which `from_str` implements (`parse_eq_spec`):
`specParse_boundsToText`, and from it `boundsListOfString_boundsToText`.
-/
namespace Tuc
open Tuc.Spec

def digitChar (d : Nat) : Char := Char.ofNat (48 + d)

def natToTextFuel : Nat → Nat → List Char
  | 0, _ => ['0']
  | fuel + 1, n => if n < 10 then [digitChar n] else natToTextFuel fuel (n / 10) ++ [digitChar (n % 10)]

/-- decimal digits of `n` -/
def natToText (n : Nat) : List Char := natToTextFuel n n

theorem digitChar_value : ∀ d, d < 10 → (digitChar d).toNat - 48 = d := by decide +kernel

def digitChars : List Char := ['0', '1', '2', '3', '4', '5', '6', '7', '8', '9']

abbrev IsDigit (c : Char) : Prop := c ∈ digitChars

theorem digitChars_facts : ∀ c ∈ digitChars, isAsciiDigit c = true ∧ c ≠ '-' ∧ c ≠ '+' := by decide +kernel

theorem isDigit_digitChar : ∀ d, d < 10 → IsDigit (digitChar d) := by decide +kernel

/-- one induction for the three facts the grammar asks of an unsigned number (`specNat`) -/
theorem natToTextFuel_spec : ∀ fuel n, n ≤ fuel →
    natToTextFuel fuel n ≠ [] ∧ (∀ c ∈ natToTextFuel fuel n, IsDigit c) ∧
      decimalValue (natToTextFuel fuel n) = n
  | 0, n, h => by rw [Nat.le_zero.mp h]; exact ⟨List.cons_ne_nil _ _, by decide, rfl⟩
  | fuel + 1, n, h => by
    unfold natToTextFuel
    by_cases hn : n < 10
    · rw [if_pos hn]
      exact ⟨List.cons_ne_nil _ _, fun c hc => List.mem_singleton.mp hc ▸ isDigit_digitChar n hn,
        (Nat.zero_add _).trans (digitChar_value n hn)⟩
    · have hlt : n % 10 < 10 := Nat.mod_lt n (by decide)
      obtain ⟨_, hd, hv⟩ := natToTextFuel_spec fuel (n / 10) (by omega)
      rw [if_neg hn]
      refine ⟨List.append_ne_nil_of_right_ne_nil _ (List.cons_ne_nil _ _), fun c hc => ?_, ?_⟩
      · rcases List.mem_append.mp hc with hc | hc
        · exact hd c hc
        · exact List.mem_singleton.mp hc ▸ isDigit_digitChar _ hlt
      · rw [decimalValue, List.foldl_append]
        show 10 * decimalValue (natToTextFuel fuel (n / 10)) + ((digitChar (n % 10)).toNat - 48) = n
        rw [hv, digitChar_value _ hlt]
        exact Nat.div_add_mod n 10

theorem natToText_digits (n : Nat) : ∀ c ∈ natToText n, IsDigit c := (natToTextFuel_spec n n (Nat.le_refl n)).2.1
theorem natToText_ne_nil (n : Nat) : natToText n ≠ [] := (natToTextFuel_spec n n (Nat.le_refl n)).1

theorem specNat_natToText (n : Nat) : specNat (natToText n) = Option.some n := by
  unfold specNat
  rw [if_pos ⟨natToText_ne_nil n,
    List.all_eq_true.mpr fun c hc => (digitChars_facts c (natToText_digits n c hc)).1⟩]
  exact congrArg Option.some (natToTextFuel_spec n n (Nat.le_refl n)).2.2

/-- a written index, as `str::parse::<i32>` reads it back -/
def intToText (v : Int) : List Char := if v < 0 then '-' :: natToText (-v).toNat else natToText v.toNat

theorem specInt_intToText (v : Int) (h1 : i32Min ≤ v) (h2 : v ≤ i32Max) :
    specInt (intToText v) = Option.some v := by
  have h32 : inI32 v = true := by
    unfold inI32
    rw [decide_eq_true (show (-2147483648 : Int) ≤ v from h1), decide_eq_true (show v ≤ 2147483647 from h2)]
    rfl
  unfold intToText specInt
  by_cases hv : v < 0
  · have hk : (((-v).toNat : Nat) : Int) = -v := Int.toNat_of_nonneg (Int.neg_nonneg_of_nonpos (Int.le_of_lt hv))
    simp only [if_pos hv, if_true, specNat_natToText, Option.map_some, hk, Int.neg_neg, h32]
  · have hk : ((v.toNat : Nat) : Int) = v := Int.toNat_of_nonneg (Int.not_lt.mp hv)
    obtain ⟨c, t, hs⟩ := List.exists_cons_of_ne_nil (natToText_ne_nil v.toNat)
    have hc := digitChars_facts c (natToText_digits _ c (hs ▸ List.mem_cons_self ..))
    rw [if_neg hv, hs]
    simp only [if_neg hc.2.1, if_neg hc.2.2]
    rw [← hs, specNat_natToText]
    simp only [Option.map_some, hk, h32, if_true]

/-- `Side::from_str` reads it back -/
def sideToText : Side → List Char
  | .cont => []
  | .some v => intToText v

theorem intToText_ne_nil (v : Int) : intToText v ≠ [] := by
  unfold intToText
  split
  · simp
  · exact natToText_ne_nil _

def sideChars : List Char := '-' :: digitChars

theorem intToText_chars (v : Int) : ∀ c ∈ intToText v, c ∈ sideChars := by
  intro c hc
  unfold intToText at hc
  split at hc
  · simp only [List.mem_cons] at hc
    rcases hc with rfl | hc
    · exact List.mem_cons_self ..
    · exact List.mem_cons_of_mem _ (natToText_digits _ c hc)
  · exact List.mem_cons_of_mem _ (natToText_digits _ c hc)

theorem specIndex_intToText (v : Int) (h1 : i32Min ≤ v) (h2 : v ≤ i32Max) (h0 : v ≠ 0) :
    specIndex (intToText v) = Option.some v := by
  unfold specIndex
  rw [specInt_intToText v h1 h2]
  exact if_neg h0

theorem sideToText_chars (s : Side) : ∀ c ∈ sideToText s, c ∈ sideChars := by
  cases s with
  | cont => intro c hc; cases hc
  | some v => exact intToText_chars v

/-- one bound, as `UserBounds::from_str` reads it back: `N` for `N:N`, else `L:R` (an open side is
    empty).  Fallbacks (`=…`) are not printed. -/
def boundToText (b : UserBounds) : List Char :=
  if b.l = b.r then sideToText b.l else sideToText b.l ++ ':' :: sideToText b.r

/-- what `UserBounds::from_str` accepts, without a fallback -/
structure UserBounds.Printable (b : UserBounds) : Prop where
  l32 : b.l.InI32
  r32 : b.r.InI32
  l0 : b.l ≠ .some 0
  r0 : b.r ≠ .some 0
  some : ¬ (b.l = .cont ∧ b.r = .cont)
  ord : ∀ x y, b.l = .some x → b.r = .some y → ¬ (y < x ∧ sameSign y x = true)
  noFallback : b.fallback = none

theorem UserBounds.Printable.wf {b : UserBounds} (h : b.Printable) : WfSides b.l b.r where
  left := by cases hl : b.l with | cont => trivial | some v => exact fun e => h.l0 (hl.trans (e ▸ rfl))
  right := by cases hr : b.r with | cont => trivial | some v => exact fun e => h.r0 (hr.trans (e ▸ rfl))
  leftI32 := h.l32
  rightI32 := h.r32
  ordered := fun x y hx hy hs => Int.not_lt.mp fun hlt => h.ord x y hx hy ⟨hlt, (sameSign_eq y x).trans hs⟩
  written := h.some

theorem colon_not_mem_sideToText (a : Side) : ':' ∉ sideToText a := by
  cases a with
  | cont => exact List.not_mem_nil
  | some v => exact fun hm => absurd (intToText_chars v _ hm) (by decide)

theorem specSide_sideToText (a : Side) (h32 : a.InI32) (h0 : a ≠ .some 0) :
    specSide (sideToText a) = Option.some a := by
  cases a with
  | cont => rfl
  | some v =>
    rw [specSide, sideToText, if_neg (intToText_ne_nil v),
      specIndex_intToText v h32.1 h32.2 fun e => h0 (e ▸ rfl)]
    rfl

/-- the converse of `specRange_wf`: `WfSides` is exactly what `from_str` returns.  A reading of `specRange_append` /
    `specRange_of_not_mem` (the grammar on a text with at most one colon) -/
theorem specRange_sides (l r : Side) (h : WfSides l r) :
    specRange (if l = r then sideToText l else sideToText l ++ ':' :: sideToText r) = Option.some (l, r) := by
  by_cases hlr : l = r
  · subst hlr
    cases l with
    | cont => exact absurd ⟨rfl, rfl⟩ h.written
    | some v =>
      rw [if_pos rfl, specRange_of_not_mem _ (colon_not_mem_sideToText _), sideToText,
        specIndex_intToText v h.leftI32.1 h.leftI32.2 h.left]
      rfl
  · have he : ¬ (sideToText l = [] ∧ sideToText r = []) := fun ⟨h1, h2⟩ => h.written
      ⟨by cases l with | cont => rfl | some v => exact absurd h1 (intToText_ne_nil v),
       by cases r with | cont => rfl | some v => exact absurd h2 (intToText_ne_nil v)⟩
    rw [if_neg hlr, specRange_append _ _ (colon_not_mem_sideToText l) (colon_not_mem_sideToText r), if_neg he,
      specSide_sideToText l h.leftI32 h.left.ne_some_zero, specSide_sideToText r h.rightI32 h.right.ne_some_zero,
      Option.bind_some, Option.bind_some, h.not_decreasing]
    rfl

theorem cutAtFirst_of_not_mem (sep : Char) (s : List Char) (h : sep ∉ s) : cutAtFirst sep s = (s, none) := by
  have hp : ∀ x ∈ s, (x != sep) = true := fun x hx => bne_iff_ne.mpr fun e => h (e ▸ hx)
  have h1 : s.takeWhile (· != sep) = s := by simpa using List.takeWhile_append_of_pos (l₂ := []) hp
  have h2 : s.dropWhile (· != sep) = [] := by simpa using List.dropWhile_append_of_pos (l₂ := []) hp
  unfold cutAtFirst
  rw [h1, h2]

theorem boundToText_chars (b : UserBounds) : ∀ c ∈ boundToText b, c ∈ ':' :: sideChars := by
  intro c hc
  unfold boundToText at hc
  split at hc
  · exact List.mem_cons_of_mem _ (sideToText_chars _ c hc)
  · simp only [List.mem_append, List.mem_cons] at hc
    rcases hc with hc | rfl | hc
    · exact List.mem_cons_of_mem _ (sideToText_chars _ c hc)
    · exact List.mem_cons_self ..
    · exact List.mem_cons_of_mem _ (sideToText_chars _ c hc)

theorem specBound_boundToText (b : UserBounds) (h : b.Printable) :
    specBound (boundToText b) = Option.some { b with isLast := false } := by
  have heq : '=' ∉ boundToText b := fun hm => absurd (boundToText_chars b _ hm) (by decide)
  unfold specBound
  rw [cutAtFirst_of_not_mem '=' _ heq]
  show (match specRange (boundToText b) with | Option.some (l, r) => _ | none => _) = _
  rw [boundToText, specRange_sides b.l b.r h.wf, h.noFallback]
  rfl

/-- `specBound` reads the text back (`specBound_boundToText`) and accepts no empty bound -/
theorem boundToText_ne_nil (b : UserBounds) (h : b.Printable) : boundToText b ≠ [] := fun he => by
  have := specBound_boundToText b h
  rw [he] at this
  cases this

theorem allBounds_boundToText : ∀ bs : List UserBounds, (∀ b ∈ bs, b.Printable) →
    allBounds (bs.map boundToText) = Option.some (bs.map fun b => { b with isLast := false })
  | [], _ => rfl
  | b :: t, h => by
    rw [List.map_cons, allBounds, specBound_boundToText b (h b (List.mem_cons_self ..)),
      allBounds_boundToText t fun b' hb' => h b' (List.mem_cons_of_mem _ hb')]
    rfl

/-- `str::join(",")` -/
def joinComma : List (List Char) → List Char
  | [] => []
  | [p] => p
  | p :: q :: t => p ++ ',' :: joinComma (q :: t)

theorem joinComma_chars {S : List Char} : ∀ ps : List (List Char), (∀ p ∈ ps, ∀ c ∈ p, c ∈ S) →
    ∀ c ∈ joinComma ps, c ∈ ',' :: S
  | [], _, c, hc => nomatch hc
  | [p], h, c, hc => List.mem_cons_of_mem _ (h p (List.mem_cons_self ..) c hc)
  | p :: q :: t, h, c, hc => by
    simp only [joinComma, List.mem_append, List.mem_cons] at hc
    rcases hc with hc | rfl | hc
    · exact List.mem_cons_of_mem _ (h p (List.mem_cons_self ..) c hc)
    · exact List.mem_cons_self ..
    · exact joinComma_chars (q :: t) (fun p' hp' => h p' (List.mem_cons_of_mem _ hp')) c hc

theorem joinComma_ne_nil : ∀ ps : List (List Char), ps ≠ [] → (∀ p ∈ ps, p ≠ []) → joinComma ps ≠ []
  | [], h, _ => absurd rfl h
  | [p], _, hp => hp p (List.mem_cons_self ..)
  | _ :: _ :: _, _, _ => List.append_ne_nil_of_right_ne_nil _ (List.cons_ne_nil _ _)

theorem pieces_joinComma : ∀ ps : List (List Char), ps ≠ [] → (∀ p ∈ ps, ',' ∉ p) →
    pieces ',' (joinComma ps) = ps
  | [], h, _ => absurd rfl h
  | [p], _, hp => piecesFrom_of_not_mem ',' [] p (hp p (List.mem_cons_self ..))
  | p :: q :: t, _, hp => by
    rw [joinComma, pieces, piecesFrom_append ',' [] p _ (hp p (List.mem_cons_self ..))]
    exact congrArg (p :: ·)
      (pieces_joinComma (q :: t) (List.cons_ne_nil _ _) fun p' hp' => hp p' (List.mem_cons_of_mem _ hp'))

def textChars : List Char := ',' :: ':' :: sideChars

theorem textChars_noWhitespace : ∀ c ∈ textChars, isWhitespace c = false := by decide +kernel

/-- **the text of a bounds list** made of bounds only, without fallbacks: its bounds joined by `,` -/
def boundsToText (l : List BoF) : Arg := joinComma ((boundsOnly l).map boundToText)

/-- the lists `boundsToText` is for: at least one element, every element a bound that
    `UserBounds::from_str` accepts and that has no fallback -/
def PrintableList (l : List BoF) : Prop := l ≠ [] ∧ ∀ x ∈ l, ∃ b, x = .bound b ∧ b.Printable

theorem eq_map_boundsOnly : ∀ l : List BoF, (∀ x ∈ l, ∃ b, x = BoF.bound b ∧ b.Printable) →
    l = (boundsOnly l).map .bound
  | [], _ => rfl
  | x :: t, h => by
    obtain ⟨b, rfl, _⟩ := h x (List.mem_cons_self ..)
    simp only [boundsOnly, List.map_cons]
    rw [← eq_map_boundsOnly t (fun y hy => h y (List.mem_cons_of_mem _ hy))]

theorem PrintableList.eq_map {l : List BoF} (h : PrintableList l) : l = (boundsOnly l).map .bound :=
  eq_map_boundsOnly l h.2

theorem PrintableList.bounds {l : List BoF} (h : PrintableList l) : ∀ b ∈ boundsOnly l, b.Printable := by
  intro b hb
  obtain ⟨b', hb', hp⟩ := h.2 (.bound b) (mem_boundsOnly_iff.mp hb)
  cases hb'; exact hp

theorem PrintableList.boundsOnly_ne_nil {l : List BoF} (h : PrintableList l) : boundsOnly l ≠ [] := by
  intro he
  have := h.eq_map
  rw [he] at this
  exact h.1 this

theorem flagLast_erase : ∀ bs : List UserBounds, LastMarked (bs.map .bound) →
    flagLast ((bs.map fun b => { b with isLast := false }).map .bound) = bs.map .bound
  | [], _ => rfl
  | [b], h => by
    have hb : b.isLast = true := h.1.2 rfl
    cases b; cases hb; rfl
  | b :: c :: t, h => by
    have hb : b.isLast = false := by
      cases hbb : b.isLast with
      | false => rfl
      | true => exact absurd (h.1.1 hbb) (by simp [countBounds])
    have ih := flagLast_erase (c :: t) h.2
    simp only [List.map_cons] at ih ⊢
    rw [flagLast]
    simp only [hasBound, if_true, ih]
    cases b; cases hb; rfl

theorem specParse_boundsToText (l : List BoF) (hp : PrintableList l) (hL : LastMarked l) :
    specParse (boundsToText l) = Option.some l := by
  have hbs := hp.bounds
  have hne := hp.boundsOnly_ne_nil
  have hpieces : ∀ p ∈ (boundsOnly l).map boundToText, ∀ c ∈ p, c ∈ ':' :: sideChars := by
    intro p hp' c hc
    obtain ⟨b, _, rfl⟩ := List.mem_map.mp hp'
    exact boundToText_chars b c hc
  have hchars : ∀ c ∈ boundsToText l, c ∈ textChars := joinComma_chars _ hpieces
  have hcomma : ∀ p ∈ (boundsOnly l).map boundToText, ',' ∉ p := fun p hp' hm =>
    absurd (hpieces p hp' _ hm) (by decide)
  have hws : (boundsToText l).all isWs = false := by
    cases ht : boundsToText l with
    | nil =>
      refine absurd ht (joinComma_ne_nil _ (by simpa using hne) ?_)
      intro p hp'
      obtain ⟨b, hb, rfl⟩ := List.mem_map.mp hp'
      exact boundToText_ne_nil b (hbs b hb)
    | cons c cs =>
      rw [List.all_cons, ← isWhitespace_eq, textChars_noWhitespace c (hchars c (ht ▸ List.mem_cons_self ..))]
      rfl
  have hbr : hasBrace (boundsToText l) = false := by
    unfold hasBrace
    rw [Bool.or_eq_false_iff]
    exact ⟨Bool.eq_false_iff.mpr fun h => absurd (hchars _ (List.contains_iff_mem.mp h)) (by decide),
      Bool.eq_false_iff.mpr fun h => absurd (hchars _ (List.contains_iff_mem.mp h)) (by decide)⟩
  have hitems : specCommaList (boundsToText l) =
      Option.some (((boundsOnly l).map fun b => { b with isLast := false }).map .bound) := by
    unfold specCommaList boundsToText
    rw [pieces_joinComma _ (by simpa using hne) hcomma, allBounds_boundToText _ hbs]
    rfl
  have hbound : hasBound (((boundsOnly l).map fun b => { b with isLast := false }).map .bound) = true := by
    cases hb : boundsOnly l with
    | nil => exact absurd hb hne
    | cons _ _ => rfl
  unfold specParse specItems
  rw [hws, hbr, hitems]
  simp only [Bool.false_eq_true, if_false]
  rw [if_pos hbound, flagLast_erase _ (hp.eq_map ▸ hL), ← hp.eq_map]

/-- **`UserBoundsList::from_str` reads the printed list back**: for a printable list with `is_last`
    on its last bound (what the parser produces, and what mirroring / `-m` rewriting keep); through
    the grammar, which `from_str` implements (`parse_eq_spec`, C18) -/
theorem boundsListOfString_boundsToText (l : List BoF) (hp : PrintableList l) (hL : LastMarked l) :
    ∃ li, boundsListOfString (boundsToText l) = .ok ⟨l, li⟩ := by
  have h := parse_eq_spec (boundsToText l)
  rw [specParse_boundsToText l hp hL] at h
  cases hb : boundsListOfString (boundsToText l) with
  | ok u =>
    rw [hb] at h
    cases Option.some.inj h
    exact ⟨u.lastInteresting, rfl⟩
  | fail => rw [hb] at h; cases h
  | panic => rw [hb] at h; cases h

def sideOkB : Side → Bool
  | .cont => true
  | .some v => decide (i32Min ≤ v) && decide (v ≤ i32Max) && decide (v ≠ 0)

def UserBounds.printableB (b : UserBounds) : Bool :=
  sideOkB b.l && sideOkB b.r && !(decide (b.l = .cont) && decide (b.r = .cont)) && b.fallback.isNone &&
    (match b.l, b.r with
     | .some x, .some y => !(decide (y < x) && sameSign y x)
     | _, _ => true)

theorem sideOkB_spec {s : Side} (h : sideOkB s = true) : s.InI32 ∧ s ≠ .some 0 := by
  cases s with
  | cont => exact ⟨trivial, by simp⟩
  | some v =>
    simp only [sideOkB, Bool.and_eq_true, decide_eq_true_eq] at h
    exact ⟨⟨h.1.1, h.1.2⟩, by intro h0; cases h0; exact h.2 rfl⟩

theorem UserBounds.printable_of_B {b : UserBounds} (h : b.printableB = true) : b.Printable := by
  simp only [UserBounds.printableB, Bool.and_eq_true] at h
  obtain ⟨⟨⟨⟨hl, hr⟩, hs⟩, hf⟩, ho⟩ := h
  refine ⟨(sideOkB_spec hl).1, (sideOkB_spec hr).1, (sideOkB_spec hl).2, (sideOkB_spec hr).2, ?_, ?_, ?_⟩
  · intro hc
    simp [hc.1, hc.2] at hs
  · intro x y hx hy
    rw [hx, hy] at ho
    simp only [Bool.not_eq_true', Bool.and_eq_false_iff, decide_eq_false_iff_not] at ho
    rintro ⟨h1, h2⟩
    rcases ho with ho | ho
    · exact ho h1
    · rw [h2] at ho; cases ho
  · cases hfb : b.fallback with
    | none => rfl
    | some _ => rw [hfb] at hf; cases hf

def printableListB (l : List BoF) : Bool :=
  !l.isEmpty && l.all fun x => match x with
    | .bound b => b.printableB
    | .filler _ => false

theorem printableList_of_B {l : List BoF} (h : printableListB l = true) : PrintableList l := by
  simp only [printableListB, Bool.and_eq_true, Bool.not_eq_true', List.all_eq_true] at h
  refine ⟨by intro he; rw [he] at h; simp at h, ?_⟩
  intro x hx
  have := h.2 x hx
  cases x with
  | bound b => exact ⟨b, rfl, UserBounds.printable_of_B this⟩
  | filler f => cases this

theorem printableList_noFiller {l : List BoF} (h : PrintableList l) : l.any isFiller = false := by
  rw [List.any_eq_false]
  intro x hx
  obtain ⟨b, rfl, _⟩ := h.2 x hx
  simp [isFiller]

example : boundsToText [.bound { l := .some 2, r := .some 2 }, .bound { l := .some (-3), r := .cont },
    .bound { l := .cont, r := .some 12, isLast := true }] = ['2', ',', '-', '3', ':', ',', ':', '1', '2'] := by
  decide

end Tuc
