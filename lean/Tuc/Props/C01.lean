import Tuc.Model.CutStr
import Tuc.Spec.Record
import Tuc.Lemmas.Run
import Tuc.Lemmas.Bounds
import Tuc.Lemmas.Split
import Tuc.Lemmas.CutStrSpec
import Tuc.Lemmas.SpecLaws
/-!
# C01 — field mode emits exactly the requested fields, in request order

`readAndCutStr opt input = specRun (cfgOf opt) input` (DESIGN.md §C01) for the general engine in
field mode: every input, every literal delimiter `d ≠ []` (self-overlapping ones included), every
subset of `-g -p -t -s -j -r R -m`, own and generic fallbacks, format fillers, every bounds list
with no index 0 and `is_last` on its last bound — `general_engine_eq_spec`; and
`general_engine_eq_spec_of_parsed` for every bounds argument the parser accepts.  The proofs are in
`Tuc.Lemmas.Split` and `Tuc.Lemmas.CutStrSpec`: the theorem is `fields_run_eq_spec` there (one record:
`fields_record_eq_spec`), and every record and run statement of this file is that theorem with a
hypothesis more that no proof uses (`opt.json = false`; `boundsType = .fields` where the name has no
`_gen`) — the header of `Tuc.Lemmas.CutStrSpec` has the list of names.  The two one-bound statements
`plain_bound_output` and `greedy_bound_output` need it (their right-hand side is the plain text).
Not covered: regex delimiters (C16), `-c`/`-b`/`-l` (their own
engines).
-/
namespace Tuc
open Tuc.Spec

/-- with a literal delimiter, a record that is empty (possibly after `-t`) yields the EOL alone —
    no filler, no fallback — and nothing at all under `-s` -/
theorem empty_record (opt : Opt) (f₀ : List Range) (b₀ eol : Bytes) (line : Bytes)
    (hre : opt.regexBag = none)
    (h : (match opt.trim with
          | some k => trimLiteral line k opt.delimiter
          | none => line) = []) :
    (cutStr line opt f₀ b₀ eol).1 = (if opt.onlyDelimited then Run.empty else Run.ok eol) := by
  show (cutStrCore line opt eol).1 = _
  rw [cutStrCore_eq, trimOf_literal hre, show trimmed opt line = [] from h]
  simp only [hre, Option.isSome_none, Bool.false_and, Bool.false_eq_true, if_false]
  unfold afterTrim
  cases opt.onlyDelimited <;> rfl

/-- the specification says the same (field mode) -/
theorem spec_empty_record (cfg : Cfg) (line : Bytes) (hc : cfg.chars = false)
    (h : (match cfg.trim with
          | some k => trimLiteral line k cfg.delimiter
          | none => line) = []) :
    specRecord cfg line = (if cfg.onlyDelimited then Run.empty else Run.ok [cfg.eol]) := by
  have hl : specLine cfg line = [] := by unfold specLine; rw [hc]; exact h
  rw [specRecord_eq, hl]
  rfl

/-- `-s` drops a record with a single field (no delimiter after `-t`/`-p`) and prints nothing -/
theorem only_delimited_drops (line : Bytes) (r : Range) (opt : Opt) (c : Bool) (eol : Bytes)
    (hs : opt.onlyDelimited = true) :
    emitRecord line [r] opt c eol = Run.empty := by
  simp [emitRecord, hs]

/-- format text and bounds come out in the order written: `outputLoop` over `xs ++ ys` is its
    run over `xs` followed by its run over `ys` -/
theorem outputLoop_append (line : Bytes) (fields : List Range) (n : Nat) (opt : Opt) (c : Bool)
    (xs ys : List BoF) :
    outputLoop line fields n opt c (xs ++ ys) =
      (outputLoop line fields n opt c xs).seq (outputLoop line fields n opt c ys) := by
  simp only [outputLoop_eq_seqMap, Run.seqMap_append]

/-- literal format text is reproduced verbatim, whatever the record -/
theorem outputLoop_filler (line : Bytes) (fields : List Range) (n : Nat) (opt : Opt) (c : Bool)
    (f : Bytes) (t : List BoF) :
    outputLoop line fields n opt c (.filler f :: t) = Run.pre f (outputLoop line fields n opt c t) := by
  simp [outputLoop, outputBof, Run.seq_ok]

/-- the test `opt.join && !b.isLast` of `outputBof` written as a conjunction, the form in which
    `plain_bound_output` and `greedy_bound_output` state the joiner (a Bool/Prop identity only: it
    says nothing about where the joiner is written) -/
theorem joiner_rule (opt : Opt) (b : UserBounds) :
    (if opt.join && !b.isLast then Run.ok (opt.replaceDelimiter.getD opt.delimiter) else Run.empty) =
      if opt.join = true ∧ b.isLast = false then Run.ok (opt.replaceDelimiter.getD opt.delimiter)
      else Run.empty := by
  cases opt.join <;> cases b.isLast <;> simp

/-- **The plain splitter, one bound.**  For a non-empty line split at a non-empty literal
    delimiter (no `-g`, `-p`, `-r`, `--json`), a bound that resolves to the fields `s … e-1`
    makes the engine write exactly those fields of the specification with one delimiter between
    neighbours, then the joiner (under `-j`, unless the bound is the last) — it never panics.
    `hz` (the parser never produces the index 0) is needed: for `0:0` `try_into_range` answers
    `(0, 0)` and the engine prints field 1 (see the second `example` below). -/
theorem plain_bound_output (line d : Bytes) (opt : Opt) (b : UserBounds) (s e : Nat)
    (hline : line ≠ []) (hd : d ≠ [])
    (hjson : opt.json = false) (hrep : opt.replaceDelimiter = none)
    (hty : opt.boundsType = .fields) (hz : b.l ≠ .some 0)
    (hb : b.tryIntoRange (fillWithFieldsLocations [] line d).length = some (s, e)) :
    outputBof line (fillWithFieldsLocations [] line d) (fillWithFieldsLocations [] line d).length
        opt false (.bound b) =
      (Run.ok (joinWith d ((splitFields d line).extract s e))).seq
        (if opt.join = true ∧ b.isLast = false then Run.ok opt.delimiter else Run.empty) := by
  have hse := (tryIntoRange_bounds b _ s e hz hb).1
  rw [(plain_fields_gsep d line hd hline).bound_output opt b s e hjson hrep hty hz hb,
    pieceText_tokenize_plain d line (s + 1) e (by omega) (by omega), Nat.add_sub_cancel]

/-- **The greedy splitter (`-g`), one bound.**  Same statement in the specification's words:
    the engine writes `pieceText` of the greedy tokenisation, the separators being the runs of
    the delimiter actually found in the record. -/
theorem greedy_bound_output (line d : Bytes) (opt : Opt) (b : UserBounds) (s e : Nat)
    (hline : line ≠ []) (hd : d ≠ [])
    (hjson : opt.json = false) (hrep : opt.replaceDelimiter = none)
    (hty : opt.boundsType = .fields) (hz : b.l ≠ .some 0)
    (hb : b.tryIntoRange (fillWithFieldsLocationsGreedy [] line d).length = some (s, e)) :
    outputBof line (fillWithFieldsLocationsGreedy [] line d)
        (fillWithFieldsLocationsGreedy [] line d).length opt false (.bound b) =
      (Run.ok (pieceText (repeatBytes d) (tokenize d true false line) (s + 1) e)).seq
        (if opt.join = true ∧ b.isLast = false then Run.ok opt.delimiter else Run.empty) :=
  (greedy_fields_tiling d line hd hline).bound_output opt b s e hjson hrep hty hz hb

/-- a self-overlapping delimiter: `a---b--c` split at `--` is `a`, `-b`, `c`; the bound `1:2`
    prints `a---b` (bytes: `a` = 97, `-` = 45, `b` = 98, `c` = 99) -/
example :
    let line : Bytes := [97, 45, 45, 45, 98, 45, 45, 99]
    let d : Bytes := [45, 45]
    let fields := fillWithFieldsLocations [] line d
    fields = [⟨0, 1⟩, ⟨3, 5⟩, ⟨7, 8⟩] ∧
    splitFields d line = [[97], [45, 98], [99]] ∧
    outputBof line fields fields.length { delimiter := d, bounds := ⟨[], .cont⟩ } false
        (.bound { l := .some 1, r := .some 2 }) = Run.ok [97, 45, 45, 45, 98] := by
  decide

/-- why `plain_bound_output` asks for `b.l ≠ .some 0`: the (unparsable) bound `0:0` resolves to
    the empty interval `(0, 0)` and yet the engine prints the first field -/
example :
    let line : Bytes := [97, 45, 45, 45, 98, 45, 45, 99]
    let d : Bytes := [45, 45]
    let fields := fillWithFieldsLocations [] line d
    let b : UserBounds := { l := .some 0, r := .some 0 }
    b.tryIntoRange fields.length = some (0, 0) ∧
    outputBof line fields fields.length { delimiter := d, bounds := ⟨[], .cont⟩ } false
        (.bound b) = Run.ok [97] := by
  decide

/-- **C01, one record** (scratch buffers of any content): for a non-empty literal delimiter, in
    field mode and without `--json`, the engine's run on a record is the specification of the
    record.  `AllNonzero`: no written index is 0 (the parser rejects it); `LastMarked`: `is_last`
    is set on exactly the last bound (`fromVec`). -/
theorem general_record_eq_spec (opt : Opt) (line : Bytes) (f₀ : List Range) (b₀ : Bytes)
    (hd : opt.delimiter ≠ []) (hre : opt.regexBag = none) (hty : opt.boundsType = .fields)
    (hjson : opt.json = false) (hz : AllNonzero opt.bounds.list) (hL : LastMarked opt.bounds.list) :
    (cutStr line opt f₀ b₀ [opt.eol.byte]).1 = specRecord (cfgOf opt) line :=
  cutStr_eq_spec opt line hd hre hty hjson hz hL

/-- **C01.**  The general field engine is the specification, on every input: non-empty literal
    delimiter, field mode, no `--json`, a bounds list with no index 0 (`AllNonzero`) and `is_last`
    on exactly its last bound (`LastMarked`). -/
theorem general_engine_eq_spec (opt : Opt) (input : Bytes)
    (hd : opt.delimiter ≠ []) (hre : opt.regexBag = none) (hty : opt.boundsType = .fields)
    (hjson : opt.json = false) (hz : AllNonzero opt.bounds.list) (hL : LastMarked opt.bounds.list) :
    readAndCutStr opt input = specRun (cfgOf opt) input :=
  readAndCutStr_eq_specRun opt input hd hre hty hjson hz hL

/-- the same when `boundsType = .lines` (`cut_lines` hands its single record to the same engine,
    which treats `.lines` exactly like `.fields`) -/
theorem general_engine_eq_spec_gen (opt : Opt) (input : Bytes)
    (hd : opt.delimiter ≠ []) (hre : opt.regexBag = none)
    (hty : opt.boundsType = .fields ∨ opt.boundsType = .lines)
    (hjson : opt.json = false) (hz : AllNonzero opt.bounds.list) (hL : LastMarked opt.bounds.list) :
    readAndCutStr opt input = specRun (cfgOf opt) input :=
  fields_run_eq_spec opt input hd hre hty hz hL

theorem general_record_eq_spec_gen (opt : Opt) (line : Bytes) (f₀ : List Range) (b₀ : Bytes)
    (hd : opt.delimiter ≠ []) (hre : opt.regexBag = none)
    (hty : opt.boundsType = .fields ∨ opt.boundsType = .lines)
    (hjson : opt.json = false) (hz : AllNonzero opt.bounds.list) (hL : LastMarked opt.bounds.list) :
    (cutStr line opt f₀ b₀ [opt.eol.byte]).1 = specRecord (cfgOf opt) line :=
  fields_record_eq_spec opt line hd hre hty hz hL

/-- **C01, for every `--fields` argument the parser accepts.** -/
theorem general_engine_eq_spec_of_parsed (opt : Opt) (input : Bytes) (fieldsArg : List Char)
    (hparse : boundsListOfString fieldsArg = .ok opt.bounds)
    (hd : opt.delimiter ≠ []) (hre : opt.regexBag = none) (hty : opt.boundsType = .fields)
    (hjson : opt.json = false) :
    readAndCutStr opt input = specRun (cfgOf opt) input :=
  have h := boundsListOfString_good fieldsArg opt.bounds hparse
  readAndCutStr_eq_specRun opt input hd hre hty hjson h.1 h.2

/-- and therefore it ends with exit status 0 or 1, whatever the input: no panic, no hang -/
theorem general_engine_clean (opt : Opt) (input : Bytes)
    (hd : opt.delimiter ≠ []) (hre : opt.regexBag = none) (hty : opt.boundsType = .fields)
    (hjson : opt.json = false) (hz : AllNonzero opt.bounds.list) (hL : LastMarked opt.bounds.list) :
    (readAndCutStr opt input).status = .ok ∨ (readAndCutStr opt input).status = .fail := by
  rw [readAndCutStr_eq_specRun opt input hd hre hty hjson hz hL]
  exact specRunRecords_safe _ _

/-- the special case of no option at all (default `Opt`, EOL `\n`) -/
theorem plain_record_eq_spec (d line : Bytes) (bounds : UserBoundsList) (hd : d ≠ [])
    (hz : AllNonzero bounds.list) (hL : LastMarked bounds.list) :
    (cutStrCore line { delimiter := d, bounds := bounds } [10]).1 =
      specRecord (cfgOf { delimiter := d, bounds := bounds }) line :=
  cutStr_eq_spec { delimiter := d, bounds := bounds } line hd rfl rfl rfl hz hL

/-- `-g -p -r X -j -t b` at once, a self-overlapping delimiter, a format filler and a negative
    index: `--a------b--c--` cut at `--` with `-f '{2}:{-1}'` -/
def demoOpt : Opt :=
  { delimiter := [45, 45], greedyDelimiter := true, compressDelimiter := true,
    replaceDelimiter := some [88], join := true, trim := some .both,
    bounds := ⟨[.bound { l := .some 2, r := .some 2 }, .filler [58],
                .bound { l := .some (-1), r := .some (-1), isLast := true }], .cont⟩ }

def demoLine : Bytes := [45, 45, 97, 45, 45, 45, 45, 45, 45, 98, 45, 45, 99, 45, 45]

/-- the engine and the specification, both executed: `bX:c` -/
example :
    (cutStrCore demoLine demoOpt [10]).1 = Run.ok [98, 88, 58, 99, 10] ∧
    specRecord (cfgOf demoOpt) demoLine = Run.ok [98, 88, 58, 99, 10] := by
  decide

end Tuc
