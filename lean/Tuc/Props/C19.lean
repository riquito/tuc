import Tuc.Model.Args
/-!
# C19 — contradictory or unsupported option sets are rejected up front, others accepted

`conflict` is the statement of the property, clause by clause, as a predicate on the option set;
`decision` is the model of `parse_args` + `main` in the order the code tests things.  They are
proved to agree on every one of the (finite but large) space of option sets — by reading the cascade
of `decision` as a proposition (`ite_reject_iff`, `ite_eq_iff`: which tests lead to which answer), not
by enumeration.  `upFrontReject` names the tests that sit inside `parse_args`; `Tuc.Props.C19Argv` proves
that on a canonical command line whose values parse (`Sensible`) `parse_args` rejects exactly then
(`parseArgv_canon_reject_iff`).
-/
namespace Tuc

/-- the property's list of contradictory / unsupported combinations -/
def conflict (f : Flags) : Bool :=
  -- --join with --no-join
  (f.j && f.noJoin) ||
  -- --no-join with --json, -r or -c
  (f.noJoin && (f.json || f.r ≠ .absent || f.mode = .c)) ||
  -- -r with --json
  (f.r ≠ .absent && f.json) ||
  -- --json with -b, -l or format text
  (f.json && (f.mode = .b || f.mode = .l || f.fmt)) ||
  -- -M 0
  f.mem = .zero ||
  -- -M together with a multi-byte delimiter or replacement, bounds that are not strictly ascending,
  -- -g, -p, -m, -t, -s, -e, --json, -c, -b or -l
  (f.mem = .pos && (f.d = .other || f.r = .other || !f.fwd || f.g || f.p || f.m || f.t || f.s || f.e
      || f.json || f.mode = .c || f.mode = .b || f.mode = .l)) ||
  -- an option the selected mode does not take
  (f.d ≠ .absent && !f.isFields) ||
  (f.e && f.mode = .c) ||
  -- unknown arguments
  f.extra

/-- "-e with -j or -p but with neither -r nor --json fails on the first record" -/
def failsFirst (f : Flags) : Bool :=
  f.e && f.isFields && (f.j || f.p) && f.r = .absent && !f.json

theorem Flags.mode_cases (f : Flags) : f.isFields = true ∨ f.mode = .c ∨ f.mode = .b ∨ f.mode = .l := by
  cases h : f.mode <;> simp [Flags.isFields, h]

/-- the rejections of `decision` that are decided inside `parse_args` (the `exit(1)`s of
    tuc.rs:119–217, and "unexpected arguments", l.265–269, for `f.extra`) -/
def upFrontReject (f : Flags) : Bool :=
  f.mem = .zero || (f.j && f.noJoin) || (f.json && f.noJoin) || (f.r ≠ .absent && f.noJoin) ||
  (f.r ≠ .absent && f.json) || (f.mode = .c && f.noJoin) || (f.json && !(f.mode = .c || f.isFields)) ||
  (f.json && f.fmt) || (f.d ≠ .absent && !f.isFields) || (f.e && f.mode = .c) || f.extra

/-! what an option set that passes `upFrontReject` / `streamOk` has, for the tests whose outcome is
read elsewhere; the position of a test in the definition is counted here and nowhere else -/

/-- the seventh test: `--json` only in field mode or with `-c` -/
theorem upFrontReject_json {f : Flags} (h : upFrontReject f = false) (hj : f.json = true) :
    f.mode = .c ∨ f.isFields = true := by
  simp only [upFrontReject, Bool.or_eq_false_iff, and_assoc] at h
  obtain ⟨-, -, -, -, -, -, h7, -⟩ := h
  simpa [hj, Decidable.or_iff_not_imp_left] using h7

/-- the tenth test: `-e` is not read with `-c` -/
theorem upFrontReject_e {f : Flags} (h : upFrontReject f = false) (he : f.e = true) : f.mode ≠ .c := by
  simp only [upFrontReject, Bool.or_eq_false_iff, and_assoc] at h
  obtain ⟨-, -, -, -, -, -, -, -, -, h10, -⟩ := h
  simpa [he] using h10

/-- the first and the ninth test of `StreamOpt::try_from` -/
theorem Flags.streamOk_fields {f : Flags} (h : f.streamOk = true) : f.isFields = true ∧ f.regex = false := by
  simp only [Flags.streamOk, Bool.and_eq_true, and_assoc] at h
  obtain ⟨h1, -, -, -, -, -, -, -, h9, -⟩ := h
  exact ⟨h1, by simpa using h9⟩

theorem ite_reject_iff (c : Prop) [Decidable c] (x : Decision) :
    (if c then .reject else x) = Decision.reject ↔ c ∨ x = .reject := by
  by_cases h : c <;> simp [h]

theorem ite_eq_iff {α : Type} (c : Prop) [Decidable c] (x y r : α) :
    (if c then x else y) = r ↔ c ∧ x = r ∨ ¬c ∧ y = r := by
  by_cases h : c <;> simp [h]

theorem decision_reject_iff (f : Flags) :
    decision f = .reject ↔ (upFrontReject f = true ∨ (f.mem = .pos ∧ f.streamOk = false)) := by
  -- the first eleven tests of `decision` are the disjuncts of `upFrontReject`, in the same order
  simp only [decision, upFrontReject, ite_reject_iff, Bool.or_eq_true, decide_eq_true_eq, or_assoc]
  simp only [ite_eq_iff, reduceCtorEq, and_false, or_false, and_true, false_or, Bool.not_eq_true]

/-- **The decision table.**  An option set is rejected up front iff it is one of the listed
    contradictory or unsupported combinations. -/
theorem reject_iff_conflict (f : Flags) : decision f = .reject ↔ conflict f = true := by
  rw [decision_reject_iff]
  -- both sides are disjunctions of tests on the option set; what `-M` refuses (`streamOk`) is what `conflict` lists for it
  grind [upFrontReject, conflict, Flags.streamOk, Flags.regex, Flags.isFields, f.mode_cases]

/-- every other combination is accepted — possibly to fail on the first record -/
theorem accepted_iff_no_conflict (f : Flags) :
    (decision f = .failFirst ∨ ∃ e j, decision f = .accept e j) ↔ conflict f = false := by
  rw [← Bool.not_eq_true, ← reject_iff_conflict]
  cases decision f <;> simp

/-- which accepted option sets fail on their first record (outside `-M`) -/
theorem failFirst_iff (f : Flags) (hm : f.mem = .absent) (hc : conflict f = false) :
    decision f = .failFirst ↔ failsFirst f = true := by
  have hr : ¬ decision f = .reject := by rw [reject_iff_conflict, hc]; nofun
  rw [decision_reject_iff] at hr
  -- `failFirst` is the answer of one leaf: the tests before it fail, its own test holds
  simp only [decision, ite_eq_iff, reduceCtorEq, and_false, or_false, and_true, false_or]
  grind [upFrontReject, failsFirst, Flags.fastOk, Flags.regex, Flags.replSome, Flags.join, Flags.isFields, f.mode_cases]

/-- `Flags.join` without the repetitions of `replSome` -/
theorem Flags.join_eq (f : Flags) :
    f.join = (f.j || f.json || f.r ≠ .absent || f.mode = .c || (f.mode = .l && !f.noJoin)) := by
  simp only [Flags.join, Flags.replSome]
  generalize f.j = a, f.json = b, decide (f.r ≠ .absent) = c, decide (f.mode = .c) = d,
    (decide (f.mode = .l) && !f.noJoin) = e
  revert a b c d e
  decide

/-- `-l`, `-c`, `-r` and `--json` imply join; `--no-join` cancels it only for `-l` -/
theorem implied_join (f : Flags) (e : Engine) (jn : Bool) (h : decision f = .accept e jn) :
    jn = (f.j || f.json || f.r ≠ .absent || f.mode = .c || (f.mode = .l && !f.noJoin)) := by
  rw [← f.join_eq]
  -- every accepting leaf of the cascade answers `f.join`
  simp only [decision, ite_eq_iff, reduceCtorEq, and_false, false_or, Decision.accept.injEq] at h
  grind

/-- the decision does not look at `-z` or `--fallback-oob` at all -/
theorem decision_ignores_z_fallback (f : Flags) (z' fb' : Bool) :
    decision { f with z := z', fallback := fb' } = decision f := rfl

/-- which engine serves an accepted option set without `-M`: bytes, lines, the fast path exactly
    on its documented domain, the general path otherwise -/
theorem engine_choice (f : Flags) (e : Engine) (jn : Bool) (hm : f.mem = .absent)
    (h : decision f = .accept e jn) :
    e = (if f.mode = .b then .bytes else if f.mode = .l then .lines
         else if f.d ≠ .other && !f.m && !f.g && !f.p && !f.json && f.r = .absent && !f.e && f.mode ≠ .c
         then .fast else .general) := by
  simp only [decision, ite_eq_iff, reduceCtorEq, and_false, false_or, Decision.accept.injEq] at h
  grind [Flags.fastOk, Flags.regex, Flags.replSome, Flags.isFields, f.mode_cases]

/-- non-vacuity: `-f … -d - -j` is accepted on the fast path with join; adding `--no-join` is a conflict -/
example : decision ⟨.f, .one, false, false, false, false, false, false, true, false, false, .absent, false,
    false, .absent, false, true, false⟩ = .accept .fast true := by decide

example : conflict ⟨.f, .one, false, false, false, false, false, false, true, true, false, .absent, false,
    false, .absent, false, true, false⟩ = true := by decide

end Tuc
